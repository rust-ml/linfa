/-!
Facts about core `List` operations that several proof modules need and core Lean does not state: `getD` inside
the list, lists given cell by cell over `List.range`, `eraseDups`, and flattening rows of one width.
-/
namespace LinfaSpec

/-! Inside the list the default of `getD` is never used, so it may differ on the two sides. -/

theorem getD_of_lt {α} (l : List α) (d : α) {i : Nat} (h : i < l.length) : l.getD i d = l[i] := by
  rw [List.getD_eq_getElem?_getD, List.getElem?_eq_getElem h, Option.getD_some]

theorem length_getD_of_forall {α} {rows : List (List α)} {p : Nat} (h : ∀ r ∈ rows, r.length = p) {j : Nat}
    (hj : j < rows.length) : (rows.getD j []).length = p := by
  rw [getD_of_lt _ _ hj]
  exact h _ (List.getElem_mem hj)

theorem getD_map_of_lt {α β} (f : α → β) {l : List α} {i : Nat} (h : i < l.length) (d : α) (e : β) :
    (l.map f).getD i e = f (l.getD i d) := by
  rw [getD_of_lt _ _ (by rwa [List.length_map]), getD_of_lt _ _ h, List.getElem_map]

theorem getD_zipWith_of_lt {α β γ} (f : α → β → γ) {a : List α} {b : List β} {i : Nat}
    (ha : i < a.length) (hb : i < b.length) (da : α) (db : β) (d : γ) :
    (List.zipWith f a b).getD i d = f (a.getD i da) (b.getD i db) := by
  rw [getD_of_lt _ _ (by rw [List.length_zipWith]; exact Nat.lt_min.mpr ⟨ha, hb⟩), getD_of_lt _ _ ha,
    getD_of_lt _ _ hb, List.getElem_zipWith]

theorem getD_map_range {β} (f : Nat → β) {n i : Nat} (h : i < n) (d : β) :
    ((List.range n).map f).getD i d = f i := by
  rw [List.getD_eq_getElem?_getD, List.getElem?_map, List.getElem?_range h, Option.map_some, Option.getD_some]

theorem getD_replicate_self {α} (n i : Nat) (a : α) : (List.replicate n a).getD i a = a := by
  rw [List.getD_eq_getElem?_getD, List.getElem?_replicate]
  split <;> rfl

theorem getD_set_self {α} (l : List α) (i : Nat) (v d : α) (h : i < l.length) : (l.set i v).getD i d = v := by
  rw [List.getD_eq_getElem?_getD, List.getElem?_set_self h, Option.getD_some]

theorem getD_set_ne {α} (l : List α) (i j : Nat) (v d : α) (h : i ≠ j) : (l.set i v).getD j d = l.getD j d := by
  rw [List.getD_eq_getElem?_getD, List.getElem?_set_ne h, List.getD_eq_getElem?_getD]

theorem getD_append_left {α} (l l' : List α) (j : Nat) (d : α) (hj : j < l.length) :
    (l ++ l').getD j d = l.getD j d := by
  rw [List.getD_eq_getElem?_getD, List.getElem?_append_left hj, List.getD_eq_getElem?_getD]

theorem map_range_eq_map {α β} (l : List α) (g : Nat → β) (f : α → β)
    (h : ∀ i (hi : i < l.length), g i = f l[i]) : (List.range l.length).map g = l.map f := by
  refine List.ext_getElem (by rw [List.length_map, List.length_map, List.length_range]) fun i h1 _ => ?_
  rw [List.length_map, List.length_range] at h1
  rw [List.getElem_map, List.getElem_map, List.getElem_range, h i h1]

theorem map_getD_range {α β} (g : α → β) (l : List α) (d : α) :
    ((List.range l.length).map fun i => g (l.getD i d)) = l.map g :=
  map_range_eq_map l _ g fun _ hi => congrArg g (getD_of_lt l d hi)

/-- By induction on the length: `eraseDups` recurses on `as.filter …`, not on `as`. -/
theorem nodup_eraseDups {α} [BEq α] [LawfulBEq α] : ∀ l : List α, l.eraseDups.Nodup
  | [] => by rw [List.eraseDups_nil]; exact List.nodup_nil
  | a :: as => by
    rw [List.eraseDups_cons, List.nodup_cons, List.mem_eraseDups, List.mem_filter, beq_self_eq_true]
    exact ⟨fun h => Bool.noConfusion h.2, nodup_eraseDups _⟩
termination_by l => l.length
decreasing_by exact Nat.lt_succ_of_le (List.length_filter_le _ _)

theorem flatten_length_uniform {α} (rows : List (List α)) (p : Nat) (h : ∀ r ∈ rows, r.length = p) :
    rows.flatten.length = rows.length * p := by
  induction rows with
  | nil => exact (Nat.zero_mul p).symm
  | cons r rs ih =>
    rw [List.flatten_cons, List.length_append, List.length_cons, Nat.succ_mul,
      ih (fun x hx => h x (List.mem_cons_of_mem r hx)), h r List.mem_cons_self, Nat.add_comm]

theorem take_flatten_uniform {α} (rows : List (List α)) (p m : Nat)
    (h : ∀ r ∈ rows, r.length = p) : (rows.flatten).take (m * p) = (rows.take m).flatten := by
  induction rows generalizing m with
  | nil => rw [List.take_nil, List.flatten_nil, List.take_nil]
  | cons r rs ih =>
    cases m with
    | zero => rw [Nat.zero_mul, List.take_zero, List.take_zero, List.flatten_nil]
    | succ m =>
      rw [List.flatten_cons, List.take_succ_cons, List.flatten_cons,
        ← ih m (fun x hx => h x (List.mem_cons_of_mem r hx)), Nat.succ_mul, Nat.add_comm,
        ← h r List.mem_cons_self, List.take_length_add_append]

theorem drop_flatten_uniform {α} (rows : List (List α)) (p m : Nat)
    (h : ∀ r ∈ rows, r.length = p) : (rows.flatten).drop (m * p) = (rows.drop m).flatten := by
  have e := congrArg List.flatten (List.take_append_drop m rows)
  rw [List.flatten_append, ← take_flatten_uniform rows p m h] at e
  exact (List.append_cancel_left (e.trans (List.take_append_drop (m * p) rows.flatten).symm)).symm

end LinfaSpec
