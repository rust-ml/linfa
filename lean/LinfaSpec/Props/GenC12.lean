import LinfaSpec.Gen.Scalars
import LinfaSpec.Props.C12

/-!
# C12 — obligations about the text GENERATED from the Rust sources

`LinfaSpec.Gen.Scalars` is regenerated by `tools/scalar2lean.py` from
`algorithms/linfa-linear/src/glm/{link,distribution}.rs` and `algorithms/linfa-logistic/src/lib.rs` on every check.
The theorems here are about that generated text:

* it *is* the hand-written model the C12 theorems are about (`*_is_model`, for the four `Link` dispatchers, the
  Tweedie unit deviance and its derivative, `logistic`, `log_logistic`), so that `Props.C12.link_inverse_hasDerivAt`,
  `logistic_range`, … are statements about what the source says; `source_inverse_hasDerivAt` and
  `source_deviance_hasDerivAt_*` are model theorems read along these equations;
* the facts about the link functions themselves that have no hand-written counterpart: `inverse ∘ link = id` on the
  link's domain, `link ∘ inverse = id`, `link_derivative` is the derivative of `link`, for each arm of the `Link`
  dispatcher.

A change of the Rust text that alters the meaning of one of these functions (a wrong arm in a
dispatcher, a sign, a swapped operand) makes one of these obligations fail.
-/
namespace LinfaSpec.Props.GenC12
open LinfaSpec LinfaSpec.Gen.Scalars

/-- the generated `Link` enum read as the model's -/
def toModel : GlmLink.Link → Glm.Link
  | .Identity => .identity
  | .Log => .log
  | .Logit => .logit

section generic
variable {α : Type} [Add α] [Sub α] [Mul α] [Div α] [Neg α] [LT α] [DecidableLT α] [LE α] [DecidableLE α]
  [DecidableEq α] [OfNat α 0] [OfNat α 1] [OfScientific α] [Transc α]

/-- **`Link::inverse` as written in the source is the model's `linkInverse`**, arm by arm -/
theorem link_inverse_is_model (k : GlmLink.Link) (x : α) :
    GlmLink.dispatch_inverse k x = Glm.linkInverse (toModel k) x := by
  cases k <;> rfl

/-- **`Link::inverse_derviative` as written in the source is the model's `linkInverseDeriv`** -/
theorem link_inverse_derivative_is_model (k : GlmLink.Link) (x : α) :
    GlmLink.dispatch_inverse_derivative k x = Glm.linkInverseDeriv (toModel k) x := by
  cases k <;> rfl

/-- **`Link::link` as written in the source is the model's `linkFn`**, arm by arm -/
theorem link_is_model (k : GlmLink.Link) (x : α) :
    GlmLink.dispatch_link k x = Glm.linkFn (toModel k) x := by
  cases k <;> rfl

/-- **`Link::link_derivative` as written in the source is the model's `linkFnDeriv`** (cap literal `1e-7`) -/
theorem link_derivative_is_model (k : GlmLink.Link) (x : α) :
    GlmLink.dispatch_link_derivative k x = Glm.linkFnDeriv (1e-7 : α) (toModel k) x := by
  cases k <;> rfl

/-- **`logistic` as written in the source is the model's** -/
theorem logistic_is_model (x : α) : Logistic.logistic x = LinfaSpec.Logistic.logistic x := rfl

/-- **`log_logistic` as written in the source is the model's** -/
theorem log_logistic_is_model (x : α) : Logistic.log_logistic x = LinfaSpec.Logistic.logLogistic x := rfl

end generic

/-- the three model links are all reached -/
example : [GlmLink.Link.Identity, .Log, .Logit].map toModel = [.identity, .log, .logit] := rfl

/-! ### over the reals -/

/-- **the source's `inverse_derviative` is the derivative of the source's `inverse`** for every arm
of the dispatcher — the factor `TweedieProblem::gradient` multiplies the deviance derivative by -/
theorem source_inverse_hasDerivAt (k : GlmLink.Link) (x : ℝ) :
    HasDerivAt (GlmLink.dispatch_inverse (α := ℝ) k) (GlmLink.dispatch_inverse_derivative k x) x := by
  have hf : GlmLink.dispatch_inverse (α := ℝ) k = Glm.linkInverse (toModel k) := by
    funext v; exact link_inverse_is_model k v
  rw [hf, link_inverse_derivative_is_model]
  exact C12.link_inverse_hasDerivAt (toModel k) x

/-- the domain of a link: where `link` is defined and `inverse ∘ link = id` is promised -/
def inDomain : GlmLink.Link → ℝ → Prop
  | .Identity, _ => True
  | .Log, μ => 0 < μ
  | .Logit, μ => 0 < μ ∧ μ < 1

/-- **`inverse (link μ) = μ`** on the domain of each link: the two directions the dispatcher pairs
up really are inverse to each other -/
theorem source_inverse_link (k : GlmLink.Link) (μ : ℝ) (h : inDomain k μ) :
    GlmLink.dispatch_inverse k (GlmLink.dispatch_link k μ) = μ := by
  cases k with
  | Identity => rfl
  | Log =>
    show Real.exp (Real.log μ) = μ
    exact Real.exp_log h
  | Logit =>
    obtain ⟨h0, h1⟩ := h
    show 1 / (1 + Real.exp (-(Real.log (μ / (1 - μ))))) = μ
    rw [Real.exp_neg, Real.exp_log (div_pos h0 (sub_pos.mpr h1)), inv_div, one_add_div h0.ne', add_sub_cancel,
      one_div_one_div]

/-- **`link (inverse η) = η`** for every linear predictor -/
theorem source_link_inverse (k : GlmLink.Link) (η : ℝ) :
    GlmLink.dispatch_link k (GlmLink.dispatch_inverse k η) = η := by
  cases k with
  | Identity => rfl
  | Log =>
    show Real.log (Real.exp η) = η
    exact Real.log_exp η
  | Logit =>
    show Real.log ((1 / (1 + Real.exp (-η))) / (1 - 1 / (1 + Real.exp (-η)))) = η
    have hs : 1 + Real.exp (-η) ≠ 0 := by positivity
    rw [one_sub_div hs, div_div_div_cancel_right₀ hs, add_sub_cancel_left, one_div, ← Real.exp_neg, neg_neg,
      Real.log_exp]

/-- **the source's `link_derivative` is the derivative of the source's `link`** on the domain (for the
log link above the clamp `1e-7`, below which the code returns the constant `1e7`) -/
theorem source_link_hasDerivAt (k : GlmLink.Link) (μ : ℝ) (h : inDomain k μ)
    (hclamp : k = .Log → (1e-7 : ℝ) ≤ μ) :
    HasDerivAt (GlmLink.dispatch_link (α := ℝ) k) (GlmLink.dispatch_link_derivative k μ) μ := by
  cases k with
  | Identity => exact hasDerivAt_id μ
  | Log =>
    have hc := hclamp rfl
    have : GlmLink.dispatch_link_derivative (α := ℝ) .Log μ = μ⁻¹ := by
      show (if μ < (1e-7 : ℝ) then 1 / (1e-7 : ℝ) else 1 / μ) = μ⁻¹
      rw [if_neg (not_lt.mpr hc), one_div]
    rw [this]
    exact Real.hasDerivAt_log (ne_of_gt h)
  | Logit =>
    obtain ⟨h0, h1⟩ := h
    have hne : (1 - μ) ≠ 0 := (sub_pos.mpr h1).ne'
    have hq := (hasDerivAt_id' μ).fun_div ((hasDerivAt_id' μ).const_sub 1) hne
    refine (hq.log (div_pos h0 (sub_pos.mpr h1)).ne').congr_deriv ?_
    show _ = 1 / (μ * (1 - μ))
    have hμ : μ ≠ 0 := h0.ne'
    field_simp
    ring

/-- non-vacuity: `μ = 1/2` is in every domain and above the clamp -/
example : ∀ k, inDomain k (1 / 2) ∧ (k = .Log → (1e-7 : ℝ) ≤ 1 / 2) := by
  intro k
  refine ⟨?_, fun _ => by norm_num⟩
  cases k
  exacts [trivial, by norm_num [inDomain], by norm_num [inDomain]]

/-! ### Tweedie unit deviance and its derivative, as written in `distribution.rs` -/

/-- **`TweedieDistribution::unit_deviance` as written in the source is the model's `unitDeviance`**
(element by element; `powf` an arbitrary function, the literal `1e-6` of the power dispatch): all six
arms of the `match self.power`, including the `Err` arm for `0 < power < 1` -/
theorem unit_deviance_is_model (pw : ℝ → ℝ → ℝ) (power y yp : ℝ) :
    Tweedie.unit_deviance pw power y yp = Glm.unitDeviance pw (1e-6) power y yp := by
  have h2 : (2.0 : ℝ) = Glm.two := by norm_num [Glm.two]
  have h1 : (1.0 : ℝ) = 1 := by norm_num
  unfold Tweedie.unit_deviance Glm.unitDeviance Glm.powerClass
  rw [h2, h1]
  -- the tests in the order of the `match`; once they are decided both sides are the same arm
  by_cases a : power < 0
  · simp only [if_pos a]
  by_cases b : power = 0
  · simp only [if_neg a, if_pos b]
  by_cases c : power < 1
  · simp only [if_neg a, if_neg b, if_pos c]
  by_cases d : absS (power - 1) < 1e-6
  · simp only [if_neg a, if_neg b, if_neg c, if_pos d]
  by_cases e : absS (power - Glm.two) < 1e-6
  · simp only [if_neg a, if_neg b, if_neg c, if_neg d, if_pos e]
  · simp only [if_neg a, if_neg b, if_neg c, if_neg d, if_neg e]

/-- **`unit_deviance_derivative` (through `unit_variance`) as written in the source is the model's** -/
theorem unit_deviance_derivative_is_model (pw : ℝ → ℝ → ℝ) (power y yp : ℝ) :
    Tweedie.unit_deviance_derivative pw power y yp = Glm.unitDevianceDeriv pw power y yp := by
  have h2 : (2.0 : ℝ) = Glm.two := by norm_num [Glm.two]
  unfold Tweedie.unit_deviance_derivative Tweedie.unit_variance Glm.unitDevianceDeriv
  simp only [h2]

/-- the `Err` arm (`power = 1/2`) and the Normal arm -/
example : (Tweedie.unit_deviance C12.rpw (1 / 2) 1 1 = none) ∧
    (Tweedie.unit_deviance C12.rpw 0 3 1 = some 4) := by
  constructor
  · rw [unit_deviance_is_model, Glm.unitDeviance, Glm.powerClass_invalid _ _ (by norm_num) (by norm_num)]
  · rw [unit_deviance_is_model, Glm.unitDeviance, Glm.powerClass_zero]; norm_num

/-- **the source's `unit_deviance_derivative` is the derivative of the source's `unit_deviance`** in
the mean, for the Poisson arm (`power = 1`, `y ≥ 0`, `μ > 0`) -/
theorem source_deviance_hasDerivAt_poisson (y μ : ℝ) (hμ : 0 < μ) (hy : 0 ≤ y) :
    HasDerivAt (fun m => (Tweedie.unit_deviance C12.rpw 1 y m).getD 0)
      (Tweedie.unit_deviance_derivative C12.rpw 1 y μ) μ := by
  simpa only [unit_deviance_is_model, unit_deviance_derivative_is_model] using
    Glm.tweedie_unit_deviance_deriv_poisson C12.rpw rfl (1e-6) y μ (by norm_num) hμ hy

/-- … for the Gamma arm (`power = 2`, `y > 0`, `μ > 0`) -/
theorem source_deviance_hasDerivAt_gamma (y μ : ℝ) (hμ : 0 < μ) (hy : 0 < y) :
    HasDerivAt (fun m => (Tweedie.unit_deviance C12.rpw 2 y m).getD 0)
      (Tweedie.unit_deviance_derivative C12.rpw 2 y μ) μ := by
  simpa only [unit_deviance_is_model, unit_deviance_derivative_is_model] using
    Glm.tweedie_unit_deviance_deriv_gamma C12.rpw rfl (1e-6) y μ (by norm_num) (by norm_num) hμ hy

/-- … for the normal arm (`power = 0`) -/
theorem source_deviance_hasDerivAt_normal (y μ : ℝ) :
    HasDerivAt (fun m => (Tweedie.unit_deviance C12.rpw 0 y m).getD 0)
      (Tweedie.unit_deviance_derivative C12.rpw 0 y μ) μ := by
  simpa only [unit_deviance_is_model, unit_deviance_derivative_is_model] using
    Glm.tweedie_unit_deviance_deriv_normal C12.rpw rfl (1e-6) y μ

/-- … and for every power of the generic arm (`power ∉ {1, 2}`, e.g. 3 = inverse Gaussian, 1.5) -/
theorem source_deviance_hasDerivAt_generic (p y μ : ℝ) (hc : Glm.powerClass (1e-6 : ℝ) p = .generic)
    (hp1 : p ≠ 1) (hp2 : p ≠ 2) (hμ : 0 < μ) :
    HasDerivAt (fun m => (Tweedie.unit_deviance C12.rpw p y m).getD 0)
      (Tweedie.unit_deviance_derivative C12.rpw p y μ) μ := by
  simpa only [unit_deviance_is_model, unit_deviance_derivative_is_model] using
    Glm.tweedie_unit_deviance_deriv_generic C12.rpw rfl (1e-6) p y μ hc hp1 hp2 hμ

example : Glm.powerClass (1e-6 : ℝ) 3 = .generic := by
  rw [Glm.powerClass_of_one_le _ _ (by norm_num), if_neg (by norm_num), if_neg (by norm_num)]

end LinfaSpec.Props.GenC12
