import LinfaSpec.Proofs.ScalingWhiten
import Mathlib.Analysis.Real.Sqrt

/-!
# C16 — scalers and whiteners achieve their normalisation and act as fixed row-wise maps

Theorems about `LinfaSpec.Scaling` (model of `linear_scaling.rs`, `norm_scaling.rs` and
`whitening.rs`: transform, and of `Whitener::fit` the guard, the means, the centring and the PCA
assembly around the external factorisations), over every ordered field `α`; the square
root enters only through its contract `SqrtContract` (`sqrt x * sqrt x = x`,
`sqrt x ≥ 0` for `x ≥ 0`).  A record matrix is `rows : List (List α)` with all
rows of length `p`; `col y j` is column `j`.  `eps` is the epsilon of the
`abs_diff_eq!` guards (machine ε in the code), only `0 ≤ eps` is used.
Hypotheses of the scaler theorems are the code's guards: non-empty data, and for the scaled variants
"the guard did not fire" (`eps < std`, `eps < max - min`, `eps < max|x|`).  The whitening theorems assume
the contract of the external factorisation instead (`hcert`; for PCA the Gram identity `hgram` and the
orthonormal rows `horth` of the SVD), `hfloor` is the code's own full-rank test.
-/
namespace LinfaSpec.Props.C16
open LinfaSpec LinfaSpec.Scaling LinfaSpec.Proofs.Scaling

set_option linter.unusedSectionVars false
set_option linter.unusedVariables false

section linear
variable {α : Type} [Field α] [LinearOrder α] [IsStrictOrderedRing α] [Transc α]

/-- the scale the standard scaler uses for a column -/
def stdScale (eps : α) (ws : Bool) (c : List α) : α := if ws then invOrOne eps (stdCol c) else 1

theorem invOrOne_of_le (eps s : α) (hs : 0 ≤ s) (h : s ≤ eps) : invOrOne eps s = 1 := by
  rw [invOrOne_eq, abs_of_nonneg hs, if_pos h]

/-- **fit + transform of the standard scaler, column by column**: fitting never fails on
non-empty data, the transform of the training data is defined, and its column `j` is the
affine image `x ↦ S·x + B` of the input column with `S` the guarded inverse standard
deviation and `B = -M·S` (with mean) or `M - M·S` (without), `M` the column mean. -/
theorem standard_column (eps : α) (p : Nat) (rows : List (List α)) (wm ws : Bool)
    (hn : rows ≠ []) (hrows : ∀ r ∈ rows, r.length = p) (j : Nat) (hj : j < p) :
    ∃ sc y, fitStandard eps p rows wm ws = .ok sc ∧ transform sc p rows = some y ∧
      col y j = (col rows j).map fun x =>
        stdScale eps ws (col rows j) * x +
          (if wm then -(meanCol (col rows j) * stdScale eps ws (col rows j))
           else meanCol (col rows j) - meanCol (col rows j) * stdScale eps ws (col rows j)) := by
  obtain ⟨y, hy, hc⟩ := col_transform_fitted ⟨_, _, .standard wm ws⟩ meanCol (stdScale eps ws) p rows
    rfl rfl hrows j hj
  refine ⟨_, y, fitStandard_ok eps p rows wm ws hn, hy, hc.trans (List.map_congr_left fun x _ => ?_)⟩
  cases wm
  · show (x - _) * _ + _ = _
    rw [if_neg Bool.false_ne_true]; ring
  · show (x - _) * _ = _
    rw [if_pos rfl]; ring

theorem col_ne_nil (rows : List (List α)) (j : Nat) (hn : rows ≠ []) : col rows j ≠ [] :=
  col_ne_nil_of hn j

/-- **standard scaling yields zero column means** (every `with_std`, every column —
constant or not): fitted on non-empty data and applied to it. -/
theorem standard_zero_mean (eps : α) (p : Nat) (rows : List (List α)) (ws : Bool)
    (hn : rows ≠ []) (hrows : ∀ r ∈ rows, r.length = p) (j : Nat) (hj : j < p) :
    ∃ sc y, fitStandard eps p rows true ws = .ok sc ∧ transform sc p rows = some y ∧
      meanCol (col y j) = 0 := by
  obtain ⟨sc, y, h1, h2, h3⟩ := standard_column eps p rows true ws hn hrows j hj
  refine ⟨sc, y, h1, h2, ?_⟩
  rw [h3, meanCol_affine _ (col_ne_nil rows j hn)]
  simp only [if_true]; ring

theorem no_mean_keeps_mean (eps : α) (p : Nat) (rows : List (List α)) (ws : Bool)
    (hn : rows ≠ []) (hrows : ∀ r ∈ rows, r.length = p) (j : Nat) (hj : j < p) :
    ∃ sc y, fitStandard eps p rows false ws = .ok sc ∧ transform sc p rows = some y ∧
      meanCol (col y j) = meanCol (col rows j) := by
  obtain ⟨sc, y, h1, h2, h3⟩ := standard_column eps p rows false ws hn hrows j hj
  refine ⟨sc, y, h1, h2, ?_⟩
  rw [h3, meanCol_affine _ (col_ne_nil rows j hn)]
  simp only [Bool.false_eq_true, if_false]; ring

/-- **standard scaling yields unit variance on every column the guard treats as
non-constant** (`eps < std`), with or without centring.  `varCol 0` is ndarray's
Welford recurrence, equal to the textbook variance by `welford_is_variance`. -/
theorem standard_unit_var (hsq : SqrtContract α) (eps : α) (h0 : 0 ≤ eps) (p : Nat)
    (rows : List (List α)) (wm : Bool)
    (hn : rows ≠ []) (hrows : ∀ r ∈ rows, r.length = p) (j : Nat) (hj : j < p)
    (hstd : eps < stdCol (col rows j)) :
    ∃ sc y, fitStandard eps p rows wm true = .ok sc ∧ transform sc p rows = some y ∧
      varCol 0 (col y j) = 1 := by
  obtain ⟨sc, y, h1, h2, h3⟩ := standard_column eps p rows wm true hn hrows j hj
  refine ⟨sc, y, h1, h2, ?_⟩
  have hpos : 0 < stdCol (col rows j) := lt_of_le_of_lt h0 hstd
  have hv : varCol 0 (col rows j) = stdCol (col rows j) * stdCol (col rows j) :=
    (hsq _ (varCol_nonneg _)).1.symm
  rw [h3, varCol_affine_ddof, stdScale, if_pos rfl, invOrOne_of_gt eps _ h0 hstd, hv, one_div, ← mul_inv,
    inv_mul_cancel₀ (mul_pos hpos hpos).ne']

/-- **the no-std variant keeps the spread** (variance unchanged) -/
theorem no_std_keeps_spread (eps : α) (p : Nat) (rows : List (List α)) (wm : Bool)
    (hn : rows ≠ []) (hrows : ∀ r ∈ rows, r.length = p) (j : Nat) (hj : j < p) :
    ∃ sc y, fitStandard eps p rows wm false = .ok sc ∧ transform sc p rows = some y ∧
      varCol 0 (col y j) = varCol 0 (col rows j) := by
  obtain ⟨sc, y, h1, h2, h3⟩ := standard_column eps p rows wm false hn hrows j hj
  refine ⟨sc, y, h1, h2, ?_⟩
  rw [h3, varCol_affine_ddof, stdScale, if_neg Bool.false_ne_true, one_mul, one_mul]

/-- **constant columns are only centred**: a constant column `c` is mapped to all zeros
with centring and is left as it is without, whatever `with_std` says (scale 1). -/
theorem constant_only_centred (hsq : SqrtContract α) (eps : α) (h0 : 0 ≤ eps) (p : Nat)
    (rows : List (List α)) (wm ws : Bool)
    (hn : rows ≠ []) (hrows : ∀ r ∈ rows, r.length = p) (j : Nat) (hj : j < p)
    (c : α) (hc : ∀ x ∈ col rows j, x = c) :
    ∃ sc y, fitStandard eps p rows wm ws = .ok sc ∧ transform sc p rows = some y ∧
      col y j = (col rows j).map fun _ => if wm then 0 else c := by
  obtain ⟨sc, y, h1, h2, h3⟩ := standard_column eps p rows wm ws hn hrows j hj
  refine ⟨sc, y, h1, h2, ?_⟩
  have hS : stdScale eps ws (col rows j) = 1 := by
    cases ws
    · rfl
    · show invOrOne eps (Transc.sqrt (varCol 0 (col rows j))) = 1
      rw [varCol_const 0 _ c hc, sqrt_unique hsq le_rfl (mul_zero 0), invOrOne_of_le eps 0 le_rfl h0]
  rw [h3, hS, meanCol_const _ (col_ne_nil rows j hn) c hc]
  apply List.map_congr_left
  intro x hx
  rw [hc x hx]
  cases wm <;> simp

/-- ndarray's `var_axis` (Welford) **is** the population variance `Σ(x - mean)² / n` -/
theorem welford_is_variance (l : List α) (h : l ≠ []) :
    varCol 0 l = (l.map fun x => (x - meanCol l) * (x - meanCol l)).sum / (l.length : α) :=
  (varCol_eq_dev 0 l).trans (by rw [sub_zero])


/-- **min-max scaling maps every column the guard treats as non-constant
(`eps < max - min`) onto the requested range `[lo, hi]`, both ends attained**
(at the column's minimum resp. maximum); fitting succeeds for `lo ≤ hi` on non-empty data. -/
theorem minmax_range_attained (eps : α) (h0 : 0 ≤ eps) (p : Nat) (rows : List (List α)) (lo hi : α)
    (hlohi : lo ≤ hi) (hn : rows ≠ []) (hrows : ∀ r ∈ rows, r.length = p) (j : Nat) (hj : j < p)
    (hguard : eps < maxCol (col rows j) - minCol (col rows j)) :
    ∃ sc y, fitMinMax eps p rows lo hi = .ok sc ∧ transform sc p rows = some y ∧
      (∀ v ∈ col y j, lo ≤ v ∧ v ≤ hi) ∧ lo ∈ col y j ∧ hi ∈ col y j := by
  obtain ⟨sc, y, hfit, hy, hcol⟩ := minmax_column eps p rows lo hi hlohi hn hrows j hj
  refine ⟨sc, y, hfit, hy, ?_⟩
  rw [hcol, invOrOne_of_gt eps _ h0 hguard]
  have hc := col_ne_nil rows j hn
  obtain ⟨hmin, hminmem⟩ := minCol_spec (col rows j) hc
  obtain ⟨hmax, hmaxmem⟩ := maxCol_spec (col rows j) hc
  generalize minCol (col rows j) = mn at *
  generalize maxCol (col rows j) = mx at *
  have hd : 0 < mx - mn := lt_of_le_of_lt h0 hguard
  refine ⟨?_, List.mem_map.mpr ⟨mn, hminmem, by rw [sub_self, zero_mul, zero_mul, zero_add]⟩,
    List.mem_map.mpr ⟨mx, hmaxmem, ?_⟩⟩
  · -- an output is `t * (hi - lo) + lo` with `t = (x - mn) / (mx - mn)` in `[0, 1]`
    intro v hv
    obtain ⟨x, hx, rfl⟩ := List.mem_map.mp hv
    have h1 : 0 ≤ (x - mn) * (1 / (mx - mn)) :=
      mul_nonneg (sub_nonneg.mpr (hmin x hx)) (one_div_pos.mpr hd).le
    have h2 : (x - mn) * (1 / (mx - mn)) ≤ 1 := by
      rw [mul_one_div, div_le_one hd]; exact sub_le_sub_right (hmax x hx) mn
    have h3 : 0 ≤ hi - lo := sub_nonneg.mpr hlohi
    exact ⟨le_add_of_nonneg_left (mul_nonneg h1 h3),
      le_sub_iff_add_le.mp (mul_le_of_le_one_left h3 h2)⟩
  · rw [mul_one_div, div_self hd.ne', one_mul, sub_add_cancel]

/-- **max-abs scaling gives every column the guard treats as non-zero (`eps < max|x|`)
maximum absolute value one**: all outputs lie in `[-1, 1]` and `1` is attained. -/
theorem maxabs_one (eps : α) (h0 : 0 ≤ eps) (p : Nat) (rows : List (List α))
    (hn : rows ≠ []) (hrows : ∀ r ∈ rows, r.length = p) (j : Nat) (hj : j < p)
    (hguard : eps < normMax (col rows j)) :
    ∃ sc y, fitMaxAbs eps p rows = .ok sc ∧ transform sc p rows = some y ∧
      (∀ v ∈ col y j, |v| ≤ 1) ∧ (∃ v ∈ col y j, |v| = 1) ∧ normMax (col y j) = 1 := by
  obtain ⟨sc, y, hfit, hy, hcol⟩ := maxabs_column eps p rows hn hrows j hj
  have hN : 0 < normMax (col rows j) := lt_of_le_of_lt h0 hguard
  have hone : normMax (col y j) = 1 := by
    rw [hcol, invOrOne_of_gt eps _ h0 hguard, normMax_map_mul _ _ (one_div_pos.mpr hN).le,
      mul_one_div, div_self hN.ne']
  -- the other two claims are what `normMax = 1` says
  obtain ⟨_, hle, hatt⟩ := normMax_spec (col y j)
  rw [hone] at hle hatt
  exact ⟨sc, y, hfit, hy, hle, (hatt.resolve_left one_ne_zero).imp fun v hv => ⟨hv.1, hv.2.symm⟩, hone⟩

/-- **a constant column goes to the lower end `lo`** under min-max scaling (the statement only speaks of
non-constant columns; this is what the code does with the others: scale 1, offset = the constant) -/
theorem minmax_constant_to_lo (eps : α) (h0 : 0 ≤ eps) (p : Nat) (rows : List (List α)) (lo hi : α)
    (hlohi : lo ≤ hi) (hn : rows ≠ []) (hrows : ∀ r ∈ rows, r.length = p) (j : Nat) (hj : j < p)
    (c : α) (hc : ∀ x ∈ col rows j, x = c) :
    ∃ sc y, fitMinMax eps p rows lo hi = .ok sc ∧ transform sc p rows = some y ∧
      col y j = (col rows j).map fun _ => lo := by
  obtain ⟨sc, y, hfit, hy, hcol⟩ := minmax_column eps p rows lo hi hlohi hn hrows j hj
  refine ⟨sc, y, hfit, hy, ?_⟩
  have hne := col_ne_nil rows j hn
  rw [hcol, hc _ (minCol_spec _ hne).2, hc _ (maxCol_spec _ hne).2, sub_self, invOrOne_of_le eps 0 le_rfl h0]
  apply List.map_congr_left
  intro x hx
  rw [hc x hx, sub_self, zero_mul, zero_mul, zero_add]

/-- **every calling form reaches the same fit**: `LinearScalerParams::new(m)`, the `method(m)` setter on
any parameter object, and the constructor functions all fit with the method they name; `fitParams`
(= `ScalingMethod::fit`) dispatches to the three fitting routines -/
theorem calling_forms_agree (eps : α) (p : Nat) (rows : List (List α)) (q : Params α) (m : Method α)
    (wm ws : Bool) (lo hi : α) :
    fitParams eps p rows (q.setMethod m) = fitParams eps p rows (Params.new m) ∧
    fitParams eps p rows (Params.new (.standard wm ws)) = fitStandard eps p rows wm ws ∧
    fitParams eps p rows (Params.new (.minMax lo hi)) = fitMinMax eps p rows lo hi ∧
    fitParams eps p rows (Params.new .maxAbs) = fitMaxAbs eps p rows ∧
    fitParams eps p rows Params.standard = fitStandard eps p rows true true ∧
    fitParams eps p rows Params.standardNoMean = fitStandard eps p rows false true ∧
    fitParams eps p rows Params.standardNoStd = fitStandard eps p rows true false ∧
    fitParams eps p rows Params.minMax = fitMinMax eps p rows 0 1 ∧
    fitParams eps p rows (Params.minMaxRange lo hi) = fitMinMax eps p rows lo hi ∧
    fitParams eps p rows Params.maxAbs = fitMaxAbs eps p rows :=
  ⟨rfl, rfl, rfl, rfl, rfl, rfl, rfl, rfl, rfl, rfl⟩

end linear

/-! ### below the guards: what the code does with columns it treats as constant -/
section subeps
variable {α : Type} [Field α] [LinearOrder α] [IsStrictOrderedRing α] [Transc α]

/-- **below the guard nothing is scaled** (open finding `C16-sub-eps-standard`, for every matrix): a column
whose standard deviation is at most `eps` — constant or not — keeps its variance; so a non-constant
column with `0 < std ≤ eps` does not come out with variance one. -/
theorem standard_sub_eps_unscaled (hsq : SqrtContract α) (eps : α) (p : Nat)
    (rows : List (List α)) (wm : Bool)
    (hn : rows ≠ []) (hrows : ∀ r ∈ rows, r.length = p) (j : Nat) (hj : j < p)
    (hsub : stdCol (col rows j) ≤ eps) :
    ∃ sc y, fitStandard eps p rows wm true = .ok sc ∧ transform sc p rows = some y ∧
      varCol 0 (col y j) = varCol 0 (col rows j) := by
  obtain ⟨sc, y, h1, h2, h3⟩ := standard_column eps p rows wm true hn hrows j hj
  refine ⟨sc, y, h1, h2, ?_⟩
  have hnn : 0 ≤ stdCol (col rows j) := (hsq _ (varCol_nonneg _)).2
  rw [h3, varCol_affine_ddof, stdScale, if_pos rfl, invOrOne_of_le eps _ hnn hsub, one_mul, one_mul]

/-- the same for max-abs scaling (open finding `C16-sub-eps-maxabs`): a column with `max|x| ≤ eps` is
returned as it is, so its maximum absolute value stays `max|x|`, not one. -/
theorem maxabs_sub_eps_unscaled (eps : α) (p : Nat) (rows : List (List α))
    (hn : rows ≠ []) (hrows : ∀ r ∈ rows, r.length = p) (j : Nat) (hj : j < p)
    (hsub : normMax (col rows j) ≤ eps) :
    ∃ sc y, fitMaxAbs eps p rows = .ok sc ∧ transform sc p rows = some y ∧ col y j = col rows j := by
  obtain ⟨sc, y, hfit, hy, hcol⟩ := maxabs_column eps p rows hn hrows j hj
  refine ⟨sc, y, hfit, hy, ?_⟩
  rw [hcol, invOrOne_of_le eps _ (normMax_spec _).1 hsub]
  simp only [mul_one, List.map_id']

/-- **counter-example to the unguarded statement** (open finding `C16-sub-eps-minmax`): with the
machine epsilon `2^-52`, the non-constant column `[0, 2^-60]` is *not* mapped onto `[0,1]` —
the guard treats it as constant and the upper end stays `2^-60`. -/
theorem minmax_sub_eps_not_scaled :
    let eps : Rat := 1 / 2 ^ 52
    ∃ sc y, fitMinMax eps 1 [[0], [1 / 2 ^ 60]] 0 1 = .ok sc ∧
      transform sc 1 [[0], [1 / 2 ^ 60]] = some y ∧ (1 : Rat) ∉ col y 0 := by
  refine ⟨_, _, rfl, rfl, ?_⟩
  decide +kernel

end subeps

section norm
variable {α : Type} [Field α] [LinearOrder α] [IsStrictOrderedRing α] [Transc α]

theorem normL1_eq (r : List α) : normL1 r = (r.map fun x => |x|).sum := by
  unfold normL1; rw [sumS_eq_sum]; congr 1; apply List.map_congr_left; intro x _; exact absS_eq_abs x

theorem sumSquares_eq (r : List α) : sumSquares r = (r.map fun x => x * x).sum := by
  unfold sumSquares; rw [sumS_eq_sum]

/-- a row with a non-zero entry has positive norm (so it is scaled, not skipped) -/
theorem rowNorm_pos (hsq : SqrtContract α) (k : NormKind) (r : List α) (h : ∃ x ∈ r, x ≠ 0) :
    0 < rowNorm k r := by
  cases k
  · show 0 < normL1 r
    rw [normL1_eq]
    exact sum_map_pos r _ abs_nonneg (h.imp fun x hx => ⟨hx.1, abs_pos.mpr hx.2⟩)
  · show 0 < normL2 r
    unfold normL2; rw [sumSquares_eq]
    exact sqrt_pos_of hsq _
      (sum_map_pos r _ mul_self_nonneg (h.imp fun x hx => ⟨hx.1, mul_self_pos.mpr hx.2⟩))
  · show 0 < normMax r
    obtain ⟨x, hx, hx0⟩ := h
    exact lt_of_lt_of_le (abs_pos.mpr hx0) ((normMax_spec r).2.1 x hx)

/-- **norm scaling gives every non-zero row unit norm in the chosen norm** (L1, L2, max) -/
theorem norm_unit (hsq : SqrtContract α) (k : NormKind) (r : List α) (h : ∃ x ∈ r, x ≠ 0) :
    rowNorm k (scaleRowBy (rowNorm k r) r) = 1 := by
  have hpos := rowNorm_pos hsq k r h
  unfold scaleRowBy
  rw [if_pos hpos]
  simp only [div_eq_mul_inv]
  rw [rowNorm_map_mul hsq k r _ (inv_nonneg.mpr hpos.le), mul_inv_cancel₀ hpos.ne']

/-- **an all-zero row is returned unchanged** (`if norm > 0`: a norm that is not positive is never
divided by) -/
theorem norm_zero_row_unchanged (hsq : SqrtContract α) (k : NormKind) (r : List α)
    (h : ∀ x ∈ r, x = 0) : scaleRowBy (rowNorm k r) r = r := by
  -- an all-zero row is `0` times itself, and the norms are homogeneous
  have hr : r = r.map (· * 0) := by
    conv_lhs => rw [← List.map_id' r]
    exact List.map_congr_left fun x hx => by rw [h x hx, zero_mul]
  have hz : rowNorm k r = 0 := by rw [hr, rowNorm_map_mul hsq k r 0 le_rfl, mul_zero]
  unfold scaleRowBy
  rw [hz, if_neg (lt_irrefl 0)]

/-- a row the norm scaler changed was divided by a positive norm -/
theorem norm_divisor_positive (nrm : α) (r : List α) (h : scaleRowBy nrm r ≠ r) : 0 < nrm := by
  unfold scaleRowBy at h
  by_contra hc
  rw [if_neg hc] at h
  exact h rfl

end norm


/-! ### fixed affine map, row by row -/
section rowwise
variable {α : Type} [Field α] [LinearOrder α] [IsStrictOrderedRing α]

/-- **the fitted transform is one fixed map applied to each row**: on any matrix of the
fitted width (training data or unseen data) the result is `rows.map (transformRow sc)`;
`transformRow sc` depends on the fitted parameters only. -/
theorem transform_is_rowwise (sc : Scaler α) (p : Nat) (rows : List (List α))
    (ho : sc.offsets.length = p) (hrows : ∀ r ∈ rows, r.length = p) :
    transform sc p rows = some (rows.map (transformRow sc)) :=
  transform_some sc p rows ho hrows

/-- **each cell goes through an affine map fixed by the fitted parameters** -/
theorem transformCell_affine (m : Method α) (o s : α) :
    ∃ a b : α, ∀ x, transformCell m x o s = a * x + b := by
  cases m with
  | standard wm ws =>
    cases wm
    · exact ⟨s, o - o * s, fun x => by simp only [transformCell]; ring⟩
    · exact ⟨s, -(o * s), fun x => by simp only [transformCell]; ring⟩
  | minMax lo hi => exact ⟨s * (hi - lo), lo - o * s * (hi - lo), fun x => by simp only [transformCell]; ring⟩
  | maxAbs => exact ⟨s, -(o * s), fun x => by simp only [transformCell]; ring⟩

/-- **commutes with row selection** (any index list, repetitions allowed) -/
theorem transform_commutes_with_selection (sc : Scaler α) (p : Nat) (rows : List (List α))
    (ho : sc.offsets.length = p) (hrows : ∀ r ∈ rows, r.length = p) (sel : List Nat) :
    ∃ y, transform sc p rows = some y ∧
      transform sc p (sel.filterMap (rows[·]?)) = some (sel.filterMap (y[·]?)) := by
  refine ⟨_, transform_some sc p rows ho hrows, ?_⟩
  have hsel : ∀ r ∈ sel.filterMap (rows[·]?), r.length = p := by
    intro r hr
    obtain ⟨i, _, hi⟩ := List.mem_filterMap.mp hr
    exact hrows r (List.mem_of_getElem? hi)
  rw [transform_some sc p _ ho hsel, map_select]

theorem transform_commutes_with_perm (sc : Scaler α) (p : Nat) (rows rows' : List (List α))
    (ho : sc.offsets.length = p) (hrows : ∀ r ∈ rows, r.length = p) (hp : rows.Perm rows') :
    ∃ y y', transform sc p rows = some y ∧ transform sc p rows' = some y' ∧ y.Perm y' := by
  have hrows' : ∀ r ∈ rows', r.length = p := fun r hr => hrows r (hp.symm.subset hr)
  exact ⟨_, _, transform_some sc p rows ho hrows, transform_some sc p rows' ho hrows', hp.map _⟩

/-- **identical on unseen data**: transforming a batch that extends another one gives the same
rows for the common part (a row's image never depends on the other rows) -/
theorem transform_append (sc : Scaler α) (p : Nat) (a b : List (List α))
    (ho : sc.offsets.length = p) (ha : ∀ r ∈ a, r.length = p) (hb : ∀ r ∈ b, r.length = p) :
    ∃ ya yb, transform sc p a = some ya ∧ transform sc p b = some yb ∧
      transform sc p (a ++ b) = some (ya ++ yb) := by
  have hab : ∀ r ∈ a ++ b, r.length = p := by
    intro r hr; rcases List.mem_append.mp hr with h | h
    · exact ha r h
    · exact hb r h
  exact ⟨_, _, transform_some sc p a ho ha, transform_some sc p b ho hb, by
    rw [transform_some sc p _ ho hab, List.map_append]⟩

/-- norm scaling and whitening are row maps by construction -/
theorem norm_whiten_rowwise [Transc α] (k : NormKind) (mean : List α) (W a b : List (List α)) :
    normTransform k (a ++ b) = normTransform k a ++ normTransform k b ∧
    whitenTransform mean W (a ++ b) = whitenTransform mean W a ++ whitenTransform mean W b :=
  ⟨List.map_append, List.map_append⟩

end rowwise

/-- **targets, weights, feature and target names pass through unchanged**, and the records are
the array transform of the records -/
theorem metadata_passthrough {R R' T W : Type} (f : R → Option R') (nfeat : R' → Nat) (ntgt : T → Nat)
    (ds : DS R T W) (out : DS R' T W) (h : transformDataset f nfeat ntgt ds = some out) :
    out.targets = ds.targets ∧ out.weights = ds.weights ∧ out.featureNames = ds.featureNames ∧
      out.targetNames = ds.targetNames ∧ f ds.records = some out.records := by
  unfold transformDataset at h
  split at h
  · exact absurd h (by simp)
  · rename_i recs hrec
    split at h
    · exact absurd h (by simp)
    · split at h
      · exact absurd h (by simp)
      · cases h; exact ⟨rfl, rfl, rfl, rfl, hrec⟩

/-- the dataset form succeeds whenever the array form does and the width is unchanged -/
theorem metadata_no_panic {R R' T W : Type} (f : R → Option R') (nfeat : R' → Nat) (ntgt : T → Nat)
    (ds : DS R T W) (recs : R') (hf : f ds.records = some recs)
    (h1 : ds.featureNames = [] ∨ ds.featureNames.length = nfeat recs)
    (h2 : ds.targetNames = [] ∨ ds.targetNames.length = ntgt ds.targets) :
    (transformDataset f nfeat ntgt ds).isSome := by
  unfold transformDataset
  rw [hf]
  rcases h1 with h | h <;> rcases h2 with h' | h' <;> simp [h, h']

section errors
variable {α : Type} [Field α] [LinearOrder α] [IsStrictOrderedRing α] [Transc α]

/-- **empty training data is rejected with an error** by every fit -/
theorem empty_rejected {ε : Type} (eps : α) (p : Nat) (wm ws : Bool) (lo hi : α)
    (decomp : List (List α) → Except ε (List (List α))) :
    fitStandard eps p [] wm ws = .error .notEnoughSamples ∧
    fitMinMax eps p [] lo hi = .error .notEnoughSamples ∧
    fitMaxAbs eps p [] = .error .notEnoughSamples ∧
    whitenFit decomp p ([] : List (List α)) = .error (.inl .notEnoughSamples) :=
  ⟨rfl, rfl, rfl, rfl⟩

theorem flipped_range_rejected (eps : α) (p : Nat) (rows : List (List α)) (lo hi : α)
    (hn : rows ≠ []) (h : hi < lo) : fitMinMax eps p rows lo hi = .error .flippedMinMaxRange := by
  unfold fitMinMax
  rw [if_neg (mt List.length_eq_zero_iff.mp hn), if_pos h]

end errors

/-! ### whitening: identity sample covariance (all `p`), centred output, fixed affine row map -/
section whitening
variable {α : Type} [Field α] [LinearOrder α] [IsStrictOrderedRing α] [Transc α]

/-- the `Whitener::method(m)` setter replaces the method whatever the constructor chose, and the fit
runs the factorisation of *that* method -/
theorem whitener_setter_overrides {ε : Type}
    (decomp : WMethod → List (List α) → Except ε (List (List α))) (q : WParams) (m : WMethod)
    (p : Nat) (rows : List (List α)) :
    (q.setMethod m).method = m ∧
    whitenFitParams decomp (q.setMethod m) p rows = whitenFit (decomp m) p rows :=
  ⟨rfl, rfl⟩

/-- the centred records `X - mean` handed to the factorisations -/
def centredRows (p : Nat) (rows : List (List α)) : List (List α) :=
  rows.map fun r => List.zipWith (fun x m => x - m) r ((cols p rows).map meanCol)

/-- what `Whitener::fit` returns: on non-empty data the column means and the matrix the external
factorisation produced **for the centred data** `X - mean` -/
theorem whiten_fit_spec {ε : Type} (decomp : List (List α) → Except ε (List (List α))) (p : Nat)
    (rows W : List (List α)) (hn : rows ≠ [])
    (hd : decomp (rows.map fun r => List.zipWith (fun x m => x - m) r ((cols p rows).map meanCol)) = .ok W) :
    whitenFit decomp p rows = .ok ((cols p rows).map meanCol, W) := by
  unfold whitenFit
  rw [if_neg (mt List.length_eq_zero_iff.mp hn)]
  simp only [hd]

/-- **the whitened training data is centred**: every output column has mean zero -/
theorem whiten_zero_mean (p : Nat) (rows W : List (List α)) (hn : rows ≠ [])
    (hrows : ∀ r ∈ rows, r.length = p) (hW : ∀ w ∈ W, w.length = p) (a : Nat) (ha : a < W.length) :
    meanCol (col (whitenTransform ((cols p rows).map meanCol) W rows) a) = 0 :=
  meanCol_whitened_zero p rows W hn hrows hW a ha

/-- **sample covariance of the whitened training data = `W · cov(X) · Wᵀ`**, for every number of
features `p`, every `q × p` matrix `W` and every entry `(a, b)`; `covE` is the sample covariance with
divisor `n - 1` around the column means (`covE_diag_is_var`: its diagonal is ndarray's `var_axis(ddof = 1)`). -/
theorem whiten_cov_is_WSWt (p : Nat) (rows W : List (List α)) (hn : rows ≠ [])
    (hrows : ∀ r ∈ rows, r.length = p) (hW : ∀ w ∈ W, w.length = p) (a b : Nat)
    (ha : a < W.length) (hb : b < W.length) :
    covE (whitenTransform ((cols p rows).map meanCol) W rows) a b =
      ∑ i ∈ Finset.range p, ∑ j ∈ Finset.range p, wE W a i * covE rows i j * wE W b j :=
  covE_whitened p rows W hn hrows hW a b ha hb

/-- **whitening gives identity sample covariance** whenever the factorisation meets its contract
`W · cov(X) · Wᵀ = I` (what SVD / Cholesky deliver on full-rank data; checked numerically on every
full-rank case by the harness): fit succeeds, and the covariance of the transformed training data
is the identity matrix, entry by entry. -/
theorem whiten_identity_cov {ε : Type} (decomp : List (List α) → Except ε (List (List α))) (p : Nat)
    (rows W : List (List α)) (hn : rows ≠ []) (hrows : ∀ r ∈ rows, r.length = p)
    (hW : ∀ w ∈ W, w.length = p)
    (hd : decomp (rows.map fun r => List.zipWith (fun x m => x - m) r ((cols p rows).map meanCol)) = .ok W)
    (hcert : ∀ a b, a < W.length → b < W.length →
      ∑ i ∈ Finset.range p, ∑ j ∈ Finset.range p, wE W a i * covE rows i j * wE W b j =
        if a = b then 1 else 0) :
    ∃ mean, whitenFit decomp p rows = .ok (mean, W) ∧
      ∀ a b, a < W.length → b < W.length →
        covE (whitenTransform mean W rows) a b = if a = b then 1 else 0 := by
  refine ⟨_, whiten_fit_spec decomp p rows W hn hd, ?_⟩
  intro a b ha hb
  rw [covE_whitened p rows W hn hrows hW a b ha hb, hcert a b ha hb]

/-- the diagonal of `covE` is ndarray's `var_axis(Axis(0), ddof = 1)` (Welford) of the column -/
theorem covE_diag_is_var (rows : List (List α)) (a : Nat) (hn : rows ≠ []) :
    covE rows a a = varCol 1 (col rows a) := by
  rw [varCol_eq_dev]
  unfold covE col
  rw [List.map_map, List.length_map]
  rfl

/-- **whitening is a fixed affine map of the row**: output entry `a` is the linear form
`Σ_i W_ai · r_i` minus the constant `Σ_i W_ai · mean_i` fixed at fit time -/
theorem whiten_row_affine (p : Nat) (mean : List α) (W : List (List α)) (r : List α)
    (hm : mean.length = p) (hr : r.length = p) (hW : ∀ w ∈ W, w.length = p) (a : Nat)
    (ha : a < W.length) :
    (whitenRow mean W r).getD a 0 =
      (∑ i ∈ Finset.range p, wE W a i * r.getD i 0) - ∑ i ∈ Finset.range p, wE W a i * mean.getD i 0 := by
  rw [whitenRow_getD p mean W r hm hr hW a ha, ← Finset.sum_sub_distrib]
  apply Finset.sum_congr rfl
  intro i _
  ring

/-- norm scaling and whitening **commute with row selection** (any index list, repetitions allowed) -/
theorem norm_whiten_commute_with_selection (k : NormKind) (mean : List α) (W rows : List (List α))
    (sel : List Nat) :
    normTransform k (sel.filterMap (rows[·]?)) = sel.filterMap ((normTransform k rows)[·]?) ∧
    whitenTransform mean W (sel.filterMap (rows[·]?)) =
      sel.filterMap ((whitenTransform mean W rows)[·]?) :=
  ⟨map_select _ rows sel, map_select _ rows sel⟩

/-! ### PCA whitening: the certificate is discharged from the contract of the SVD; the floor -/

/-- **covariance of PCA-whitened training data, for every dataset** (any targets / weights / names, which
the fit does not read): if the parameter object's method is PCA and the external `svd(false, true)` of the
centred records returns `(s, Vᵀ)` meeting the contract of an SVD — Gram identity
`(X-μ)ᵀ(X-μ) = V diag(s²) Vᵀ`, orthonormal rows of `Vᵀ` — then `Whitener::fit` (as `whitenFitDataset`,
the function the driver runs) succeeds and the sample covariance of the whitened training data is
**diagonal with entries `s_a² / max(s_a, floor)²`**.  Needs two rows (`n - 1 > 0`). -/
theorem pca_fit_cov {ε T W : Type} (hsq : SqrtContract α) (floor : α) (hf : 0 < floor) (ext : Factor α ε)
    (q : WParams) (hq : q.method = .pca) (p : Nat) (ds : DS (List (List α)) T W)
    (h2 : 2 ≤ ds.records.length) (hrows : ∀ r ∈ ds.records, r.length = p)
    (s : List α) (vt : List (List α)) (hsvd : ext.svdVt (centredRows p ds.records) = .ok (s, vt))
    (hs : s.length = vt.length) (hvt : ∀ w ∈ vt, w.length = p)
    (hgram : ∀ i j, i < p → j < p →
      (ds.records.map fun r => (r.getD i 0 - meanCol (col ds.records i)) *
          (r.getD j 0 - meanCol (col ds.records j))).sum =
        ∑ k ∈ Finset.range vt.length, wE vt k i * (s.getD k 0 * s.getD k 0) * wE vt k j)
    (horth : ∀ a b, a < vt.length → b < vt.length →
      ∑ i ∈ Finset.range p, wE vt a i * wE vt b i = if a = b then 1 else 0) :
    ∃ mean Wm, whitenFitDataset floor ext q p ds = .ok (mean, Wm) ∧ Wm.length = vt.length ∧
      ∀ a b, a < vt.length → b < vt.length →
        covE (whitenTransform mean Wm ds.records) a b =
          if a = b then (s.getD a 0 * s.getD a 0) / (maxS (s.getD a 0) floor * maxS (s.getD a 0) floor)
          else 0 := by
  have hn : ds.records ≠ [] := List.ne_nil_of_length_pos (by omega)
  have hd : whitenDecomp floor ds.records.length ext .pca (centredRows p ds.records) =
      .ok (pcaAssemble floor ds.records.length s vt) := by
    simp only [whitenDecomp, hsvd]
  refine ⟨(cols p ds.records).map meanCol, pcaAssemble floor ds.records.length s vt, ?_,
    pcaAssemble_length floor _ s vt hs, ?_⟩
  · unfold whitenFitDataset whitenFitParams
    rw [hq]
    exact whiten_fit_spec _ p ds.records _ hn hd
  · intro a b ha hb
    have hWl := pcaAssemble_length floor ds.records.length s vt hs
    rw [covE_whitened p ds.records _ hn hrows (pcaAssemble_row_length floor _ s vt p hvt) a b
      (hWl ▸ ha) (hWl ▸ hb)]
    exact pca_WSWt hsq floor hf p ds.records s vt h2 hs hgram horth a b ha hb

/-- **PCA whitening gives identity sample covariance on full-rank data** — "full rank" in the form the code
decides it: no singular value of the centred data below the floor (`1e-8`).  The certificate `W cov Wᵀ = I`
that `whiten_identity_cov` assumes is *derived* here from the SVD contract. -/
theorem pca_whitens {ε T W : Type} (hsq : SqrtContract α) (floor : α) (hf : 0 < floor) (ext : Factor α ε)
    (q : WParams) (hq : q.method = .pca) (p : Nat) (ds : DS (List (List α)) T W)
    (h2 : 2 ≤ ds.records.length) (hrows : ∀ r ∈ ds.records, r.length = p)
    (s : List α) (vt : List (List α)) (hsvd : ext.svdVt (centredRows p ds.records) = .ok (s, vt))
    (hs : s.length = vt.length) (hvt : ∀ w ∈ vt, w.length = p)
    (hgram : ∀ i j, i < p → j < p →
      (ds.records.map fun r => (r.getD i 0 - meanCol (col ds.records i)) *
          (r.getD j 0 - meanCol (col ds.records j))).sum =
        ∑ k ∈ Finset.range vt.length, wE vt k i * (s.getD k 0 * s.getD k 0) * wE vt k j)
    (horth : ∀ a b, a < vt.length → b < vt.length →
      ∑ i ∈ Finset.range p, wE vt a i * wE vt b i = if a = b then 1 else 0)
    (hfloor : ∀ a, a < vt.length → floor ≤ s.getD a 0) :
    ∃ mean Wm, whitenFitDataset floor ext q p ds = .ok (mean, Wm) ∧ Wm.length = vt.length ∧
      ∀ a b, a < vt.length → b < vt.length →
        covE (whitenTransform mean Wm ds.records) a b = if a = b then 1 else 0 := by
  obtain ⟨mean, Wm, h1, h2', h3⟩ := pca_fit_cov hsq floor hf ext q hq p ds h2 hrows s vt hsvd hs hvt hgram horth
  refine ⟨mean, Wm, h1, h2', ?_⟩
  intro a b ha hb
  rw [h3 a b ha hb]
  by_cases hab : a = b
  · have hpos : 0 < s.getD a 0 := lt_of_lt_of_le hf (hfloor a ha)
    rw [if_pos hab, if_pos hab, maxS_eq_max, max_eq_left (hfloor a ha), div_self (mul_pos hpos hpos).ne']
  · rw [if_neg hab, if_neg hab]

/-- **below the floor the data is not whitened** (open finding `C16-whiten-pca-tiny-scale`, for every dataset):
a singular value `0 ≤ s_a < floor` is replaced by the floor, and the variance of the whitened component `a`
is `(s_a / floor)² < 1`. -/
theorem pca_floor_hit_not_white {ε T W : Type} (hsq : SqrtContract α) (floor : α) (hf : 0 < floor)
    (ext : Factor α ε) (q : WParams) (hq : q.method = .pca) (p : Nat) (ds : DS (List (List α)) T W)
    (h2 : 2 ≤ ds.records.length) (hrows : ∀ r ∈ ds.records, r.length = p)
    (s : List α) (vt : List (List α)) (hsvd : ext.svdVt (centredRows p ds.records) = .ok (s, vt))
    (hs : s.length = vt.length) (hvt : ∀ w ∈ vt, w.length = p)
    (hgram : ∀ i j, i < p → j < p →
      (ds.records.map fun r => (r.getD i 0 - meanCol (col ds.records i)) *
          (r.getD j 0 - meanCol (col ds.records j))).sum =
        ∑ k ∈ Finset.range vt.length, wE vt k i * (s.getD k 0 * s.getD k 0) * wE vt k j)
    (horth : ∀ a b, a < vt.length → b < vt.length →
      ∑ i ∈ Finset.range p, wE vt a i * wE vt b i = if a = b then 1 else 0)
    (a : Nat) (ha : a < vt.length) (hnn : 0 ≤ s.getD a 0) (hlow : s.getD a 0 < floor) :
    ∃ mean Wm, whitenFitDataset floor ext q p ds = .ok (mean, Wm) ∧
      covE (whitenTransform mean Wm ds.records) a a = (s.getD a 0 * s.getD a 0) / (floor * floor) ∧
      covE (whitenTransform mean Wm ds.records) a a < 1 := by
  obtain ⟨mean, Wm, h1, _, h3⟩ := pca_fit_cov hsq floor hf ext q hq p ds h2 hrows s vt hsvd hs hvt hgram horth
  have hmax : maxS (s.getD a 0) floor = floor := by rw [maxS_eq_max, max_eq_right hlow.le]
  have hval := h3 a a ha ha
  rw [if_pos rfl, hmax] at hval
  refine ⟨mean, Wm, h1, hval, ?_⟩
  rw [hval, div_lt_one (mul_pos hf hf)]
  exact mul_lt_mul'' hlow hlow hnn hnn

/-- **the fit reads the records only**: targets, sample weights and names of the training dataset do not
influence the fitted scaler / whitener (`self.method.fit(x.records())`, `x.records()` / `x.nsamples()`) —
stated for `fitDataset` / `whitenFitDataset`, the functions the driver answers the requests through. -/
theorem fit_ignores_weights_targets {ε T W T' W' : Type} (eps floor : α) (p : Nat) (qp : Params α) (qw : WParams)
    (ext : Factor α ε) (ds : DS (List (List α)) T W) (t' : T') (w' : W') (fn tn : List String) :
    fitDataset eps p qp { records := ds.records, targets := t', weights := w', featureNames := fn, targetNames := tn } =
      fitDataset eps p qp ds ∧
    whitenFitDataset floor ext qw p
        { records := ds.records, targets := t', weights := w', featureNames := fn, targetNames := tn } =
      whitenFitDataset floor ext qw p ds :=
  ⟨rfl, rfl⟩

end whitening

/-! ### non-vacuity: the hypotheses are satisfiable on concrete, non-trivial values -/
section nonvacuity

/-- shape hypotheses (`standard_zero_mean`, `no_mean_keeps_mean`, `no_std_keeps_spread`,
`transform_*`): a 2 × 2 matrix -/
example : ([[1, 2], [3, 5]] : List (List ℚ)) ≠ [] ∧
    ∀ r ∈ ([[1, 2], [3, 5]] : List (List ℚ)), r.length = 2 := by decide

/-- guard of `minmax_range_attained` with the machine epsilon -/
example : (1 / 2 ^ 52 : ℚ) < maxCol (col [[1, 2], [3, 5]] 1) - minCol (col [[1, 2], [3, 5]] 1) := by
  decide +kernel

/-- guard of `maxabs_one` -/
example : (1 / 2 ^ 52 : ℚ) < normMax (col [[1, -2], [3, 5]] 1) := by
  decide +kernel

/-- `constant_only_centred`: a constant column next to a varying one -/
example : ∀ x ∈ col ([[7, 2], [7, 5]] : List (List ℚ)) 0, x = 7 := by decide +kernel

/-- `norm_unit` / `norm_zero_row_unchanged`: a non-zero row and a zero row -/
example : (∃ x ∈ ([3, -4] : List ℚ), x ≠ 0) ∧ (∀ x ∈ ([0, 0] : List ℚ), x = 0) :=
  by decide +kernel

/-- `metadata_passthrough`: a dataset form that succeeds -/
example : transformDataset (R := Nat) (R' := Nat) (T := List Nat) (W := List Nat)
    (fun r => some r) id List.length ⟨2, [10, 11], [1, 1], ["a", "b"], []⟩ =
    some ⟨2, [10, 11], [1, 1], ["a", "b"], []⟩ := rfl

/-- `whiten_identity_cov`: the certificate is satisfiable on non-trivial data — two uncorrelated
features with sample variances 4 and 1, `W = diag(1/2, 1)` -/
example :
    let rows : List (List ℚ) := [[2, 1], [-2, 1], [2, -1], [-2, -1], [0, 0]]
    let W : List (List ℚ) := [[1 / 2, 0], [0, 1]]
    ∀ a b, a < W.length → b < W.length →
      ∑ i ∈ Finset.range 2, ∑ j ∈ Finset.range 2, wE W a i * covE rows i j * wE W b j =
        if a = b then 1 else 0 := by
  dsimp only
  exact forall_lt_lt (by decide +kernel)

/-- `minmax_constant_to_lo` / `calling_forms_agree`: a constant column next to a varying one; the setter on a
max-abs parameter object -/
example : (∀ x ∈ col ([[7, 2], [7, 5]] : List (List ℚ)) 0, x = 7) ∧
    ((Params.maxAbs (α := ℚ)).setMethod (.standard true false)).method = .standard true false :=
  ⟨by decide +kernel, rfl⟩

/-- `maxabs_sub_eps_unscaled`: a non-constant column below the machine epsilon -/
example : normMax (col ([[1 / 2 ^ 60], [1 / 2 ^ 61]] : List (List ℚ)) 0) ≤ 1 / 2 ^ 52 := by
  decide +kernel

/-- `pca_whitens` / `pca_fit_cov`: the SVD contract is satisfiable on non-trivial data — two uncorrelated
centred features with Gram matrix `diag(16, 4)`, `Vᵀ = I`, `s = [4, 2]`, all above the floor `1e-8` -/
example :
    let rows : List (List ℚ) := [[2, 1], [-2, 1], [2, -1], [-2, -1]]
    let vt : List (List ℚ) := [[1, 0], [0, 1]]
    let s : List ℚ := [4, 2]
    (∀ i j, i < 2 → j < 2 →
      (rows.map fun r => (r.getD i 0 - meanCol (col rows i)) * (r.getD j 0 - meanCol (col rows j))).sum =
        ∑ k ∈ Finset.range vt.length, wE vt k i * (s.getD k 0 * s.getD k 0) * wE vt k j) ∧
    (∀ a b, a < vt.length → b < vt.length →
      ∑ i ∈ Finset.range 2, wE vt a i * wE vt b i = if a = b then 1 else 0) ∧
    (∀ a, a < vt.length → (1 / 10 ^ 8 : ℚ) ≤ s.getD a 0) := by
  dsimp only
  exact ⟨forall_lt_lt (by decide +kernel), forall_lt_lt (by decide +kernel), by decide +kernel⟩

/-- `pca_floor_hit_not_white`: a singular value below the floor — `s = [1 / 10^9]` against the floor `1 / 10^8` -/
example : (0 : ℚ) ≤ ([1 / 10 ^ 9] : List ℚ).getD 0 0 ∧ ([1 / 10 ^ 9] : List ℚ).getD 0 0 < 1 / 10 ^ 8 := by
  decide +kernel

noncomputable local instance : Transc ℝ := ⟨Real.sqrt, id, id⟩

/-- `fit_ignores_weights_targets`: a weighted dataset and the same records without weights reach the same fit -/
example : fitDataset (T := Unit) (W := List Nat) (1 / 2 ^ 52 : ℝ) 1 (Params.minMax)
      { records := [[1], [3]], targets := (), weights := [5, 1], featureNames := [], targetNames := [] } =
    fitMinMax (1 / 2 ^ 52 : ℝ) 1 [[1], [3]] 0 1 := rfl


example : SqrtContract ℝ := fun x hx => ⟨Real.mul_self_sqrt hx, Real.sqrt_nonneg x⟩

/-- guard of `standard_unit_var` on real data: the column `[0, 2]` has standard deviation 1 -/
example : (1 / 2 : ℝ) < stdCol (col [[0], [2]] 0) := by
  have hv : varCol 0 (col ([[0], [2]] : List (List ℝ)) 0) = 1 := by
    rw [varCol_eq_dev]; norm_num [col, meanCol, sumS]
  show (1 / 2 : ℝ) < Real.sqrt (varCol 0 (col [[0], [2]] 0))
  rw [hv, Real.sqrt_one]; norm_num

end nonvacuity

end LinfaSpec.Props.C16
