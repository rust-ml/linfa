/-
What the scalar primitives of `Model/Scalar.lean` are once the scalar has Mathlib's structure:
`sumS` is `List.sum`, `maxS` / `minS` are `max` / `min`, `absS` is `|·|`.
-/
import LinfaSpec.Model.Scalar
import Mathlib.Algebra.BigOperators.Group.List.Basic
import Mathlib.Algebra.Order.Group.Abs

namespace LinfaSpec

theorem foldl_add_eq {α} [AddMonoid α] (l : List α) (a : α) : l.foldl (· + ·) a = a + l.sum := by
  induction l generalizing a with
  | nil => rw [List.foldl_nil, List.sum_nil, add_zero]
  | cons x xs ih => rw [List.foldl_cons, ih, List.sum_cons, add_assoc]

theorem sumS_eq_sum {α} [AddMonoid α] (l : List α) : sumS l = l.sum := by
  rw [sumS, foldl_add_eq, zero_add]

theorem sumS_cons {α} [AddMonoid α] (x : α) (l : List α) : sumS (x :: l) = x + sumS l := by
  rw [sumS_eq_sum, sumS_eq_sum, List.sum_cons]

theorem sumS_append {α} [AddMonoid α] (a b : List α) : sumS (a ++ b) = sumS a + sumS b := by
  rw [sumS_eq_sum, sumS_eq_sum, sumS_eq_sum, List.sum_append]

section Order
variable {α : Type*} [LinearOrder α]

theorem maxS_eq_max (a b : α) : maxS a b = max a b := by
  unfold maxS
  split
  · next h => exact (max_eq_right h.le).symm
  · next h => exact (max_eq_left (not_lt.mp h)).symm

theorem minS_eq_min (a b : α) : minS a b = min a b := by
  unfold minS
  split
  · next h => exact (min_eq_right h.le).symm
  · next h => exact (min_eq_left (not_lt.mp h)).symm

theorem absS_eq_abs [AddCommGroup α] [IsOrderedAddMonoid α] (x : α) : absS x = |x| := by
  unfold absS
  split
  · next h => exact (abs_of_neg h).symm
  · next h => exact (abs_of_nonneg (not_lt.mp h)).symm

end Order

end LinfaSpec
