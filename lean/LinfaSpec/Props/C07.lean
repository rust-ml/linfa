import LinfaSpec.Proofs.NN
import LinfaSpec.Proofs.NNMetrics
import LinfaSpec.Proofs.NNBridge
import LinfaSpec.Drv.C07

/-!
# C07 — nearest-neighbour indices return the true neighbours and are interchangeable

Theorems about `LinfaSpec.NN` (the model of `linfa-nn`), for an arbitrary point type `P`, every
point set, query, `k`, radius, leaf size, every split function satisfying the contract of
`partition` (`SplitPerm`: the two halves together are the input) and every distance that is
`Lawful` (non-negative, triangle inequality, `rdistance = dist_to_rdist ∘ distance` with
`dist_to_rdist` strictly increasing on `[0,∞)` and `rdist_to_dist` its inverse) — the facts the
pruning of the ball tree relies on.  Arithmetic is exact (ordered field); floating-point rounding
of the pruning bound is covered by the correspondence run only.
-/
namespace LinfaSpec.Props.C07
open LinfaSpec.NN
set_option linter.unusedSectionVars false

section
variable {P α : Type} [Field α] [LinearOrder α] [IsStrictOrderedRing α]

/-- **the statement's k-nearest clause**: `out` consists of `min k n` stored points (a sub-multiset
of the batch: coordinates and row position travel together), in ascending distance, and every
stored point left out is at least as far as every returned one (ties arbitrary). -/
def KNearest (m : Metric P α) (q : P) (pts out : List (Pt P)) (k : Nat) : Prop :=
  ∃ rest, (out ++ rest).Perm pts ∧ out.length = min k pts.length ∧
    out.Pairwise (fun a b => m.rdist q a.1 ≤ m.rdist q b.1) ∧
    ∀ y ∈ out, ∀ x ∈ rest, m.rdist q y.1 ≤ m.rdist q x.1

theorem kNearest_of_isKnn (m : Metric P α) (q : P) (pts : List (Pt P)) (T : List (α × Pt P)) (k : Nat)
    (h : IsKnn (pts.map (tag m q)) T k) : KNearest m q pts (T.map (·.2)) k := by
  obtain ⟨rest, hp, hl, ha, hm⟩ := h
  -- every entry is the tag of its own point, so the keys are the reduced distances
  have htag : ∀ e ∈ T ++ rest, e.1 = m.rdist q e.2.1 := fun e he => by
    obtain ⟨p, _, rfl⟩ := List.mem_map.mp (hp.subset he)
    rfl
  have hT := fun e he => htag e (List.mem_append_left rest he)
  have hR := fun e he => htag e (List.mem_append_right T he)
  refine ⟨rest.map (·.2), ?_, ?_, ?_, ?_⟩
  · simpa only [List.map_append, List.map_map, List.map_id', Function.comp_def, tag] using hp.map (·.2)
  · rw [List.length_map, hl, List.length_map]
  · rw [List.pairwise_map]
    exact ha.imp_of_mem fun ha' hb' hab => hT _ ha' ▸ hT _ hb' ▸ hab
  · simp only [List.forall_mem_map]
    exact fun y hy x hx => hT y hy ▸ hR x hx ▸ hm y hy x hx

/-- **ties may be broken arbitrarily, the distances may not**: two k-nearest answers to the same
query have the same distance sequence. -/
theorem kNearest_dists_unique (m : Metric P α) (q : P) (pts o1 o2 : List (Pt P)) (k : Nat)
    (h1 : KNearest m q pts o1 k) (h2 : KNearest m q pts o2 k) :
    o1.map (fun p => m.rdist q p.1) = o2.map (fun p => m.rdist q p.1) := by
  -- a k-nearest answer, tagged with the reduced distances, is a k-nearest selection of the tagged batch
  have tagged : ∀ {out}, KNearest m q pts out k → IsKnn (pts.map (tag m q)) (out.map (tag m q)) k :=
    fun ⟨rest, hp, hl, ha, hm⟩ => ⟨rest.map (tag m q), List.map_append ▸ hp.map _,
      by rw [List.length_map, hl, List.length_map], List.pairwise_map.mpr ha,
      List.forall_mem_map.mpr fun y hy => List.forall_mem_map.mpr (hm y hy)⟩
  have h := isKnn_keys_unique (tagged h1) (tagged h2)
  rwa [List.map_map, List.map_map] at h

/-- **linear_knn_correct**: for every point set, query and `k` (including `0` and `k > n`). -/
theorem linear_knn_correct (m : Metric P α) (q : P) (k : Nat) (pts : List (Pt P)) :
    KNearest m q pts (linearKnn m q k pts) k :=
  kNearest_of_isKnn m q pts _ k (linearKnnTagged_isKnn m q k pts)

/-- **linear_range_correct**: a stored point is returned iff it lies strictly inside the radius. -/
theorem linear_range_correct (m : Metric P α) (q : P) (r : α) (pts : List (Pt P)) (p : Pt P) :
    p ∈ linearRange m q r pts ↔ p ∈ pts ∧ m.rdist q p.1 < m.toR r := by
  simp [linearRange]

/-- the reduced comparison the code makes is the comparison of the statement: strictly inside -/
theorem range_iff_dist {m : Metric P α} (h : Lawful m) (q x : P) {r : α} (hr : 0 ≤ r) :
    m.rdist q x < m.toR r ↔ m.dist q x < r := by
  rw [h.rdist_eq]
  constructor
  · intro hlt
    by_contra hge
    exact absurd (h.toR_mono hr (not_lt.mp hge)) (not_le.mpr hlt)
  · exact h.toR_strictMono _ _ (h.dist_nonneg _ _)

/-- **ball_inv**: the state invariant — in every tree `BallTreeInner::new` builds, every point of
a subtree lies within `radius` of `center`. -/
theorem ball_inv {m : Metric P α} (h : Lawful m) (mean : List P → P)
    (split : List (Pt P) → Option (List (Pt P) × P × List (Pt P))) (hs : SplitPerm split)
    (leafSize fuel : Nat) (pts : List (Pt P)) (hnd : (pts.map (·.2)).Nodup) :
    BallInv m (build m mean split leafSize fuel pts) :=
  build_inv h hs leafSize fuel pts hnd

/-- the tree stores exactly the batch -/
theorem build_stores_batch {m : Metric P α} (mean : List P → P)
    (split : List (Pt P) → Option (List (Pt P) × P × List (Pt P))) (hs : SplitPerm split)
    (leafSize fuel : Nat) (pts : List (Pt P)) (hnd : (pts.map (·.2)).Nodup) :
    (build m mean split leafSize fuel pts).points.Perm pts :=
  build_perm hs leafSize fuel pts hnd

/-- **bound_sound**: the pruning bound never exceeds the reduced distance to a point of the ball. -/
theorem bound_sound {m : Metric P α} (h : Lawful m) (q : P) (node : Ball P α) (hn : BallInv m node)
    (x : Pt P) (hx : x ∈ node.points) : lower m q node ≤ m.rdist q x.1 :=
  lower_le h q hn x hx

theorem isKnn_perm {β : Type} {E E' out : List (α × β)} {k : Nat} (h : IsKnn E out k) (hp : E.Perm E') :
    IsKnn E' out k :=
  h.perm hp

/-- the search loop of `nn_helper` on any tree satisfying the invariant: the `k` nearest eligible
points (`R = none`: all points; `R = some t`: reduced distance `< t`) -/
theorem search_isKnn {m : Metric P α} (h : Lawful m) (q : P) {k : Nat} (hk : 0 < k) (R : Option α)
    (tree : Ball P α) (ht : BallInv m tree) :
    IsKnn (Elig m q R tree.points) (searchTagged m tree q k R) k :=
  searchTagged_isKnn h q hk R tree ht

theorem elig_none (m : Metric P α) (q : P) (pts : List (Pt P)) :
    Elig m q none pts = pts.map (tag m q) :=
  List.filter_eq_self.mpr fun _ _ => rfl

theorem elig_some_snd (m : Metric P α) (q : P) (t : α) (pts : List (Pt P)) :
    (Elig m q (some t) pts).map (·.2) = pts.filter fun p => m.rdist q p.1 < t := by
  rw [Elig, List.filter_map, List.map_map]
  exact List.map_id _

theorem nnHelper_ok (m : Metric P α) (ix : BallIndex P α) (qdim n : Nat) (q : P) (k : Nat)
    (R : Option α) (hd : ix.dim = qdim) (hl : ix.len = n) :
    nnHelper m ix qdim q k R =
      .ok (if n = 0 ∨ k = 0 then [] else (searchTagged m ix.tree q k R).map (·.2)) := by
  subst hl
  rw [nnHelper, if_neg (not_not_intro hd)]
  split <;> rfl

/-- **search_knn_correct**: `BallTreeIndex::k_nearest` (build + `nn_helper`, `max_radius = ∞`)
returns the `k` nearest stored points, for every batch, leaf size, split, query and `k ≥ 0`
(`k = 0` is answered by the guard `self.len == 0 || k == 0` with the empty list). -/
theorem search_knn_correct {m : Metric P α} (h : Lawful m) (mean : List P → P)
    (split : List (Pt P) → Option (List (Pt P) × P × List (Pt P))) (hs : SplitPerm split)
    (leafSize ncols : Nat) (rows : List P) (q : P) (k : Nat) :
    ∃ out, ballKnnQ m (ballIndex m mean split leafSize ncols rows) ncols q k = .ok out ∧
      KNearest m q (enumerate rows) out k := by
  refine ⟨_, nnHelper_ok m _ ncols rows.length q k none rfl rfl, ?_⟩
  split
  · -- an empty batch or `k = 0`: the empty answer
    rename_i h0
    refine ⟨enumerate rows, .refl _, ?_, .nil, fun _ hy => nomatch hy⟩
    rw [enumerate, List.length_zipIdx, List.length_nil]
    omega
  · rename_i h0
    have := searchTagged_ballIndex h mean split hs leafSize ncols rows q (k := k) (by omega) none
    rw [elig_none] at this
    exact kNearest_of_isKnn m q _ _ k this

/-- **search_range_correct**: `BallTreeIndex::within_range` returns exactly (as a multiset) the
stored points strictly inside the radius. -/
theorem search_range_correct {m : Metric P α} (h : Lawful m) (mean : List P → P)
    (split : List (Pt P) → Option (List (Pt P) × P × List (Pt P))) (hs : SplitPerm split)
    (leafSize ncols : Nat) (rows : List P) (q : P) (r : α) :
    ∃ out, ballRangeQ m (ballIndex m mean split leafSize ncols rows) ncols q r = .ok out ∧
      out.Perm (linearRange m q r (enumerate rows)) := by
  refine ⟨_, nnHelper_ok m _ ncols rows.length q rows.length (some (m.toR r)) rfl rfl, ?_⟩
  split
  · rename_i h0
    rw [List.length_eq_zero_iff.mp (h0.elim id id)]
    exact .refl _
  · rename_i h0
    -- `k = n` and at most `n` rows are eligible, so nothing is left out
    have hle : (Elig m q (some (m.toR r)) (enumerate rows)).length ≤ rows.length :=
      (List.length_filter_le _ _).trans (by rw [List.length_map, enumerate, List.length_zipIdx])
    rw [linearRange, ← elig_some_snd]
    exact ((searchTagged_ballIndex h mean split hs leafSize ncols rows q (by omega)
      (some (m.toR r))).perm_of_length_le hle).map _

/-- **indices_agree** (k nearest): the ball tree and the linear scan return the same distance
sequence for every query (the k-d tree is the external crate: by contract it is the linear answer). -/
theorem indices_agree_knn {m : Metric P α} (h : Lawful m) (mean : List P → P)
    (split : List (Pt P) → Option (List (Pt P) × P × List (Pt P))) (hs : SplitPerm split)
    (leafSize ncols : Nat) (rows : List P) (q : P) (k : Nat) :
    ∃ ob, ballKnnQ m (ballIndex m mean split leafSize ncols rows) ncols q k = .ok ob ∧
      linearKnnQ m ncols ncols q k (enumerate rows) = .ok (linearKnn m q k (enumerate rows)) ∧
      ob.map (fun p => m.rdist q p.1) = (linearKnn m q k (enumerate rows)).map (fun p => m.rdist q p.1) := by
  obtain ⟨ob, hb, hkb⟩ := search_knn_correct h mean split hs leafSize ncols rows q k
  refine ⟨ob, hb, by simp [linearKnnQ], ?_⟩
  exact kNearest_dists_unique m q _ _ _ k hkb (linear_knn_correct m q k _)

/-- **the k-d tree's `within_range` glue**: `kdtree::within` (contract: `rdist ≤ radius`) followed by
linfa's own filter `dist < range` is the strict filter of the ascending scan; the filter of
`KdTreeIndex::within_range` is part of the model the driver runs (`kdRangeQ`). -/
theorem kd_within_then_filter (m : Metric P α) (q : P) (t : α) (pts : List (Pt P)) :
    (kdWithin m q t pts).filter (fun e => e.1 < t) =
      (linearKnnTagged m q pts.length pts).filter (fun e => e.1 < t) := by
  unfold kdWithin
  rw [List.filter_filter]
  apply List.filter_congr
  intro e _
  by_cases h : e.1 < t <;> simp [h, le_of_lt]

/-- …and the filter is needed: `within` alone keeps every stored point lying exactly on the radius
(commit 40eef7f of the repository added the filter for that reason), the filtered answer contains none of them. -/
theorem kd_within_keeps_border (m : Metric P α) (q : P) (r : α) (pts : List (Pt P)) (p : Pt P)
    (hp : p ∈ pts) (hb : m.rdist q p.1 = m.toR r) :
    (m.rdist q p.1, p) ∈ kdWithin m q (m.toR r) pts ∧
      (m.rdist q p.1, p) ∉ (kdWithin m q (m.toR r) pts).filter (fun e => e.1 < m.toR r) := by
  constructor
  · rw [kdWithin, List.mem_filter, (linearKnnTagged_length_perm m q pts).mem_iff]
    exact ⟨List.mem_map.mpr ⟨p, hp, rfl⟩, decide_eq_true hb.le⟩
  · rw [List.mem_filter, hb]
    exact fun h => lt_irrefl _ (of_decide_eq_true h.2)

/-- **indices_agree** (range, border included): all kinds keep exactly the points with
`rdist < dist_to_rdist r`; a point on the radius is excluded by each of them. -/
theorem indices_agree_range {m : Metric P α} (h : Lawful m) (mean : List P → P)
    (split : List (Pt P) → Option (List (Pt P) × P × List (Pt P))) (hs : SplitPerm split)
    (leafSize ncols : Nat) (rows : List P) (q : P) (r : α) :
    ∃ ob ok, ballRangeQ m (ballIndex m mean split leafSize ncols rows) ncols q r = .ok ob ∧
      kdRangeQ m ncols ncols q r (enumerate rows) = .ok ok ∧
      ob.Perm (linearRange m q r (enumerate rows)) ∧ ok.Perm (linearRange m q r (enumerate rows)) ∧
      ∀ p ∈ enumerate rows, m.rdist q p.1 = m.toR r → p ∉ ob ∧ p ∉ ok ∧ p ∉ linearRange m q r (enumerate rows) := by
  obtain ⟨ob, hb, hpb⟩ := search_range_correct h mean split hs leafSize ncols rows q r
  -- the k-d tree's answer: the strict filter of all tagged points, projected
  have hkd : (((kdWithin m q (m.toR r) (enumerate rows)).filter fun e => e.1 < m.toR r).map (·.2)).Perm
      (linearRange m q r (enumerate rows)) := by
    rw [kd_within_then_filter, linearRange, ← elig_some_snd]
    exact ((linearKnnTagged_length_perm m q _).filter _).map _
  refine ⟨ob, _, hb, if_neg (not_not_intro rfl), hpb, hkd, fun p _ heq => ?_⟩
  have hnot : p ∉ linearRange m q r (enumerate rows) := fun hc =>
    lt_irrefl _ (heq ▸ ((linear_range_correct m q r _ p).mp hc).2)
  exact ⟨fun hc => hnot (hpb.subset hc), fun hc => hnot (hkd.subset hc), hnot⟩

end

/-! ### non-vacuity: the hypotheses are satisfiable on concrete, non-trivial values -/
section examples

/-- points on the rational line, distance `|a - b|`, reduced distance `2|a - b|` (a reduced
distance different from the distance, like L2's square) -/
def mQ : Metric ℚ ℚ := ⟨fun a b => |a - b|, fun a b => 2 * |a - b|, fun d => 2 * d, fun d => d / 2⟩

theorem mQ_lawful : Lawful mQ where
  dist_nonneg _ _ := abs_nonneg _
  triangle a b c := abs_sub_le a b c
  rdist_eq _ _ := rfl
  toR_strictMono _ _ _ hab := mul_lt_mul_of_pos_left hab two_pos
  ofR_toR a _ := mul_div_cancel_left₀ a two_ne_zero

/-- a split in the shape of `partition`: first point left, the rest right, centre = first point -/
def splitQ : List (Pt ℚ) → Option (List (Pt ℚ) × ℚ × List (Pt ℚ))
  | [] => none
  | p :: ps => some ([p], p.1, ps)

theorem splitQ_perm : SplitPerm splitQ := by
  intro pts a c b _ h
  cases pts with
  | nil => simp [splitQ] at h
  | cons p ps =>
    simp only [splitQ, Option.some.injEq, Prod.mk.injEq] at h
    obtain ⟨rfl, _, rfl⟩ := h
    simp

def meanQ (l : List ℚ) : ℚ := l.sum / l.length

-- `Lawful` and `SplitPerm` hold of concrete values, so the theorems of this file apply, e.g. to a
-- batch with duplicates and ties, leaf size 1, k beyond a tie, k = 0, k > n, a point on the radius:
example : ∃ out, ballKnnQ mQ (ballIndex mQ meanQ splitQ 1 1 [0, 3, 1, 3, 7]) 1 2 3 = .ok out ∧
    KNearest mQ 2 (enumerate [0, 3, 1, 3, 7]) out 3 :=
  search_knn_correct mQ_lawful meanQ splitQ splitQ_perm 1 1 _ 2 3
example : ∃ out, ballKnnQ mQ (ballIndex mQ meanQ splitQ 1 1 [0, 3, 1, 3, 7]) 1 2 0 = .ok out ∧
    KNearest mQ 2 (enumerate [0, 3, 1, 3, 7]) out 0 :=
  search_knn_correct mQ_lawful meanQ splitQ splitQ_perm 1 1 _ 2 0
example : ∃ out, ballRangeQ mQ (ballIndex mQ meanQ splitQ 2 1 [0, 3, 1, 3, 7]) 1 2 1 = .ok out ∧
    out.Perm (linearRange mQ 2 1 (enumerate [0, 3, 1, 3, 7])) :=
  search_range_correct mQ_lawful meanQ splitQ splitQ_perm 2 1 _ 2 1
example : BallInv mQ (build mQ meanQ splitQ 1 5 (enumerate [0, 3, 1, 3, 7])) :=
  ball_inv mQ_lawful meanQ splitQ splitQ_perm 1 5 _ (enumerate_nodup _)
example : KNearest mQ 2 (enumerate [0, 3, 1, 3, 7]) (linearKnn mQ 2 9 (enumerate [0, 3, 1, 3, 7])) 9 :=
  linear_knn_correct mQ 2 9 _
example : buildCheck 3 16 = .ok () ∧ buildCheck 0 16 = .error .zeroDimension ∧
    buildCheck 3 0 = .error .emptyLeaf ∧ buildCheck 0 0 = .error .emptyLeaf := by decide

end examples

/-- **errors**: a zero leaf size or a zero dimension is a build error for every kind. -/
theorem build_errors (ncols leaf : Nat) :
    (buildCheck ncols leaf = .ok ()) ↔ (0 < leaf ∧ 0 < ncols) := by
  rw [buildCheck]
  by_cases h1 : leaf = 0
  · rw [if_pos h1]
    exact ⟨fun h => (nomatch h), fun h => absurd h1 h.1.ne'⟩
  · rw [if_neg h1]
    by_cases h2 : ncols = 0
    · rw [if_pos h2]
      exact ⟨fun h => (nomatch h), fun h => absurd h2 h.2.ne'⟩
    · rw [if_neg h2]
      exact ⟨fun _ => ⟨Nat.pos_of_ne_zero h1, Nat.pos_of_ne_zero h2⟩, fun _ => rfl⟩

/-- **errors**: a query of the wrong dimension is an error for every kind and both query forms,
never an answer. -/
theorem query_errors {P α : Type} [LT α] [DecidableLT α] [LE α] [DecidableLE α] [OfNat α 0] [Sub α]
    (m : Metric P α) (dim qdim : Nat) (hd : dim ≠ qdim) (q : P) (k : Nat) (r : α)
    (pts : List (Pt P)) (ix : BallIndex P α) (hix : ix.dim = dim) :
    linearKnnQ m dim qdim q k pts = .error .wrongDimension ∧
    linearRangeQ m dim qdim q r pts = .error .wrongDimension ∧
    kdKnnQ m dim qdim q k pts = .error .wrongDimension ∧
    kdRangeQ m dim qdim q r pts = .error .wrongDimension ∧
    ballKnnQ m ix qdim q k = .error .wrongDimension ∧
    ballRangeQ m ix qdim q r = .error .wrongDimension := by
  simp [linearKnnQ, linearRangeQ, kdKnnQ, kdRangeQ, ballKnnQ, ballRangeQ, nnHelper, hd, hix]

/-! ### the whole call: `CommonNearestNeighbour` dispatch, build forms, build + query -/
section glue
variable {P α : Type} [Field α] [LinearOrder α] [IsStrictOrderedRing α]

/-- `from_batch` is `from_batch_with_leaf_size` with leaf size `2^4 = 16` -/
theorem from_batch_default (m : Metric P α) (mean : List P → P)
    (split : List (Pt P) → Option (List (Pt P) × P × List (Pt P))) (kind : Kind) (ncols : Nat)
    (rows : List P) :
    fromBatch m mean split kind ncols rows = fromBatchWithLeafSize m mean split kind 16 ncols rows ∧
    buildForm m mean split kind .default ncols rows =
      buildForm m mean split kind (.leaf 16) ncols rows := ⟨rfl, rfl⟩

theorem buildForm_eq (m : Metric P α) (mean : List P → P)
    (split : List (Pt P) → Option (List (Pt P) × P × List (Pt P))) (kind : Kind) (form : Form)
    (ncols : Nat) (rows : List P) :
    buildForm m mean split kind form ncols rows =
      fromBatchWithLeafSize m mean split kind (form.leafSize) ncols rows :=
  buildForm_leafSize m mean split kind form ncols rows

/-- **the statement's k-nearest clause for the whole call**: for every kind of
`CommonNearestNeighbour`, both build forms, every batch, leaf size ≥ 1, dimension ≥ 1, query of the
right dimension and every `k ≥ 0`: build + `k_nearest` succeeds and returns `KNearest`. -/
theorem common_knn_correct {m : Metric P α} (h : Lawful m) (mean : List P → P)
    (split : List (Pt P) → Option (List (Pt P) × P × List (Pt P))) (hs : SplitPerm split)
    (kind : Kind) (form : Form) (ncols : Nat) (hl : 0 < form.leafSize) (hc : 0 < ncols)
    (rows : List P) (q : P) (k : Nat) :
    ∃ out, knnRequest m mean split kind form ncols rows ncols q k = .ok out ∧
      KNearest m q (enumerate rows) out k := by
  have hb : buildCheck ncols (form.leafSize) = .ok () := (build_errors ncols _).mpr ⟨hl, hc⟩
  unfold knnRequest
  rw [buildForm_eq]
  unfold fromBatchWithLeafSize
  rw [hb]
  cases kind with
  | linear | kd =>
    exact ⟨linearKnn m q k (enumerate rows), by simp [Index.kNearest, linearKnnQ, kdKnnQ],
      linear_knn_correct m q k _⟩
  | ball =>
    obtain ⟨out, ho, hk⟩ := search_knn_correct h mean split hs (form.leafSize) ncols rows q k
    exact ⟨out, by simp [Index.kNearest, ho], hk⟩

/-- **the statement's range clause for the whole call**: every kind answers with exactly (as a
multiset) the stored points with `rdist < dist_to_rdist r`; for `r ≥ 0` these are the points
strictly inside the radius, and no point at distance `≥ r` (on or outside the sphere) is returned. -/
theorem common_range_correct {m : Metric P α} (h : Lawful m) (mean : List P → P)
    (split : List (Pt P) → Option (List (Pt P) × P × List (Pt P))) (hs : SplitPerm split)
    (kind : Kind) (form : Form) (ncols : Nat) (hl : 0 < form.leafSize) (hc : 0 < ncols)
    (rows : List P) (q : P) (r : α) :
    ∃ out, rangeRequest m mean split kind form ncols rows ncols q r = .ok out ∧
      out.Perm (linearRange m q r (enumerate rows)) ∧
      (0 ≤ r → ∀ p, p ∈ out ↔ p ∈ enumerate rows ∧ m.dist q p.1 < r) := by
  have hb : buildCheck ncols (form.leafSize) = .ok () := (build_errors ncols _).mpr ⟨hl, hc⟩
  have key : ∀ out : List (Pt P), out.Perm (linearRange m q r (enumerate rows)) →
      (0 ≤ r → ∀ p, p ∈ out ↔ p ∈ enumerate rows ∧ m.dist q p.1 < r) := by
    intro out hp hr p
    rw [hp.mem_iff, linear_range_correct, range_iff_dist h q p.1 hr]
  obtain ⟨ob, okd, hob, hokd, hpb, hpk, _⟩ :=
    indices_agree_range h mean split hs (form.leafSize) ncols rows q r
  unfold rangeRequest
  rw [buildForm_eq]
  unfold fromBatchWithLeafSize
  rw [hb]
  cases kind with
  | linear =>
    exact ⟨linearRange m q r (enumerate rows), by simp [Index.withinRange, linearRangeQ],
      List.Perm.refl _, key _ (List.Perm.refl _)⟩
  | kd => exact ⟨okd, by simp [Index.withinRange, hokd], hpk, key _ hpk⟩
  | ball => exact ⟨ob, by simp [Index.withinRange, hob], hpb, key _ hpb⟩

/-- **the kinds are interchangeable**: any two kinds (built in any form) return the same distance
sequence for a k-nearest query and permutations of one another for a range query. -/
theorem common_agree {m : Metric P α} (h : Lawful m) (mean : List P → P)
    (split : List (Pt P) → Option (List (Pt P) × P × List (Pt P))) (hs : SplitPerm split)
    (k1 k2 : Kind) (f1 f2 : Form) (ncols : Nat) (hl1 : 0 < f1.leafSize) (hl2 : 0 < f2.leafSize)
    (hc : 0 < ncols) (rows : List P) (q : P) (k : Nat) (r : α) :
    (∃ o1 o2, knnRequest m mean split k1 f1 ncols rows ncols q k = .ok o1 ∧
      knnRequest m mean split k2 f2 ncols rows ncols q k = .ok o2 ∧
      o1.map (fun p => m.rdist q p.1) = o2.map (fun p => m.rdist q p.1)) ∧
    (∃ o1 o2, rangeRequest m mean split k1 f1 ncols rows ncols q r = .ok o1 ∧
      rangeRequest m mean split k2 f2 ncols rows ncols q r = .ok o2 ∧ o1.Perm o2) := by
  obtain ⟨a1, ha1, hk1⟩ := common_knn_correct h mean split hs k1 f1 ncols hl1 hc rows q k
  obtain ⟨a2, ha2, hk2⟩ := common_knn_correct h mean split hs k2 f2 ncols hl2 hc rows q k
  obtain ⟨b1, hb1, hp1, _⟩ := common_range_correct h mean split hs k1 f1 ncols hl1 hc rows q r
  obtain ⟨b2, hb2, hp2, _⟩ := common_range_correct h mean split hs k2 f2 ncols hl2 hc rows q r
  exact ⟨⟨a1, a2, ha1, ha2, kNearest_dists_unique m q _ _ _ k hk1 hk2⟩,
    ⟨b1, b2, hb1, hb2, hp1.trans hp2.symm⟩⟩

end glue

section malformed
variable {P α : Type} [LT α] [DecidableLT α] [LE α] [DecidableLE α] [OfNat α 0] [Sub α]

/-- **malformed builds or queries are errors, never answers** — for every kind and both query
forms, also when several defects coincide (zero leaf size, zero dimension, wrong query dimension). -/
theorem common_malformed (m : Metric P α) (mean : List P → P)
    (split : List (Pt P) → Option (List (Pt P) × P × List (Pt P))) (kind : Kind) (form : Form)
    (ncols qdim : Nat) (hbad : form.leafSize = 0 ∨ ncols = 0 ∨ ncols ≠ qdim)
    (rows : List P) (q : P) (k : Nat) (r : α) :
    (∀ out, knnRequest m mean split kind form ncols rows qdim q k ≠ .ok out) ∧
    (∀ out, rangeRequest m mean split kind form ncols rows qdim q r ≠ .ok out) := by
  rw [knnRequest, rangeRequest, buildForm_leafSize]
  unfold fromBatchWithLeafSize
  cases hb : buildCheck ncols form.leafSize with
  | error e => exact ⟨fun _ => nofun, fun _ => nofun⟩
  | ok u =>
    -- the build guards passed, so the defect is the query dimension: every kind refuses the query
    obtain ⟨hl, hc⟩ := (build_errors ncols _).mp hb
    have h3 : ncols ≠ qdim :=
      hbad.elim (fun h => absurd h hl.ne') fun h => h.elim (fun h => absurd h hc.ne') id
    obtain ⟨e1, e2, e3, e4, e5, e6⟩ := query_errors m ncols qdim h3 q k r (enumerate rows)
      (ballIndex m mean split form.leafSize ncols rows) rfl
    cases kind with
    | linear =>
      simp only [Index.kNearest, Index.withinRange, e1, e2]
      exact ⟨fun _ => nofun, fun _ => nofun⟩
    | kd =>
      simp only [Index.kNearest, Index.withinRange, e3, e4]
      exact ⟨fun _ => nofun, fun _ => nofun⟩
    | ball =>
      simp only [Index.kNearest, Index.withinRange, e5, e6]
      exact ⟨fun _ => nofun, fun _ => nofun⟩

end malformed


/-! ### shape of an answer: positions, canonical part, ascending distance -/
section shape
variable {P α : Type} [Field α] [LinearOrder α] [IsStrictOrderedRing α]

/-- **coordinates and row position**: every returned pair is a row of the batch at its own
position, and no row is returned twice. -/
theorem kNearest_positions (m : Metric P α) (q : P) (rows : List P) (out : List (Pt P)) (k : Nat)
    (h : KNearest m q (enumerate rows) out k) :
    (∀ p ∈ out, rows[p.2]? = some p.1) ∧ (out.map (·.2)).Nodup := by
  obtain ⟨rest, hp, _, _, _⟩ := h
  refine ⟨fun p hpo => mem_enumerate (hp.subset (List.mem_append_left _ hpo)), ?_⟩
  have h3 := ((hp.map (·.2)).nodup_iff).mpr (enumerate_nodup rows)
  rw [List.map_append] at h3
  exact (List.nodup_append.mp h3).1

/-- the same for a range answer -/
theorem range_positions (m : Metric P α) (q : P) (r : α) (rows : List P) (out : List (Pt P))
    (h : out.Perm (linearRange m q r (enumerate rows))) :
    (∀ p ∈ out, rows[p.2]? = some p.1) ∧ (out.map (·.2)).Nodup := by
  have hsub : (linearRange m q r (enumerate rows)).Sublist (enumerate rows) := List.filter_sublist
  exact ⟨fun p hpo => mem_enumerate (hsub.subset (h.subset hpo)),
    ((h.map (·.2)).nodup_iff).mpr ((hsub.map (·.2)).nodup (enumerate_nodup rows))⟩

/-- **what the correspondence compares of a k-nearest answer is canonical**: every stored point
strictly nearer than some returned point is itself returned (so the set of positions below the
k-th distance is the same for every tie-breaking). -/
theorem kNearest_strict_determined (m : Metric P α) (q : P) (pts out : List (Pt P)) (k : Nat)
    (h : KNearest m q pts out k) (x : Pt P) (hx : x ∈ pts) (y : Pt P) (hy : y ∈ out)
    (hlt : m.rdist q x.1 < m.rdist q y.1) : x ∈ out := by
  obtain ⟨rest, hp, _, _, hm⟩ := h
  rcases List.mem_append.mp (hp.symm.subset hx) with h1 | h1
  · exact h1
  · exact absurd (hm y hy x h1) (not_le.mpr hlt)

/-- **ascending distance** (not only ascending reduced distance) -/
theorem kNearest_dist_ascending {m : Metric P α} (hL : Lawful m) (q : P) (pts out : List (Pt P))
    (k : Nat) (h : KNearest m q pts out k) :
    out.Pairwise (fun a b => m.dist q a.1 ≤ m.dist q b.1) := by
  obtain ⟨_, _, _, ha, _⟩ := h
  exact ha.imp hL.dist_le_of_rdist_le

end shape

/-! ### the provided metrics are lawful (so the theorems apply to them, not to an abstraction) -/
section lawful
variable {α : Type} [Field α] [LinearOrder α] [IsStrictOrderedRing α]

/-- **`L1Dist` is lawful** on the points of any fixed dimension (any ordered field): the search
theorems apply to the very `l1` loop the driver runs. -/
theorem mL1_lawful (d : Nat) : Lawful (onDim d (mL1 (α := α))) where
  dist_nonneg a b :=
    foldl_add_zipWith_nonneg _ (fun _ _ => absS_eq_abs (α := α) _ ▸ abs_nonneg _) a.1 b.1 0 le_rfl
  triangle a b c :=
    l1_triangle_aux a.1 b.1 c.1 (a.2.trans b.2.symm) (b.2.trans c.2.symm) 0 0 0 (zero_add (0 : α)).ge
  rdist_eq _ _ := rfl
  toR_strictMono _ _ _ hab := hab
  ofR_toR _ _ := rfl

/-- **`LInfDist` is lawful** on the points of any fixed dimension. -/
theorem mLinf_lawful (d : Nat) : Lawful (onDim d (mLinf (α := α))) where
  dist_nonneg _ _ := le_foldl_max _ le_rfl
  triangle a b c :=
    linf_triangle_aux a.1 b.1 c.1 (a.2.trans b.2.symm) (b.2.trans c.2.symm) 0 0 0 (zero_add (0 : α)).ge
  rdist_eq _ _ := rfl
  toR_strictMono _ _ _ hab := hab
  ofR_toR _ _ := rfl

end lawful

section l2
noncomputable local instance : Transc ℝ := ⟨Real.sqrt, Real.exp, Real.log⟩

/-- **`L2Dist` is lawful** on the points of any fixed dimension: distance `√Σ(aᵢ-bᵢ)²`, reduced
distance `Σ(aᵢ-bᵢ)²`, `dist_to_rdist = d²`, `rdist_to_dist = √` (over ℝ). -/
theorem mL2_lawful (d : Nat) : Lawful (onDim d (mL2 (α := ℝ))) where
  dist_nonneg _ _ := Real.sqrt_nonneg _
  triangle a b c :=
    l2_triangle_aux a.1 b.1 c.1 (a.2.trans b.2.symm) (b.2.trans c.2.symm) 0 0 0 le_rfl le_rfl le_rfl
      (by rw [Real.sqrt_zero, zero_add])
  rdist_eq a b := (Real.mul_self_sqrt (sqL2_nonneg a.1 b.1)).symm
  toR_strictMono _ _ ha hab := mul_self_lt_mul_self ha hab
  ofR_toR _ ha := Real.sqrt_mul_self ha

end l2

section examples2
noncomputable local instance : Transc ℝ := ⟨Real.sqrt, Real.exp, Real.log⟩

/-- a split in the shape of `partition` for any point type: first point left, the rest right -/
def splitFirst {P : Type} : List (Pt P) → Option (List (Pt P) × P × List (Pt P))
  | [] => none
  | p :: ps => some ([p], p.1, ps)

theorem splitFirst_perm {P : Type} : SplitPerm (splitFirst (P := P)) := by
  intro pts a c b _ h
  cases pts with
  | nil => simp [splitFirst] at h
  | cons p ps =>
    simp only [splitFirst, Option.some.injEq, Prod.mk.injEq] at h
    obtain ⟨rfl, _, rfl⟩ := h
    simp

-- every kind, both build forms, on the batch with duplicates and ties
example : ∃ out, knnRequest mQ meanQ splitQ .ball .default 1 [0, 3, 1, 3, 7] 1 2 3 = .ok out ∧
    KNearest mQ 2 (enumerate [0, 3, 1, 3, 7]) out 3 :=
  common_knn_correct mQ_lawful meanQ splitQ splitQ_perm .ball .default 1 (by decide) (by decide) _ 2 3
example : ∃ out, rangeRequest mQ meanQ splitQ .kd (.leaf 2) 1 [0, 3, 1, 3, 7] 1 2 1 = .ok out ∧
    out.Perm (linearRange mQ 2 1 (enumerate [0, 3, 1, 3, 7])) ∧
    ((0 : ℚ) ≤ 1 → ∀ p, p ∈ out ↔ p ∈ enumerate [0, 3, 1, 3, 7] ∧ mQ.dist 2 p.1 < 1) :=
  common_range_correct mQ_lawful meanQ splitQ splitQ_perm .kd (.leaf 2) 1 (by decide) (by decide) _ 2 1
-- two defects at once (leaf size 0 and zero columns), and a wrong query dimension alone
example : (∀ out, knnRequest mQ meanQ splitQ .linear (.leaf 0) 0 [0, 3] 0 2 1 ≠ .ok out) ∧
    (∀ out, rangeRequest mQ meanQ splitQ .linear (.leaf 0) 0 [0, 3] 0 2 1 ≠ .ok out) :=
  common_malformed mQ meanQ splitQ .linear (.leaf 0) 0 0 (Or.inl rfl) _ 2 1 1
example : (∀ out, knnRequest mQ meanQ splitQ .ball .default 1 [0, 3] 2 2 1 ≠ .ok out) ∧
    (∀ out, rangeRequest mQ meanQ splitQ .ball .default 1 [0, 3] 2 2 1 ≠ .ok out) :=
  common_malformed mQ meanQ splitQ .ball .default 1 2 (Or.inr (Or.inr (by decide))) _ 2 1 1
example : (∀ p ∈ linearKnn mQ 2 3 (enumerate [0, 3, 1, 3, 7]), ([0, 3, 1, 3, 7] : List ℚ)[p.2]? = some p.1) ∧
    ((linearKnn mQ 2 3 (enumerate [0, 3, 1, 3, 7])).map (·.2)).Nodup :=
  kNearest_positions mQ 2 _ _ 3 (linear_knn_correct mQ 2 3 _)
example : (linearKnn mQ 2 3 (enumerate [0, 3, 1, 3, 7])).Pairwise
    (fun a b => mQ.dist 2 a.1 ≤ mQ.dist 2 b.1) :=
  kNearest_dist_ascending mQ_lawful 2 _ _ 3 (linear_knn_correct mQ 2 3 _)

example : (∃ o1 o2, knnRequest mQ meanQ splitQ .ball (.leaf 1) 1 [0, 3, 1, 3, 7] 1 2 3 = .ok o1 ∧
      knnRequest mQ meanQ splitQ .linear .default 1 [0, 3, 1, 3, 7] 1 2 3 = .ok o2 ∧
      o1.map (fun p => mQ.rdist 2 p.1) = o2.map (fun p => mQ.rdist 2 p.1)) ∧
    (∃ o1 o2, rangeRequest mQ meanQ splitQ .ball (.leaf 1) 1 [0, 3, 1, 3, 7] 1 2 1 = .ok o1 ∧
      rangeRequest mQ meanQ splitQ .linear .default 1 [0, 3, 1, 3, 7] 1 2 1 = .ok o2 ∧ o1.Perm o2) :=
  common_agree mQ_lawful meanQ splitQ splitQ_perm .ball .linear (.leaf 1) .default 1 (by decide)
    (by decide) (by decide) _ 2 3 1
example : fromBatch mQ meanQ splitQ .kd 1 [0, 3] = fromBatchWithLeafSize mQ meanQ splitQ .kd 16 1 [0, 3] :=
  (from_batch_default mQ meanQ splitQ .kd 1 [0, 3]).1
-- the point 1 (row 2, reduced distance 2 from the query 2) is nearer than the returned point 0
-- (row 0, reduced distance 4), so every 4-nearest answer contains it
example (out : List (Pt ℚ)) (h : KNearest mQ 2 (enumerate [0, 3, 1, 3, 7]) out 4)
    (hy : ((0 : ℚ), 0) ∈ out) : ((1 : ℚ), 2) ∈ out :=
  kNearest_strict_determined mQ 2 _ out 4 h (1, 2) (by simp [enumerate]) (0, 0) hy
    (by simp [mQ]; norm_num)
example (out : List (Pt ℚ)) (h : out.Perm (linearRange mQ 2 1 (enumerate [0, 3, 1, 3, 7]))) :
    (∀ p ∈ out, ([0, 3, 1, 3, 7] : List ℚ)[p.2]? = some p.1) ∧ (out.map (·.2)).Nodup :=
  range_positions mQ 2 1 _ out h
-- the provided metrics: the ball-tree theorems apply to L1 / Linf over ℚ and to L2 over ℝ on
-- 2-dimensional points (a 3-4-5 triangle: (3,4) lies exactly on the radius 5 around the origin)
def v2 (x y : ℚ) : {l : List ℚ // l.length = 2} := ⟨[x, y], rfl⟩
def r2 (x y : ℝ) : {l : List ℝ // l.length = 2} := ⟨[x, y], rfl⟩

example : ∃ out, ballKnnQ (onDim 2 mL1) (ballIndex (onDim 2 mL1) (fun _ => v2 0 0) splitFirst 1 2
      [v2 3 4, v2 1 1, v2 6 8, v2 1 1]) 2 (v2 0 0) 3 = .ok out ∧
    KNearest (onDim 2 mL1) (v2 0 0) (enumerate [v2 3 4, v2 1 1, v2 6 8, v2 1 1]) out 3 :=
  search_knn_correct (mL1_lawful 2) _ splitFirst splitFirst_perm 1 2 _ _ 3
example : ∃ out, ballRangeQ (onDim 2 mLinf) (ballIndex (onDim 2 mLinf) (fun _ => v2 0 0) splitFirst 1 2
      [v2 3 4, v2 1 1, v2 6 8, v2 1 1]) 2 (v2 0 0) 4 = .ok out ∧
    out.Perm (linearRange (onDim 2 mLinf) (v2 0 0) 4 (enumerate [v2 3 4, v2 1 1, v2 6 8, v2 1 1])) :=
  search_range_correct (mLinf_lawful 2) _ splitFirst splitFirst_perm 1 2 _ _ 4
example : ∃ out, ballRangeQ (onDim 2 mL2) (ballIndex (onDim 2 mL2) (fun _ => r2 0 0) splitFirst 1 2
      [r2 3 4, r2 1 1, r2 6 8]) 2 (r2 0 0) 5 = .ok out ∧
    out.Perm (linearRange (onDim 2 mL2) (r2 0 0) 5 (enumerate [r2 3 4, r2 1 1, r2 6 8])) :=
  search_range_correct (mL2_lawful 2) _ splitFirst splitFirst_perm 1 2 _ _ 5

end examples2

/-! ### `LpDist`: lawful for every exponent `p ≥ 1`, not a metric below 1 -/
section lp

/-- **`LpDist(p)` is lawful for every `p ≥ 1`** on the points of any fixed dimension (over ℝ,
`x.powf(y)` = the real power `x ^ y`): distance `(Σ |aᵢ-bᵢ|^p)^(1/p)` — the very `lp` loop of
`Model/NN.lean`, which `GenC07.lp_distance_is_model` ties to the text of `LpDist::distance` — is
non-negative and satisfies the triangle inequality (Minkowski); `LpDist` has no reduced form, the
conversions are the identity. -/
theorem mLp_lawful {p : ℝ} (hp : 1 ≤ p) (d : Nat) : Lawful (onDim d (mLp p)) where
  dist_nonneg a b := lp_nonneg p a.1 b.1
  triangle a b c := lp_triangle hp a.1 b.1 c.1 (a.2.trans b.2.symm) (b.2.trans c.2.symm)
  rdist_eq _ _ := rfl
  toR_strictMono _ _ _ hab := hab
  ofR_toR _ _ := rfl

/-- the remaining metric axioms (not needed by the search, recorded for completeness): symmetry
for every exponent, and distance 0 from a point to itself for `p > 0` -/
theorem lp_symm_self (p : ℝ) (a b : List ℝ) :
    lp p a b = lp p b a ∧ (0 < p → lp p a a = 0) :=
  ⟨lp_symm p a b, fun hp => lp_self hp a⟩

/-- **below 1 the triangle inequality fails** (so `LpDist(p)`, `p < 1`, is not a distance in the
sense of the trait's documentation and the pruning of the ball tree is unsound for it): `p = 1/2`,
a = (0,0), b = (1,0), c = (1,1): d(a,c) = (1+1)² = 4 > d(a,b) + d(b,c) = 1 + 1. -/
theorem lp_half_not_triangle :
    ¬ (lp (1 / 2 : ℝ) [0, 0] [1, 1] ≤ lp (1 / 2 : ℝ) [0, 0] [1, 0] + lp (1 / 2 : ℝ) [1, 0] [1, 1]) := by
  have h2 : (1 : ℝ) / (1 / 2) = 2 := by norm_num
  have hz : (0 : ℝ) ^ (1 / 2 : ℝ) = 0 := Real.zero_rpow (by norm_num)
  simp only [lp_real, List.zipWith_cons_cons, List.zipWith_nil_right, List.foldl_cons,
    List.foldl_nil, h2]
  norm_num [hz]

/-- **the search theorems hold for `LpDist(p)`, `p ≥ 1`**: for every kind of index, both build
forms, every batch of `d`-dimensional points, leaf size ≥ 1, `ncols ≥ 1`, query, `k` and radius: the
k-nearest call returns `KNearest`, the range call returns exactly the points with `lp p q x < r`
(`r ≥ 0`), and any two kinds agree. -/
theorem lp_indices_correct {p : ℝ} (hp : 1 ≤ p) (d : Nat)
    (mean : List {l : List ℝ // l.length = d} → {l : List ℝ // l.length = d})
    (split : List (Pt {l : List ℝ // l.length = d}) →
      Option (List (Pt {l : List ℝ // l.length = d}) × {l : List ℝ // l.length = d} ×
        List (Pt {l : List ℝ // l.length = d})))
    (hs : SplitPerm split) (k1 k2 : Kind) (f1 f2 : Form) (ncols : Nat) (hl1 : 0 < f1.leafSize)
    (hl2 : 0 < f2.leafSize) (hc : 0 < ncols) (rows : List {l : List ℝ // l.length = d})
    (q : {l : List ℝ // l.length = d}) (k : Nat) (r : ℝ) :
    (∃ out, knnRequest (onDim d (mLp p)) mean split k1 f1 ncols rows ncols q k = .ok out ∧
      KNearest (onDim d (mLp p)) q (enumerate rows) out k) ∧
    (∃ out, rangeRequest (onDim d (mLp p)) mean split k1 f1 ncols rows ncols q r = .ok out ∧
      out.Perm (linearRange (onDim d (mLp p)) q r (enumerate rows)) ∧
      (0 ≤ r → ∀ x, x ∈ out ↔ x ∈ enumerate rows ∧ lp p q.1 x.1.1 < r)) ∧
    (∃ o1 o2, knnRequest (onDim d (mLp p)) mean split k1 f1 ncols rows ncols q k = .ok o1 ∧
      knnRequest (onDim d (mLp p)) mean split k2 f2 ncols rows ncols q k = .ok o2 ∧
      o1.map (fun x => lp p q.1 x.1.1) = o2.map (fun x => lp p q.1 x.1.1)) ∧
    (∃ o1 o2, rangeRequest (onDim d (mLp p)) mean split k1 f1 ncols rows ncols q r = .ok o1 ∧
      rangeRequest (onDim d (mLp p)) mean split k2 f2 ncols rows ncols q r = .ok o2 ∧ o1.Perm o2) :=
  ⟨common_knn_correct (mLp_lawful hp d) mean split hs k1 f1 ncols hl1 hc rows q k,
    common_range_correct (mLp_lawful hp d) mean split hs k1 f1 ncols hl1 hc rows q r,
    (common_agree (mLp_lawful hp d) mean split hs k1 k2 f1 f2 ncols hl1 hl2 hc rows q k r).1,
    (common_agree (mLp_lawful hp d) mean split hs k1 k2 f1 f2 ncols hl1 hl2 hc rows q k r).2⟩

-- non-vacuity: exponent 3 (and 5/2) on 2-dimensional points, ball tree against the default-form k-d
-- tree; `1 ≤ p` is satisfiable, `SplitPerm splitFirst` holds
example : Lawful (onDim 2 (mLp (5 / 2 : ℝ))) := mLp_lawful (by norm_num) 2
example : ∃ out, knnRequest (onDim 2 (mLp (3 : ℝ))) (fun _ => r2 0 0) splitFirst .ball (.leaf 1) 2
      [r2 3 4, r2 1 1, r2 6 8, r2 1 1] 2 (r2 0 0) 3 = .ok out ∧
    KNearest (onDim 2 (mLp (3 : ℝ))) (r2 0 0) (enumerate [r2 3 4, r2 1 1, r2 6 8, r2 1 1]) out 3 :=
  (lp_indices_correct (by norm_num) 2 _ splitFirst splitFirst_perm .ball .kd (.leaf 1) .default 2
    (by decide) (by decide) (by decide) _ _ 3 1).1
example : lp (3 : ℝ) [3, 4] [0, 0] = lp (3 : ℝ) [0, 0] [3, 4] ∧ ((0 : ℝ) < 3 → lp (3 : ℝ) [3, 4] [3, 4] = 0) :=
  lp_symm_self 3 [3, 4] [0, 0]

end lp

/-! ### the functions the driver runs: the replayed split, the leaf mean, one request -/
section driver
open LinfaSpec.Drv.C07

theorem lookAll_spec {P : Type} (pts : List (Pt P)) : ∀ (is : List Nat) (out : List (Pt P)),
    lookAll pts is = some out → out.map (·.2) = is ∧ ∀ p ∈ out, p ∈ pts
  | [], out, h => by
    obtain rfl := Option.some.inj h
    exact ⟨rfl, fun _ hp => nomatch hp⟩
  | i :: is, out, h => by
    simp only [lookAll] at h
    split at h
    · rename_i p ps hp hps
      simp only [Option.some.injEq] at h
      subst h
      obtain ⟨h1, h2⟩ := lookAll_spec pts is ps hps
      have hi : p.2 = i := by simpa using List.find?_some hp
      exact ⟨by rw [List.map_cons, h1, hi],
        List.forall_mem_cons.mpr ⟨List.mem_of_find?_eq_some hp, h2⟩⟩
    · simp at h

/-- a list of stored points whose positions are (as a multiset) the positions of `pts`, all taken
from `pts`, is a permutation of `pts` when positions are distinct -/
theorem perm_of_positions {P : Type} {ab pts : List (Pt P)} (hnd : (pts.map (·.2)).Nodup)
    (hmap : (ab.map (·.2)).Perm (pts.map (·.2))) (hsub : ∀ x ∈ ab, x ∈ pts) : ab.Perm pts := by
  have hab : ab.Nodup := .of_map _ ((hmap.nodup_iff).mpr hnd)
  refine (List.perm_ext_iff_of_nodup hab (.of_map _ hnd)).mpr fun x => ⟨hsub x, fun hx => ?_⟩
  -- some `y` of `ab` has the position of `x`; positions are distinct in `pts`, so `y = x`
  obtain ⟨y, hy, hyx⟩ := List.mem_map.mp (hmap.mem_iff.mpr (List.mem_map.mpr ⟨x, hx, rfl⟩))
  exact List.inj_on_of_nodup_map hnd (hsub y hy) hx hyx ▸ hy

/-- what `scriptSplit` returns, whatever the script says: two non-empty halves taken from `pts`
whose positions together are the positions of `pts`, and the coordinates of one of its points -/
theorem scriptSplit_shape {P : Type} (script : Script) (pts a b : List (Pt P)) (c : P)
    (h : scriptSplit script pts = some (a, c, b)) :
    ((a ++ b).map (·.2)).Perm (pts.map (·.2)) ∧ (∀ x ∈ a ++ b, x ∈ pts) ∧ a ≠ [] ∧ b ≠ [] ∧
      ∃ p ∈ pts, p.1 = c := by
  simp only [scriptSplit] at h
  split at h
  · simp at h
  · rename_i c' l r hfind
    split at h
    · rename_i a' b' cp ha hb hc
      split at h
      · simp at h
      · rename_i hne
        simp only [Option.some.injEq, Prod.mk.injEq] at h
        obtain ⟨rfl, rfl, rfl⟩ := h
        have hkey := List.find?_some hfind
        simp only [Bool.and_eq_true, beq_iff_eq] at hkey
        obtain ⟨_, hsort⟩ := hkey
        -- the entry was found by comparing sorted position lists: equal after sorting, so a permutation
        have hperm : (l ++ r).Perm (pts.map (·.2)) := by
          have h1 := List.mergeSort_perm (l ++ r) (fun a b => decide (a ≤ b))
          have h2 := List.mergeSort_perm (pts.map (·.2)) (fun a b => decide (a ≤ b))
          unfold sortNat at hsort
          rw [hsort] at h1
          exact h1.symm.trans h2
        obtain ⟨hla, hma⟩ := lookAll_spec pts l a' ha
        obtain ⟨hlb, hmb⟩ := lookAll_spec pts r b' hb
        simp only [Bool.or_eq_true, List.isEmpty_iff, not_or] at hne
        exact ⟨by rw [List.map_append, hla, hlb]; exact hperm, List.forall_mem_append.mpr ⟨hma, hmb⟩,
          hne.1, hne.2, cp, List.mem_of_find?_eq_some hc, rfl⟩
    · simp at h

/-- **the split the driver replays satisfies the contract of `partition` for EVERY script** (also a
corrupt one: it is then refused): the hypothesis `SplitPerm` of the search theorems is discharged for
the very function `Drv/C07.run` passes to `knnRequest` / `rangeRequest` / `ballIndex`. -/
theorem scriptSplit_splitPerm {P : Type} (script : Script) :
    SplitPerm (scriptSplit (P := P) script) := by
  intro pts a c b hnd h
  obtain ⟨hmap, hsub, _⟩ := scriptSplit_shape script pts a b c h
  exact perm_of_positions hnd hmap hsub

variable {α : Type} [Field α] [LinearOrder α] [IsStrictOrderedRing α]

theorem foldl_zipWith_length (ps : List (List α)) (c : List α) (d : Nat) (hc : c.length = d)
    (h : ∀ p ∈ ps, p.length = d) :
    (ps.foldl (fun c x => List.zipWith (· + ·) c x) c).length = d := by
  induction ps generalizing c with
  | nil => exact hc
  | cons p ps ih =>
    exact ih _ (by rw [List.length_zipWith, hc, h p List.mem_cons_self, Nat.min_self])
      fun x hx => h x (List.mem_cons_of_mem _ hx)

/-- **the leaf centre stays in the dimension of its points**: `vecMean` (the `c += p; c / len` loop
the driver runs) of a non-empty list of `d`-dimensional rows is `d`-dimensional: the hypothesis
`hmean` of `request_congr` for the driver's mean and `S = (·.length = d)`. -/
theorem vecMean_length (ps : List (List α)) (d : Nat) (hne : ps ≠ []) (h : ∀ p ∈ ps, p.length = d) :
    (vecMean ps).length = d := by
  cases ps with
  | nil => exact absurd rfl hne
  | cons p ps =>
    simp only [vecMean, List.length_map]
    exact foldl_zipWith_length _ _ d (List.length_replicate.trans (h p List.mem_cons_self)) h

/-- `vecMean` as a function on the points of dimension `d` (the empty leaf of the empty tree, which
the search never reaches, gets the origin) -/
def meanDim (d : Nat) (ps : List {l : List α // l.length = d}) : {l : List α // l.length = d} :=
  if h : ps = [] then ⟨List.replicate d 0, by simp⟩
  else ⟨vecMean (ps.map (·.1)), vecMean_length _ d (fun h0 => h (List.map_eq_nil_iff.mp h0)) (by
    intro p hp
    obtain ⟨x, _, rfl⟩ := List.mem_map.mp hp
    exact x.2)⟩

theorem meanDim_val (d : Nat) (ps : List {l : List α // l.length = d}) (h : ps ≠ []) :
    (meanDim d ps).1 = vecMean (ps.map (·.1)) := by
  rw [meanDim, dif_neg h]

/-- **one request as the driver answers it** (`Drv/C07.run`: `knnRequest m vecMean (scriptSplit
script) …`), for every script, every lawful metric and every mean: the k-nearest and the range
clause of the statement, with no hypothesis on the split left. -/
theorem driver_request_correct {P : Type} {m : Metric P α} (h : Lawful m) (mean : List P → P)
    (script : Script) (kind : Kind) (form : Form) (ncols : Nat) (hl : 0 < form.leafSize)
    (hc : 0 < ncols) (rows : List P) (q : P) (k : Nat) (r : α) :
    (∃ out, knnRequest m mean (scriptSplit script) kind form ncols rows ncols q k = .ok out ∧
      KNearest m q (enumerate rows) out k) ∧
    (∃ out, rangeRequest m mean (scriptSplit script) kind form ncols rows ncols q r = .ok out ∧
      out.Perm (linearRange m q r (enumerate rows)) ∧
      (0 ≤ r → ∀ p, p ∈ out ↔ p ∈ enumerate rows ∧ m.dist q p.1 < r)) :=
  ⟨common_knn_correct h mean _ (scriptSplit_splitPerm script) kind form ncols hl hc rows q k,
    common_range_correct h mean _ (scriptSplit_splitPerm script) kind form ncols hl hc rows q r⟩

-- non-vacuity: a script with one entry (centre = row 1, left = row 0, right = rows 1, 2) on three
-- rational points; a corrupt script (an empty half) is refused, the theorem still applies
example : scriptSplit [(1, [0], [1, 2])] (enumerate [(5 : ℚ), 7, 9]) =
    some ([(5, 0)], 7, [(7, 1), (9, 2)]) := by
  simp [scriptSplit, lookAll, sortNat, enumerate]
example : scriptSplit [(1, [], [0, 1, 2])] (enumerate [(5 : ℚ), 7, 9]) = none := by
  simp [scriptSplit, lookAll, sortNat, enumerate]
example : ∃ out, knnRequest mQ meanQ (scriptSplit [(1, [0], [1, 2])]) .ball (.leaf 1) 1 [5, 7, 9] 1 6 2
      = .ok out ∧ KNearest mQ 6 (enumerate [5, 7, 9]) out 2 :=
  (driver_request_correct mQ_lawful meanQ [(1, [0], [1, 2])] .ball (.leaf 1) 1 (by decide) (by decide)
    [5, 7, 9] 6 2 1).1
example : (vecMean [[(1 : ℚ), 2], [3, 4]]).length = 2 :=
  vecMean_length _ 2 (List.cons_ne_nil _ _) (by simp)
example : (meanDim 2 [v2 1 2, v2 3 4]).1 = vecMean [[(1 : ℚ), 2], [3, 4]] :=
  meanDim_val 2 _ (by simp)

end driver

open LinfaSpec.Drv.C07

/-! ### termination of the build, the k-nearest clause in the distance -/
section extra
variable {P α : Type} [Field α] [LinearOrder α] [IsStrictOrderedRing α]

/-- what `partition` guarantees besides the permutation: both halves are non-empty
(`debug_assert!(!aps.is_empty() && !bps.is_empty())`), which is why the real recursion terminates -/
def SplitNonempty (split : List (Pt P) → Option (List (Pt P) × P × List (Pt P))) : Prop :=
  ∀ pts a c b, split pts = some (a, c, b) → a ≠ [] ∧ b ≠ []

/-- **the fuel of `build` is not a modelling artefact**: with a split whose halves are non-empty (so
each half is strictly smaller) any fuel ≥ the number of points gives the same tree — the fuel never
is the reason for a leaf, the model's recursion is the recursion of `BallTreeInner::new`. -/
theorem build_fuel_irrelevant {m : Metric P α} {mean : List P → P}
    {split : List (Pt P) → Option (List (Pt P) × P × List (Pt P))} (hs : SplitPerm split)
    (hn : SplitNonempty split) (leafSize : Nat) (hl : 0 < leafSize) :
    ∀ (f1 f2 : Nat) (pts : List (Pt P)), (pts.map (·.2)).Nodup → pts.length ≤ f1 → pts.length ≤ f2 →
      build m mean split leafSize f1 pts = build m mean split leafSize f2 pts := by
  intro f1
  induction f1 with
  | zero =>
    intro f2 pts _ h1 _
    have h0 : pts.length ≤ leafSize := by omega
    cases f2 with
    | zero => rfl
    | succ k => simp [build, h0]
  | succ n ih =>
    intro f2 pts hnd h1 h2
    cases f2 with
    | zero =>
      have h0 : pts.length ≤ leafSize := by omega
      simp [build, h0]
    | succ k =>
      by_cases h0 : pts.length ≤ leafSize
      · simp [build, h0]
      · cases hsp : split pts with
        | none => simp [build, h0, hsp]
        | some t =>
          obtain ⟨a, c, b⟩ := t
          have hp := hs _ _ _ _ hnd hsp
          obtain ⟨hna, hnb⟩ := hn _ _ _ _ hsp
          obtain ⟨hda, hdb⟩ := nodup_halves hp hnd
          have hlen := hp.length_eq
          simp only [List.length_append] at hlen
          have ha : 0 < a.length := List.length_pos_iff.mpr hna
          have hb : 0 < b.length := List.length_pos_iff.mpr hnb
          simp only [build, h0, hsp, if_false]
          rw [ih k a hda (by omega) (by omega), ih k b hdb (by omega) (by omega)]

theorem scriptSplit_nonempty (script : Script) : SplitNonempty (scriptSplit (P := P) script) := by
  intro pts a c b h
  obtain ⟨_, _, ha, hb, _⟩ := scriptSplit_shape script pts a b c h
  exact ⟨ha, hb⟩

/-- the statement's k-nearest clause read in the DISTANCE (not the reduced distance): ascending, and
every stored point left out is at least as far as every returned one -/
theorem kNearest_dist_form {m : Metric P α} (hL : Lawful m) (q : P) (pts out : List (Pt P)) (k : Nat)
    (h : KNearest m q pts out k) :
    ∃ rest, (out ++ rest).Perm pts ∧ out.length = min k pts.length ∧
      out.Pairwise (fun a b => m.dist q a.1 ≤ m.dist q b.1) ∧
      ∀ y ∈ out, ∀ x ∈ rest, m.dist q y.1 ≤ m.dist q x.1 := by
  have hasc := kNearest_dist_ascending hL q pts out k h
  obtain ⟨rest, hp, hl, _, hm⟩ := h
  exact ⟨rest, hp, hl, hasc, fun y hy x hx => hL.dist_le_of_rdist_le (hm y hy x hx)⟩

-- non-vacuity: the replayed split has non-empty halves, so fuel 3 (= n) and fuel 10 build the same tree
example : build mQ meanQ (scriptSplit [(1, [0], [1, 2])]) 1 3 (enumerate [(5 : ℚ), 7, 9]) =
    build mQ meanQ (scriptSplit [(1, [0], [1, 2])]) 1 10 (enumerate [(5 : ℚ), 7, 9]) :=
  build_fuel_irrelevant (scriptSplit_splitPerm _) (scriptSplit_nonempty _) 1 (by decide) 3 10 _
    (enumerate_nodup _) (by simp [enumerate]) (by simp [enumerate])
example : ∃ rest, (linearKnn mQ 2 3 (enumerate [0, 3, 1, 3, 7]) ++ rest).Perm (enumerate [0, 3, 1, 3, 7]) ∧
    (linearKnn mQ 2 3 (enumerate [0, 3, 1, 3, 7])).length = min 3 (enumerate [(0 : ℚ), 3, 1, 3, 7]).length ∧
    (linearKnn mQ 2 3 (enumerate [0, 3, 1, 3, 7])).Pairwise (fun a b => mQ.dist 2 a.1 ≤ mQ.dist 2 b.1) ∧
    ∀ y ∈ linearKnn mQ 2 3 (enumerate [0, 3, 1, 3, 7]), ∀ x ∈ rest, mQ.dist 2 y.1 ≤ mQ.dist 2 x.1 :=
  kNearest_dist_form mQ_lawful 2 _ _ 3 (linear_knn_correct mQ 2 3 _)

end extra

/-! ### the metric theorems on raw rows: the term the driver evaluates -/
section raw
variable {α : Type} [Field α] [LinearOrder α] [IsStrictOrderedRing α]

theorem scriptSplit_good {P : Type} (script : Script) : SplitGood (scriptSplit (P := P) script) := by
  intro pts a c b h
  obtain ⟨_, hsub, ha, hb, hc⟩ := scriptSplit_shape script pts a b c h
  exact ⟨hsub, ha, hb, hc⟩

/-- `KNearest` only reads the reduced distances from the query to stored points -/
theorem kNearest_congr {P : Type} {S : P → Prop} {m m' : Metric P α} (hA : Agree S m m') (q : P)
    (hq : S q) (pts : List (Pt P)) (hp : ∀ x ∈ pts, S x.1) (out : List (Pt P)) (k : Nat)
    (h : KNearest m' q pts out k) : KNearest m q pts out k := by
  obtain ⟨rest, hperm, hl, ha, hm⟩ := h
  have e : ∀ x ∈ out ++ rest, m.rdist q x.1 = m'.rdist q x.1 := fun x hx =>
    hA.rdist _ _ hq (hp x (hperm.subset hx))
  have eo := fun x hx => e x (List.mem_append_left rest hx)
  exact ⟨rest, hperm, hl, ha.imp_of_mem fun ha' hb' hab => eo _ ha' ▸ eo _ hb' ▸ hab,
    fun y hy x hx => eo y hy ▸ e x (List.mem_append_right out hx) ▸ hm y hy x hx⟩

/-- **the statement's clauses for the function the driver runs, on raw rows**: `m` any metric on
coordinate lists that is `Lawful` on the points of dimension `d` (proved for `mL1`, `mLinf`, `mL2`,
`mLp p` with `p ≥ 1`), the driver's `vecMean` and `scriptSplit script` (any script), every kind and
build form, leaf size ≥ 1, `d ≥ 1`, every batch of `d`-dimensional rows and `d`-dimensional query:
`knnRequest m vecMean (scriptSplit script) …` — literally the term `Drv/C07.run` evaluates — returns
`KNearest`, and `rangeRequest …` the stored points strictly inside the radius.  `ncols` and the query
dimension are the lengths of the rows and of `q`. -/
theorem raw_request_correct (m : Metric (List α) α) (d : Nat) (hL : Lawful (onDim d m))
    (script : Script) (kind : Kind) (form : Form) (hl : 0 < form.leafSize) (hd : 0 < d)
    (rows : List (List α)) (hrows : ∀ x ∈ rows, x.length = d) (q : List α) (hq : q.length = d)
    (k : Nat) (r : α) :
    (∃ out, knnRequest m vecMean (scriptSplit script) kind form d rows q.length q k = .ok out ∧
      KNearest m q (enumerate rows) out k) ∧
    (∃ out, rangeRequest m vecMean (scriptSplit script) kind form d rows q.length q r = .ok out ∧
      out.Perm (linearRange m q r (enumerate rows)) ∧
      (0 ≤ r → ∀ p, p ∈ out ↔ p ∈ enumerate rows ∧ m.dist q p.1 < r)) := by
  have hA := agree_fitM d m
  have hen : ∀ x ∈ enumerate rows, x.1.length = d := fun x hx =>
    hrows x.1 (List.mem_of_getElem? (mem_enumerate hx))
  obtain ⟨e1, e2⟩ := request_congr hA vecMean (fun ps hne hp => vecMean_length ps d hne hp)
    (scriptSplit script) (scriptSplit_good script) kind form d rows hrows q.length q hq k r
  obtain ⟨⟨o1, ho1, hk1⟩, ⟨o2, ho2, hp2, hi2⟩⟩ :=
    driver_request_correct (fitM_lawful hL) vecMean script kind form d hl hd rows q k r
  rw [hq]
  rw [hq] at e1 e2
  refine ⟨⟨o1, e1.trans ho1, kNearest_congr hA q hq _ hen o1 k hk1⟩, ⟨o2, e2.trans ho2, ?_, ?_⟩⟩
  · rw [linearRange_congr hA q hq r (enumerate rows) hen]
    exact hp2
  · exact fun hr p => (hi2 hr p).trans
      (and_congr_right fun hm => by rw [hA.dist _ _ hq (hen p hm)])

/-- `L1Dist` and `LInfDist` on raw rows, any ordered field: the k-nearest clause -/
theorem raw_l1_linf_correct (d : Nat) (script : Script) (kind : Kind) (form : Form)
    (hl : 0 < form.leafSize) (hd : 0 < d) (rows : List (List α)) (hrows : ∀ x ∈ rows, x.length = d)
    (q : List α) (hq : q.length = d) (k : Nat) :
    (∃ out, knnRequest mL1 vecMean (scriptSplit script) kind form d rows q.length q k = .ok out ∧
      KNearest mL1 q (enumerate rows) out k) ∧
    (∃ out, knnRequest mLinf vecMean (scriptSplit script) kind form d rows q.length q k = .ok out ∧
      KNearest mLinf q (enumerate rows) out k) :=
  ⟨(raw_request_correct mL1 d (mL1_lawful d) script kind form hl hd rows hrows q hq k 0).1,
    (raw_request_correct mLinf d (mLinf_lawful d) script kind form hl hd rows hrows q hq k 0).1⟩

end raw

section rawreal
noncomputable local instance : Transc ℝ := ⟨Real.sqrt, Real.exp, Real.log⟩

/-- `L2Dist` and `LpDist(p)`, `p ≥ 1`, on raw rows over ℝ: k nearest and range (strictly inside) -/
theorem raw_l2_lp_correct {p : ℝ} (hp : 1 ≤ p) (d : Nat) (script : Script) (kind : Kind) (form : Form)
    (hl : 0 < form.leafSize) (hd : 0 < d) (rows : List (List ℝ)) (hrows : ∀ x ∈ rows, x.length = d)
    (q : List ℝ) (hq : q.length = d) (k : Nat) (r : ℝ) (hr : 0 ≤ r) :
    (∃ out, knnRequest mL2 vecMean (scriptSplit script) kind form d rows q.length q k = .ok out ∧
      KNearest mL2 q (enumerate rows) out k) ∧
    (∃ out, rangeRequest mL2 vecMean (scriptSplit script) kind form d rows q.length q r = .ok out ∧
      ∀ x, x ∈ out ↔ x ∈ enumerate rows ∧ Real.sqrt (sqL2 q x.1) < r) ∧
    (∃ out, knnRequest (mLp p) vecMean (scriptSplit script) kind form d rows q.length q k = .ok out ∧
      KNearest (mLp p) q (enumerate rows) out k) ∧
    (∃ out, rangeRequest (mLp p) vecMean (scriptSplit script) kind form d rows q.length q r = .ok out ∧
      ∀ x, x ∈ out ↔ x ∈ enumerate rows ∧ lp p q x.1 < r) := by
  obtain ⟨h1, o2, ho2, _, hi2⟩ :=
    raw_request_correct mL2 d (mL2_lawful d) script kind form hl hd rows hrows q hq k r
  obtain ⟨h3, o4, ho4, _, hi4⟩ :=
    raw_request_correct (mLp p) d (mLp_lawful hp d) script kind form hl hd rows hrows q hq k r
  exact ⟨h1, ⟨o2, ho2, hi2 hr⟩, h3, ⟨o4, ho4, hi4 hr⟩⟩

-- non-vacuity: the 3-4-5 batch as raw rows, script with one split, L2 radius 5 (the point (3,4) on it)
example : ∃ out, rangeRequest mL2 vecMean (scriptSplit [(1, [0], [1, 2])]) .ball (.leaf 1) 2
      [[3, 4], [1, 1], [6, 8]] ([0, 0] : List ℝ).length [0, 0] 5 = .ok out ∧
    ∀ x, x ∈ out ↔ x ∈ enumerate [[3, 4], [1, 1], [6, 8]] ∧ Real.sqrt (sqL2 [0, 0] x.1) < 5 :=
  (raw_l2_lp_correct (p := 1) le_rfl 2 [(1, [0], [1, 2])] .ball (.leaf 1) (by decide) (by decide)
    [[3, 4], [1, 1], [6, 8]] (by simp) [0, 0] rfl 2 5 (by norm_num)).2.1
example : ∃ out, knnRequest mL1 vecMean (scriptSplit []) .kd .default 2
      ([[3, 4], [1, 1], [6, 8]] : List (List ℚ)) ([0, 0] : List ℚ).length [0, 0] 2 = .ok out ∧
    KNearest mL1 ([0, 0] : List ℚ) (enumerate [[3, 4], [1, 1], [6, 8]]) out 2 :=
  (raw_l1_linf_correct (α := ℚ) 2 [] .kd .default (by decide) (by decide)
    [[3, 4], [1, 1], [6, 8]] (by simp) [0, 0] rfl 2).1

end rawreal

end LinfaSpec.Props.C07
