/-
C04 — invalid hyperparameters are rejected with an error before any training.

Every `theorem` below is a proof obligation of the check.  The per-builder `check` functions are NOT written
here: they are regenerated from the Rust sources (`tools/params2lean.py` -> `LinfaSpec/Gen/C04Params.lean`)
before every build, so a changed guard in linfa changes the definition these theorems are about and the
corresponding `check_ok_iff` stops compiling.

Statement (properties.jsonl): a parameter set with finite values passes checking iff every value lies in its
documented range (`Ranges.<B>.InRange`, hand-transcribed in `Model/ParamRanges.lean` with the source cited);
checking by value and by reference agree and leave the parameters unchanged; `fit`/`fit_with`/`transform`
on the unchecked builder return exactly the checking error, and a valid builder behaves like its checked form.
-/
import LinfaSpec.Proofs.ParamGuard
import Mathlib.Tactic.NormNum

set_option linter.unusedVariables false

namespace LinfaSpec.Props.C04
open LinfaSpec LinfaSpec.ParamGuard

/-- evaluates a concrete parameter point (non-vacuity examples): unfold, then rational arithmetic -/
macro "c04_eval" b:ident : tactic => `(tactic|
  (simp [$(Lean.mkIdent (`LinfaSpec.Ranges ++ b.getId ++ `Finite)):ident, $(Lean.mkIdent (`LinfaSpec.Ranges ++ b.getId ++ `InRange)):ident,
         $(Lean.mkIdent (`LinfaSpec.Gen.C04 ++ b.getId ++ `check)):ident, $(Lean.mkIdent (`LinfaSpec.Gen.C04 ++ b.getId ++ `guards)):ident,
         Ranges.Platt.Finite, Ranges.Platt.InRange, Gen.C04.Platt.check, Gen.C04.Platt.guards,
         Ranges.pos, Ranges.nonneg, Ranges.unit01, XF.inClosed, XF.gt, XF.ge, XF.eps64, XF.Finite] <;> norm_num [XF.zero, XF.one]))

/-! ## Trait level (`src/param_guard.rs`), for every builder, error type and inner `fit` -/

/-- `check(self)` and `check_ref(&self)` give the same verdict, the same error, the same parameters. -/
theorem check_eq_check_ref {P E : Type} (chk : P → Except E Unit) (p : P) :
    checkVal chk p = checkRef chk p := by
  unfold checkVal checkRef; cases chk p <;> rfl

/-- checking leaves the parameters unchanged: what comes out of `check` / `check_ref` is the builder's content. -/
theorem check_preserves_params {P E : Type} (chk : P → Except E Unit) (p q : P) :
    (checkVal chk p = .ok q → q = p) ∧ (checkRef chk p = .ok q → q = p) := by
  rw [check_eq_check_ref, and_self, checkRef]
  cases chk p
  · exact nofun
  · exact fun h => (Except.ok.inj h).symm

theorem checkRef_ok_iff {P E : Type} (chk : P → Except E Unit) (p : P) :
    (∃ q, checkRef chk p = .ok q) ↔ chk p = .ok () := by
  rw [checkRef]
  cases chk p
  · exact ⟨nofun, nofun⟩
  · exact ⟨fun _ => rfl, fun _ => ⟨p, rfl⟩⟩

/-- blanket `Fit`: on an invalid builder exactly the checking error (converted by `From`) comes back and the
inner `fit` is never reached (the result does not depend on `fit`); on a valid builder the result is the
checked form's. -/
theorem fit_on_unchecked {P E E' M D : Type} (chk : P → Except E Unit) (conv : E → E') (fit : P → D → Except E' M)
    (p : P) (d : D) :
    (∀ e, chk p = .error e → fitUnchecked chk conv fit p d = .error (conv e)) ∧
    (chk p = .ok () → fitUnchecked chk conv fit p d = fit p d) :=
  guarded_call conv (fit · d) rfl

/-- blanket `FitWith` -/
theorem fit_with_on_unchecked {P E E' M M0 D : Type} (chk : P → Except E Unit) (conv : E → E')
    (fitWith : P → M0 → D → Except E' M) (p : P) (m : M0) (d : D) :
    (∀ e, chk p = .error e → fitWithUnchecked chk conv fitWith p m d = .error (conv e)) ∧
    (chk p = .ok () → fitWithUnchecked chk conv fitWith p m d = fitWith p m d) :=
  guarded_call conv (fitWith · m d) rfl

/-- blanket `Transformer` (`TransformGuard`) -/
theorem transform_on_unchecked {P E T D : Type} (chk : P → Except E Unit) (tr : P → D → T) (p : P) (x : D) :
    (∀ e, chk p = .error e → transformUnchecked chk tr p x = .error e) ∧
    (chk p = .ok () → transformUnchecked chk tr p x = .ok (tr p x)) :=
  guarded_call id (fun c => .ok (tr c x)) rfl

/-- hand-written `TSneParams::transform` (`Array2` and `DatasetBase` forms): `self.check_ref()?.transform(x)` -/
theorem try_transform_on_unchecked {P E E' T D : Type} (chk : P → Except E Unit) (conv : E → E')
    (tr : P → D → Except E' T) (p : P) (x : D) :
    (∀ e, chk p = .error e → tryTransformUnchecked chk conv tr p x = .error (conv e)) ∧
    (chk p = .ok () → tryTransformUnchecked chk conv tr p x = tr p x) :=
  guarded_call conv (tr · x) rfl

/-- hand-written `CountVectorizerParams::{fit, fit_files, fit_vocabulary}`: `self.check_ref().and_then(|p| p.fit(x))` -/
theorem and_then_on_unchecked {P E M D : Type} (chk : P → Except E Unit) (fit : P → D → Except E M) (p : P) (d : D) :
    (∀ e, chk p = .error e → andThenUnchecked chk fit p d = .error e) ∧
    (chk p = .ok () → andThenUnchecked chk fit p d = fit p d) :=
  guarded_call id (fit · d) (by rw [andThenUnchecked]; cases checkRef chk p <;> rfl)

/-- `TfIdfVectorizer::{fit, fit_files, fit_vocabulary}` (an unchecked count-vectoriser builder inside a wrapper):
the checking error comes back unchanged, a valid builder gives the wrapped result of the checked form -/
theorem wrap_on_unchecked {P E M M' D : Type} (chk : P → Except E Unit) (fit : P → D → Except E M) (wrap : M → M')
    (p : P) (d : D) :
    (∀ e, chk p = .error e → wrapUnchecked chk fit wrap p d = .error e) ∧
    (chk p = .ok () → wrapUnchecked chk fit wrap p d = (fit p d).map wrap) := by
  refine ⟨fun _ h => by rw [wrapUnchecked, (and_then_on_unchecked chk fit p d).1 _ h], fun h => ?_⟩
  rw [wrapUnchecked, (and_then_on_unchecked chk fit p d).2 h]
  cases fit p d <;> rfl

example : fitUnchecked (fun n : Nat => if n = 0 then .error "zero" else .ok ()) id
    (fun n (_ : Unit) => (.ok (n + 1) : Except String Nat)) 0 () = .error "zero" := rfl
example : andThenUnchecked (fun n : Nat => if n = 0 then .error "zero" else .ok ())
    (fun n (_ : Unit) => (.ok (n + 1) : Except String Nat)) 0 () = .error "zero" := rfl
example : wrapUnchecked (fun n : Nat => if n = 0 then .error "zero" else .ok ())
    (fun n (_ : Unit) => (.ok (n + 1) : Except String Nat)) (fun m => (m, m)) 4 () = .ok (5, 5) := rfl
example : tryTransformUnchecked (fun n : Nat => if n = 0 then .error "zero" else .ok ()) String.length
    (fun n (_ : Unit) => (.ok (n + 1) : Except Nat Nat)) 0 () = .error 4 := rfl
example : fitUnchecked (fun n : Nat => if n = 0 then .error "zero" else .ok ()) id
    (fun n (_ : Unit) => (.ok (n + 1) : Except String Nat)) 4 () = .ok 5 := rfl

theorem chain_ok_iff (gs : List (Option String)) : firstErr gs = .ok () ↔ ∀ g ∈ gs, g = none := by
  induction gs with
  | nil => exact ⟨fun _ => nofun, fun _ => rfl⟩
  | cons g rest ih => rw [firstErr_cons_ok_iff, ih, List.forall_mem_cons]

/-- for every builder at once (every generated `check` is `firstErr (guards p)`): the error returned is the tag of the
first guard, in source order, that fires. -/
theorem check_error_is_first (gs : List (Option String)) (t : String) :
    firstErr gs = .error t ↔ ∃ pre post, gs = pre ++ some t :: post ∧ ∀ g ∈ pre, g = none := by
  constructor
  · induction gs with
    | nil => nofun
    | cons g rest ih =>
      cases g with
      | none =>
        intro h
        obtain ⟨pre, post, rfl, hp⟩ := ih h
        exact ⟨none :: pre, post, rfl, List.forall_mem_cons.mpr ⟨rfl, hp⟩⟩
      | some u =>
        rintro ⟨⟩
        exact ⟨[], rest, rfl, nofun⟩
  · rintro ⟨pre, post, rfl, h⟩
    rw [firstErr_append_of_none h, firstErr_cons_some]

example : firstErr [none, some "B", some "C"] = .error "B" := rfl

/-- order-free reading (the statement does not say WHICH error a doubly-invalid builder gets): the error returned
is the tag of some guard that fires, and a chain in which a guard fires does return an error -/
theorem check_error_is_firing_guard (gs : List (Option String)) :
    (∀ t, firstErr gs = .error t → some t ∈ gs) ∧ ((∃ t, some t ∈ gs) → ∃ u, firstErr gs = .error u) := by
  refine ⟨fun t h => ?_, fun ⟨t, h⟩ => ?_⟩
  · obtain ⟨pre, post, rfl, _⟩ := (check_error_is_first gs t).mp h
    exact List.mem_append_right _ List.mem_cons_self
  · cases hf : firstErr gs with
    | error u => exact ⟨u, rfl⟩
    | ok _ => cases (chain_ok_iff gs).mp hf (some t) h

example : some "C" ∈ [none, some "B", some "C"] ∧ firstErr [none, some "B", some "C"] ≠ .error "C" := by decide

/-! ## The setters of `SvmParams` (call chains `Svm::params().s1(..).s2(..)…`) -/

/-- after ANY chain of setter calls (as modelled by `svmRun`, which the driver runs on every `via=setters` request and
whose resulting fields the harness reads back from the real builder) exactly one of `c` / `nu` is set.  (Consequence
for the code, NOT modelled here: the arm `_ => panic!("Set either C value or Nu value")` of the `fit`s needs both or
neither to be set.) -/
theorem svm_setters_exactly_one {α : Type} (k : SvmConsts α) (ops : List (SvmSet α)) :
    (svmRun k ops).c.isSome = !(svmRun k ops).nu.isSome :=
  svmFold_exactly_one k ops (svmNew k) rfl

/-- a weight setter overrides whatever the chain before it left in `c` and `nu` (a stale, possibly invalid value
never survives `pos_neg_weights / nu_weight / c_eps / nu_eps / c_svr / nu_svr`) -/
theorem svm_weight_setter_overrides {α : Type} (k : SvmConsts α) (s s' : SvmState α) (w : SvmSet α)
    (hw : w.isWeight = true) :
    (w.apply k s).c = (w.apply k s').c ∧ (w.apply k s).nu = (w.apply k s').nu := by
  cases w with
  | eps x => cases hw
  | _ => exact ⟨rfl, rfl⟩

/-- `.eps(x)` leaves the weights alone -/
theorem svm_eps_keeps_weights {α : Type} (k : SvmConsts α) (s : SvmState α) (x : α) :
    ((SvmSet.eps x).apply k s).c = s.c ∧ ((SvmSet.eps x).apply k s).nu = s.nu ∧ ((SvmSet.eps x).apply k s).eps = x :=
  ⟨rfl, rfl, rfl⟩

example : (svmRun (⟨1, 10, 7⟩ : SvmConsts Nat) [.nuWeight 0, .cSvr 3 none, .eps 2]).c = some (3, 10) ∧
    (svmRun (⟨1, 10, 7⟩ : SvmConsts Nat) [.nuWeight 0, .cSvr 3 none, .eps 2]).nu = none ∧
    (svmRun (⟨1, 10, 7⟩ : SvmConsts Nat) [.nuWeight 0, .cSvr 3 none, .eps 2]).eps = 2 := by decide

/-! ## Per builder: a finite parameter set passes the (translated) check iff it is in the documented range

Every proof rewrites the left side with `guard_simps` (the chain lemmas and the guard idioms that need no hypothesis) and, by name,
the comparison idioms with the finiteness hypothesis of the field they read: `check p = .ok ()` becomes "no guard fires", and each
guard fires iff a range predicate fails.  What is left are the conjuncts of `InRange p` in the order of the guards; `grind` closes
that propositional rest, so the proofs do not depend on the order in which linfa tests the parameters. -/

/-- Platt scaling (`src/composing/platt_scaling.rs`) -/
theorem Platt.check_ok_iff (p : Gen.C04.Platt.Params) (h : Ranges.Platt.Finite p) :
    Gen.C04.Platt.check p = .ok () ↔ Ranges.Platt.InRange p := by
  simp only [Gen.C04.Platt.check, Gen.C04.Platt.guards, guard_simps, XF.isNegative_iff h.1, XF.isNegative_iff h.2]
  unfold Ranges.Platt.InRange
  grind
example : Ranges.Platt.Finite { maxiter := 100, minstep := .fin (1/10), sigma := .fin 0 } ∧ Ranges.Platt.InRange { maxiter := 100, minstep := .fin (1/10), sigma := .fin 0 } ∧ Gen.C04.Platt.check { maxiter := 100, minstep := .fin (1/10), sigma := .fin 0 } = .ok () := by decide +kernel
example : Ranges.Platt.Finite { maxiter := 0, minstep := .fin 1, sigma := .fin 1 } ∧ ¬ Ranges.Platt.InRange { maxiter := 0, minstep := .fin 1, sigma := .fin 1 } := by decide +kernel

theorem KMeans.check_ok_iff (p : Gen.C04.KMeans.Params) (h : Ranges.KMeans.Finite p) :
    Gen.C04.KMeans.check p = .ok () ↔ Ranges.KMeans.InRange p := by
  simp only [Gen.C04.KMeans.check, Gen.C04.KMeans.guards, guard_simps, XF.zero, XF.le_fin_iff h]
  unfold Ranges.KMeans.InRange
  grind
example : Ranges.KMeans.Finite { n_clusters := 3, n_runs := 10, tolerance := .fin (1/10000), max_n_iterations := 300 } ∧ Ranges.KMeans.InRange { n_clusters := 3, n_runs := 10, tolerance := .fin (1/10000), max_n_iterations := 300 } ∧ Gen.C04.KMeans.check { n_clusters := 3, n_runs := 10, tolerance := .fin (1/10000), max_n_iterations := 300 } = .ok () := by decide +kernel
example : Ranges.KMeans.Finite { n_clusters := 3, n_runs := 10, tolerance := .fin 0, max_n_iterations := 300 } ∧ ¬ Ranges.KMeans.InRange { n_clusters := 3, n_runs := 10, tolerance := .fin 0, max_n_iterations := 300 } := by decide +kernel

theorem Dbscan.check_ok_iff (p : Gen.C04.Dbscan.Params) (h : Ranges.Dbscan.Finite p) :
    Gen.C04.Dbscan.check p = .ok () ↔ Ranges.Dbscan.InRange p := by
  simp only [Gen.C04.Dbscan.check, Gen.C04.Dbscan.guards, guard_simps, XF.zero, XF.le_fin_iff h]
  unfold Ranges.Dbscan.InRange
  grind
example : Ranges.Dbscan.Finite { min_points := 2, tolerance := .fin (1/2) } ∧ Ranges.Dbscan.InRange { min_points := 2, tolerance := .fin (1/2) } ∧ Gen.C04.Dbscan.check { min_points := 2, tolerance := .fin (1/2) } = .ok () := by decide +kernel
example : Ranges.Dbscan.Finite { min_points := 1, tolerance := .fin (1/2) } ∧ ¬ Ranges.Dbscan.InRange { min_points := 1, tolerance := .fin (1/2) } := by decide +kernel

/-- approximate DBSCAN (source present, module not compiled in this tree) -/
theorem AppxDbscan.check_ok_iff (p : Gen.C04.AppxDbscan.Params) (h : Ranges.AppxDbscan.Finite p) :
    Gen.C04.AppxDbscan.check p = .ok () ↔ Ranges.AppxDbscan.InRange p := by
  simp only [Gen.C04.AppxDbscan.check, Gen.C04.AppxDbscan.guards, guard_simps, XF.zero, XF.le_fin_iff h.1, XF.le_fin_iff h.2]
  unfold Ranges.AppxDbscan.InRange
  grind
example : Ranges.AppxDbscan.Finite { min_points := 2, tolerance := .fin (1/2), slack := .fin (1/100) } ∧ Ranges.AppxDbscan.InRange { min_points := 2, tolerance := .fin (1/2), slack := .fin (1/100) } ∧ Gen.C04.AppxDbscan.check { min_points := 2, tolerance := .fin (1/2), slack := .fin (1/100) } = .ok () := by decide +kernel
example : Ranges.AppxDbscan.Finite { min_points := 2, tolerance := .fin (1/2), slack := .fin 0 } ∧ ¬ Ranges.AppxDbscan.InRange { min_points := 2, tolerance := .fin (1/2), slack := .fin 0 } := by decide +kernel

theorem Optics.check_ok_iff (p : Gen.C04.Optics.Params) (h : Ranges.Optics.Finite p) :
    Gen.C04.Optics.check p = .ok () ↔ Ranges.Optics.InRange p := by
  simp only [Gen.C04.Optics.check, Gen.C04.Optics.guards, guard_simps, XF.zero, XF.le_fin_iff h]
  unfold Ranges.Optics.InRange
  grind
example : Ranges.Optics.Finite { tolerance := .fin 3, min_points := 2 } ∧ Ranges.Optics.InRange { tolerance := .fin 3, min_points := 2 } ∧ Gen.C04.Optics.check { tolerance := .fin 3, min_points := 2 } = .ok () := by decide +kernel
example : Ranges.Optics.Finite { tolerance := .fin (-1), min_points := 2 } ∧ ¬ Ranges.Optics.InRange { tolerance := .fin (-1), min_points := 2 } := by decide +kernel

theorem Gmm.check_ok_iff (p : Gen.C04.Gmm.Params) (h : Ranges.Gmm.Finite p) :
    Gen.C04.Gmm.check p = .ok () ↔ Ranges.Gmm.InRange p := by
  simp only [Gen.C04.Gmm.check, Gen.C04.Gmm.guards, guard_simps, XF.zero, XF.le_fin_iff h.1, XF.lt_fin_iff h.2]
  unfold Ranges.Gmm.InRange
  grind
example : Ranges.Gmm.Finite { n_clusters := 2, tolerance := .fin (1/1000), reg_covar := .fin 0, n_runs := 1, max_n_iter := 100 } ∧ Ranges.Gmm.InRange { n_clusters := 2, tolerance := .fin (1/1000), reg_covar := .fin 0, n_runs := 1, max_n_iter := 100 } ∧ Gen.C04.Gmm.check { n_clusters := 2, tolerance := .fin (1/1000), reg_covar := .fin 0, n_runs := 1, max_n_iter := 100 } = .ok () := by decide +kernel
example : Ranges.Gmm.Finite { n_clusters := 2, tolerance := .fin (1/1000), reg_covar := .fin (-1/1000), n_runs := 1, max_n_iter := 100 } ∧ ¬ Ranges.Gmm.InRange { n_clusters := 2, tolerance := .fin (1/1000), reg_covar := .fin (-1/1000), n_runs := 1, max_n_iter := 100 } := by decide +kernel

/-- elastic net, single- and multi-task (one guard, const generic) -/
theorem ElasticNet.check_ok_iff (p : Gen.C04.ElasticNet.Params) (h : Ranges.ElasticNet.Finite p) :
    Gen.C04.ElasticNet.check p = .ok () ↔ Ranges.ElasticNet.InRange p := by
  simp only [Gen.C04.ElasticNet.check, Gen.C04.ElasticNet.guards, guard_simps, XF.isNegative_iff h.1, XF.isNegative_iff h.2.2]
  -- penalty, tolerance; the guard on `l1_ratio` rejects non-finite values by itself
  unfold Ranges.ElasticNet.InRange
  grind
example : Ranges.ElasticNet.Finite { penalty := .fin (1/10), l1_ratio := .fin 1, tolerance := .fin 0 } ∧ Ranges.ElasticNet.InRange { penalty := .fin (1/10), l1_ratio := .fin 1, tolerance := .fin 0 } ∧ Gen.C04.ElasticNet.check { penalty := .fin (1/10), l1_ratio := .fin 1, tolerance := .fin 0 } = .ok () := by decide +kernel
example : Ranges.ElasticNet.Finite { penalty := .fin (1/10), l1_ratio := .fin (3/2), tolerance := .fin 0 } ∧ ¬ Ranges.ElasticNet.InRange { penalty := .fin (1/10), l1_ratio := .fin (3/2), tolerance := .fin 0 } := by decide +kernel

/-- The FULL statement for the elastic net is false of model and code (finding `C04-elasticnet-max-iterations-zero`, open):
     Finite p → (check p = .ok () ↔ Ranges.ElasticNet.DocRange p max_iterations)
`ElasticNet.check_ok_iff` above is the part that holds (the three guarded fields); what is missing is a guard on `max_iterations`
(documented `[1, inf)`): the guard chain cannot depend on a field it does not read.  Witness: finite parameters outside the
documented range that pass the translated check. -/
theorem ElasticNet.max_iterations_unguarded :
    ∃ (p : Gen.C04.ElasticNet.Params) (mi : Nat), Ranges.ElasticNet.Finite p ∧
      Gen.C04.ElasticNet.check p = .ok () ∧ ¬ Ranges.ElasticNet.DocRange p mi :=
  ⟨{ penalty := .fin 1, l1_ratio := .fin (1/2), tolerance := .fin (1/10000) }, 0, by decide +kernel⟩
/-- with the extra hypothesis that excludes the defect the full documented range is characterised -/
theorem ElasticNet.check_ok_iff_doc_partial (p : Gen.C04.ElasticNet.Params) (h : Ranges.ElasticNet.Finite p)
    (mi : Nat) (hmi : 1 ≤ mi) :
    Gen.C04.ElasticNet.check p = .ok () ↔ Ranges.ElasticNet.DocRange p mi := by
  rw [ElasticNet.check_ok_iff p h, Ranges.ElasticNet.DocRange, and_iff_left hmi]
example : Ranges.ElasticNet.DocRange { penalty := .fin 1, l1_ratio := .fin (1/2), tolerance := .fin (1/10000) } 1000 := by decide +kernel

theorem Tweedie.check_ok_iff (p : Gen.C04.Tweedie.Params) (h : Ranges.Tweedie.Finite p) :
    Gen.C04.Tweedie.check p = .ok () ↔ Ranges.Tweedie.InRange p := by
  simp only [Gen.C04.Tweedie.check, Gen.C04.Tweedie.guards, guard_simps, XF.isSignNegative, XF.isNegative_iff h.1,
    Bool.and_eq_true, XF.zero, XF.one, XF.gt_fin_iff h.2, XF.lt_fin_iff h.2, Classical.not_and_iff_not_or_not, ← XF.sat_or]
  unfold Ranges.Tweedie.InRange
  grind
example : Ranges.Tweedie.Finite { alpha := .fin 0, power := .fin 1 } ∧ Ranges.Tweedie.InRange { alpha := .fin 0, power := .fin 1 } ∧ Gen.C04.Tweedie.check { alpha := .fin 0, power := .fin 1 } = .ok () := by decide +kernel
example : Ranges.Tweedie.Finite { alpha := .fin 0, power := .fin (1/2) } ∧ ¬ Ranges.Tweedie.InRange { alpha := .fin 0, power := .fin (1/2) } := by decide +kernel

/-- decision tree, for both float carriers (`F::epsilon()` is 2^-52 at f64 and 2^-23 at f32) -/
theorem DecisionTree.check_ok_iff (p : Gen.C04.DecisionTree.Params) (h : Ranges.DecisionTree.Finite p) :
    Gen.C04.DecisionTree.check p = .ok () ↔ Ranges.DecisionTree.InRange p := by
  simp only [Gen.C04.DecisionTree.check, Gen.C04.DecisionTree.guards, guard_simps, XF.lt_fin_iff h]
  unfold Ranges.DecisionTree.InRange
  grind
example : Ranges.DecisionTree.Finite { min_impurity_decrease := .fin (1/100000), carrier := .f64 } ∧ Ranges.DecisionTree.InRange { min_impurity_decrease := .fin (1/100000), carrier := .f64 } ∧ Gen.C04.DecisionTree.check { min_impurity_decrease := .fin (1/100000), carrier := .f64 } = .ok () := by decide +kernel
/-- the carrier matters: 1e-9-ish values pass at f64 and are rejected at f32 -/
example : Ranges.DecisionTree.InRange { min_impurity_decrease := .fin (1/1000000000), carrier := .f64 } ∧
    ¬ Ranges.DecisionTree.InRange { min_impurity_decrease := .fin (1/1000000000), carrier := .f32 } ∧
    Gen.C04.DecisionTree.check { min_impurity_decrease := .fin (1/1000000000), carrier := .f32 } ≠ .ok () := by decide +kernel
example : Ranges.DecisionTree.Finite { min_impurity_decrease := .fin 0, carrier := .f64 } ∧ ¬ Ranges.DecisionTree.InRange { min_impurity_decrease := .fin 0, carrier := .f64 } := by decide +kernel

theorem GaussianNb.check_ok_iff (p : Gen.C04.GaussianNb.Params) (h : Ranges.GaussianNb.Finite p) :
    Gen.C04.GaussianNb.check p = .ok () ↔ Ranges.GaussianNb.InRange p := by
  simp only [Gen.C04.GaussianNb.check, Gen.C04.GaussianNb.guards, guard_simps, XF.isNegative_iff h]
  unfold Ranges.GaussianNb.InRange
  grind
example : Ranges.GaussianNb.Finite { var_smoothing := .fin 0 } ∧ Ranges.GaussianNb.InRange { var_smoothing := .fin 0 } ∧ Gen.C04.GaussianNb.check { var_smoothing := .fin 0 } = .ok () := by decide +kernel
example : Ranges.GaussianNb.Finite { var_smoothing := .fin (-1) } ∧ ¬ Ranges.GaussianNb.InRange { var_smoothing := .fin (-1) } := by decide +kernel

theorem MultinomialNb.check_ok_iff (p : Gen.C04.MultinomialNb.Params) (h : Ranges.MultinomialNb.Finite p) :
    Gen.C04.MultinomialNb.check p = .ok () ↔ Ranges.MultinomialNb.InRange p := by
  simp only [Gen.C04.MultinomialNb.check, Gen.C04.MultinomialNb.guards, guard_simps, XF.isNegative_iff h]
  unfold Ranges.MultinomialNb.InRange
  grind
example : Ranges.MultinomialNb.Finite { alpha := .fin 1 } ∧ Ranges.MultinomialNb.InRange { alpha := .fin 1 } ∧ Gen.C04.MultinomialNb.check { alpha := .fin 1 } = .ok () := by decide +kernel
example : Ranges.MultinomialNb.Finite { alpha := .fin (-1) } ∧ ¬ Ranges.MultinomialNb.InRange { alpha := .fin (-1) } := by decide +kernel

theorem TSne.check_ok_iff (p : Gen.C04.TSne.Params) (h : Ranges.TSne.Finite p) :
    Gen.C04.TSne.check p = .ok () ↔ Ranges.TSne.InRange p := by
  simp only [Gen.C04.TSne.check, Gen.C04.TSne.guards, guard_simps, XF.isNegative_iff h.1, XF.isNegative_iff h.2]
  unfold Ranges.TSne.InRange
  grind
example : Ranges.TSne.Finite { perplexity := .fin 5, approx_threshold := .fin 0 } ∧ Ranges.TSne.InRange { perplexity := .fin 5, approx_threshold := .fin 0 } ∧ Gen.C04.TSne.check { perplexity := .fin 5, approx_threshold := .fin 0 } = .ok () := by decide +kernel
example : Ranges.TSne.Finite { perplexity := .fin (-5), approx_threshold := .fin 0 } ∧ ¬ Ranges.TSne.InRange { perplexity := .fin (-5), approx_threshold := .fin 0 } := by decide +kernel

theorem FastIca.check_ok_iff (p : Gen.C04.FastIca.Params) (h : Ranges.FastIca.Finite p) :
    Gen.C04.FastIca.check p = .ok () ↔ Ranges.FastIca.InRange p := by
  simp only [Gen.C04.FastIca.check, Gen.C04.FastIca.guards, guard_simps, XF.zero, XF.lt_fin_iff h]
  unfold Ranges.FastIca.InRange
  grind
example : Ranges.FastIca.Finite { tol := .fin (1/10000) } ∧ Ranges.FastIca.InRange { tol := .fin (1/10000) } ∧ Gen.C04.FastIca.check { tol := .fin (1/10000) } = .ok () := by decide +kernel
example : Ranges.FastIca.Finite { tol := .fin (-1/10000) } ∧ ¬ Ranges.FastIca.InRange { tol := .fin (-1/10000) } := by decide +kernel

theorem DiffusionMap.check_ok_iff (p : Gen.C04.DiffusionMap.Params) (h : Ranges.DiffusionMap.Finite p) :
    Gen.C04.DiffusionMap.check p = .ok () ↔ Ranges.DiffusionMap.InRange p := by
  simp only [Gen.C04.DiffusionMap.check, Gen.C04.DiffusionMap.guards, guard_simps]
  unfold Ranges.DiffusionMap.InRange
  grind
example : Ranges.DiffusionMap.Finite { steps := 1, embedding_size := 2 } ∧ Ranges.DiffusionMap.InRange { steps := 1, embedding_size := 2 } ∧ Gen.C04.DiffusionMap.check { steps := 1, embedding_size := 2 } = .ok () := by decide +kernel
example : Ranges.DiffusionMap.Finite { steps := 0, embedding_size := 2 } ∧ ¬ Ranges.DiffusionMap.InRange { steps := 0, embedding_size := 2 } := by decide +kernel

/-- SVM (nested Platt guard first, then eps, C, nu) -/
theorem Svm.check_ok_iff (p : Gen.C04.Svm.Params) (h : Ranges.Svm.Finite p) :
    Gen.C04.Svm.check p = .ok () ↔ Ranges.Svm.InRange p := by
  obtain ⟨eps, c, nu, platt⟩ := p
  obtain ⟨hp, -, hc, hnu⟩ := h
  have hpl := Platt.check_ok_iff platt hp
  simp only [Gen.C04.Svm.check, Gen.C04.Svm.guards, guard_simps]
  rcases c with _ | ⟨c1, c2⟩ <;> rcases nu with _ | ⟨n1, n2⟩
  case' none.some => simp only [guard_simps, Bool.or_eq_true, not_or, XF.zero, XF.one, XF.le_fin_iff hnu.1, XF.gt_fin_iff hnu.1,
      XF.le_fin_iff hnu.2, ← XF.sat_and]
  case' some.none => simp only [guard_simps, Bool.or_eq_true, not_or, XF.zero, XF.le_fin_iff hc.1, XF.le_fin_iff hc.2]
  case' some.some => simp only [guard_simps, Bool.or_eq_true, not_or, XF.zero, XF.one, XF.le_fin_iff hc.1, XF.le_fin_iff hc.2,
      XF.le_fin_iff hnu.1, XF.gt_fin_iff hnu.1, XF.le_fin_iff hnu.2, ← XF.sat_and]
  -- the nested Platt guard: its verdict is `Platt.check platt`, which `hpl` puts on the right as well
  all_goals
    unfold Ranges.Svm.InRange
    rw [← hpl]
    cases Gen.C04.Platt.check platt <;> grind
example : Ranges.Svm.Finite { solver_params_eps := .fin (1/1000), c := some (.fin 1, .fin (1/2)), nu := none, platt := { maxiter := 100, minstep := .fin 0, sigma := .fin 0 } } ∧
    Ranges.Svm.InRange { solver_params_eps := .fin (1/1000), c := some (.fin 1, .fin (1/2)), nu := none, platt := { maxiter := 100, minstep := .fin 0, sigma := .fin 0 } } := by decide +kernel
example : ¬ Ranges.Svm.InRange { solver_params_eps := .fin (1/1000), c := none, nu := some (.fin (3/2), .fin (3/2)), platt := { maxiter := 100, minstep := .fin 0, sigma := .fin 0 } } := by decide +kernel

/-- random projection (Gaussian and sparse; `Dimension` / `Epsilon` variants) -/
theorem RandomProjection.check_ok_iff (p : Gen.C04.RandomProjection.Params) (h : Ranges.RandomProjection.Finite p) :
    Gen.C04.RandomProjection.check p = .ok () ↔ Ranges.RandomProjection.InRange p := by
  obtain ⟨d | e⟩ := p
  · simp only [Gen.C04.RandomProjection.check, Gen.C04.RandomProjection.guards, guard_simps]
    unfold Ranges.RandomProjection.InRange
    grind
  · simp only [Gen.C04.RandomProjection.check, Gen.C04.RandomProjection.guards, guard_simps,
      Bool.or_eq_true, XF.le_fin_iff h, XF.ge_fin_iff h, not_or, ← XF.sat_and]
    unfold Ranges.RandomProjection.InRange
    grind
example : Ranges.RandomProjection.Finite { params := .Epsilon (.fin (1/10)) } ∧ Ranges.RandomProjection.InRange { params := .Epsilon (.fin (1/10)) } := by decide +kernel
example : ¬ Ranges.RandomProjection.InRange { params := .Epsilon (.fin 1) } ∧ ¬ Ranges.RandomProjection.InRange { params := .Dimension 0 } := by decide +kernel

/-- count vectoriser.  The upper bound of the frequencies is what finding `C04-countvectorizer-docfreq-upper`
(known_findings.json) is about: with a guard that tests `< 0` only, `document_frequency = (0, 3/2)` passes and this is false. -/
theorem CountVectorizer.check_ok_iff (p : Gen.C04.CountVectorizer.Params) (h : Ranges.CountVectorizer.Finite p) :
    Gen.C04.CountVectorizer.check p = .ok () ↔ Ranges.CountVectorizer.InRange p := by
  simp only [Gen.C04.CountVectorizer.check, Gen.C04.CountVectorizer.guards, guard_simps, Bool.or_eq_true, decide_eq_true_eq,
    Nat.not_lt, XF.not_unit01_pair_iff h.1 h.2, XF.lt_iff h.1 h.2, Bool.not_eq_true', Bool.not_eq_false, not_or]
  unfold Ranges.CountVectorizer.InRange
  grind
example : Ranges.CountVectorizer.Finite { n_gram_range := (1, 2), document_frequency := (.fin (1/4), .fin 1), split_regex_ok := true } ∧
    Ranges.CountVectorizer.InRange { n_gram_range := (1, 2), document_frequency := (.fin (1/4), .fin 1), split_regex_ok := true } := by decide +kernel
/-- a frequency above 1 is rejected with the error the documentation names -/
example : Gen.C04.CountVectorizer.check { n_gram_range := (1, 1), document_frequency := (.fin (1/2), .fin (3/2)), split_regex_ok := true }
    = .error "InvalidDocumentFrequencies" := by decide +kernel

/-! ## Rebuild setters (`with_rng`, wrapper setters): the guarded fields, hence the outcome, are preserved -/

/-- a setter `r` under which the guard is invariant leaves every outcome of the trait-level code as it was: same verdict
and error of `check_ref` / `check`, same error from `fit` on the unchecked builder -/
theorem rebuild_preserves_outcome {P E E' M D : Type} (chk : P → Except E Unit) (conv : E → E')
    (fit : P → D → Except E' M) (r : P → P) (h : ∀ p, chk (r p) = chk p) (p : P) (d : D) :
    ((∃ q, checkRef chk (r p) = .ok q) ↔ (∃ q, checkRef chk p = .ok q)) ∧
    (∀ e, checkRef chk (r p) = .error e ↔ checkRef chk p = .error e) ∧
    (∀ e, checkVal chk (r p) = .error e ↔ checkVal chk p = .error e) ∧
    (∀ e, chk p = .error e → fitUnchecked chk conv fit (r p) d = .error (conv e)) ∧
    (chk p = .ok () → fitUnchecked chk conv fit (r p) d = fit (r p) d) := by
  -- every outcome of `check_ref` / `check` is a function of `chk`, which `r` leaves alone
  simp only [checkRef_ok_iff, check_eq_check_ref, checkRef_error_iff, ← h p, true_and, implies_true]
  exact fit_on_unchecked chk conv fit (r p) d

/-- `GmmParams::with_rng` copies every guarded field (in particular `max_n_iter`) -/
theorem Gmm.withRng_preserves (p : Gen.C04.Gmm.Params) :
    (Ranges.Gmm.withRng p).n_clusters = p.n_clusters ∧ (Ranges.Gmm.withRng p).tolerance = p.tolerance ∧
    (Ranges.Gmm.withRng p).reg_covar = p.reg_covar ∧ (Ranges.Gmm.withRng p).n_runs = p.n_runs ∧
    (Ranges.Gmm.withRng p).max_n_iter = p.max_n_iter ∧
    Gen.C04.Gmm.check (Ranges.Gmm.withRng p) = Gen.C04.Gmm.check p :=
  ⟨rfl, rfl, rfl, rfl, rfl, rfl⟩

/-- so an invalid value set before `with_rng` is still rejected after it, with the same error -/
theorem Gmm.withRng_rejects (p : Gen.C04.Gmm.Params) (h : Ranges.Gmm.Finite p) (hbad : ¬ Ranges.Gmm.InRange p) :
    ∃ t, Gen.C04.Gmm.check (Ranges.Gmm.withRng p) = .error t := by
  rw [(Gmm.withRng_preserves p).2.2.2.2.2]
  cases hc : Gen.C04.Gmm.check p with
  | error t => exact ⟨t, rfl⟩
  | ok u => exact absurd ((Gmm.check_ok_iff p h).mp hc) hbad
example : Gen.C04.Gmm.check (Ranges.Gmm.withRng { n_clusters := 2, tolerance := .fin (1/1000), reg_covar := .fin 0, n_runs := 1, max_n_iter := 0 })
    ≠ .ok () := by decide +kernel

/-- `RandomProjectionParams::with_rng` copies the `Dimension` / `Epsilon` variant -/
theorem RandomProjection.withRng_preserves (p : Gen.C04.RandomProjection.Params) :
    (Ranges.RandomProjection.withRng p).params = p.params ∧
    Gen.C04.RandomProjection.check (Ranges.RandomProjection.withRng p) = Gen.C04.RandomProjection.check p :=
  ⟨rfl, rfl⟩
example : Gen.C04.RandomProjection.check (Ranges.RandomProjection.withRng { params := .Dimension 0 }) ≠ .ok () := by decide +kernel

/-- `TfIdfVectorizer` setters: when the inner setter `f` keeps the guard's verdict, `fit*` on the re-wrapped vectoriser
returns the same checking error -/
theorem tfidf_setter_preserves {P E M M' Mt D : Type} (chk : P → Except E Unit) (fit : P → D → Except E M) (wrap : M → M')
    (f : P → P) (h : ∀ p, chk (f p) = chk p) (w : P × Mt) (d : D) (e : E) (he : chk w.1 = .error e) :
    wrapUnchecked chk fit wrap (Ranges.tfidfSet f w).1 d = .error e ∧ (Ranges.tfidfSet f w).2 = w.2 :=
  ⟨(wrap_on_unchecked chk fit wrap _ d).1 e ((h w.1).trans he), rfl⟩
example : wrapUnchecked (fun n : Nat => if n = 0 then .error "zero" else .ok ())
    (fun n (_ : Unit) => (.ok (n + 1) : Except String Nat)) (fun m => (m, m)) (Ranges.tfidfSet id ((0 : Nat), "smooth")).1 () = .error "zero" := rfl

/-! ## Non-finite values: builders whose documentation (or guard text) demands FINITE values

For these the equivalence holds for ALL parameter values, without the hypothesis `Finite p` (`InRange` demands finite
values through `XF.Sat`): a NaN / infinite value is rejected.  Removing a `!x.is_finite()` / `is_nan() || is_infinite()`
conjunct from one of these guards breaks the theorem (under `Finite` such a conjunct is dead, so `check_ok_iff` alone
would not notice).  The `check_ok_iff` of these builders is the special case. -/

/-- FTRL ("alpha / beta must be positive and finite", ratios "in range [0, 1]"): no finiteness hypothesis -/
theorem Ftrl.check_ok_iff_total (p : Gen.C04.Ftrl.Params) :
    Gen.C04.Ftrl.check p = .ok () ↔ Ranges.Ftrl.InRange p := by
  simp only [Gen.C04.Ftrl.check, Gen.C04.Ftrl.guards, guard_simps, XF.not_isFinite_or_iff XF.isNegative_iff]
  unfold Ranges.Ftrl.InRange
  grind
example : Gen.C04.Ftrl.check { l1_ratio := .fin (1/2), l2_ratio := .fin 1, alpha := .nan, beta := .fin 0 } ≠ .ok () ∧
    Gen.C04.Ftrl.check { l1_ratio := .fin (1/2), l2_ratio := .fin 1, alpha := .fin 1, beta := .pinf } ≠ .ok () := by decide +kernel
theorem Ftrl.check_ok_iff (p : Gen.C04.Ftrl.Params) (h : Ranges.Ftrl.Finite p) :
    Gen.C04.Ftrl.check p = .ok () ↔ Ranges.Ftrl.InRange p :=
  Ftrl.check_ok_iff_total p
example : Ranges.Ftrl.Finite { l1_ratio := .fin (1/2), l2_ratio := .fin 1, alpha := .fin (1/200), beta := .fin 0 } ∧ Ranges.Ftrl.InRange { l1_ratio := .fin (1/2), l2_ratio := .fin 1, alpha := .fin (1/200), beta := .fin 0 } ∧ Gen.C04.Ftrl.check { l1_ratio := .fin (1/2), l2_ratio := .fin 1, alpha := .fin (1/200), beta := .fin 0 } = .ok () := by decide +kernel
example : Ranges.Ftrl.Finite { l1_ratio := .fin (1/2), l2_ratio := .fin 2, alpha := .fin (1/200), beta := .fin 0 } ∧ ¬ Ranges.Ftrl.InRange { l1_ratio := .fin (1/2), l2_ratio := .fin 2, alpha := .fin (1/200), beta := .fin 0 } := by decide +kernel

/-- logistic regression, binary and multinomial (one guard): "alpha / gradient_tolerance must be a positive, finite number",
"initial parameters must be finite" -/
theorem Logistic.check_ok_iff_total (p : Gen.C04.Logistic.Params) :
    Gen.C04.Logistic.check p = .ok () ↔ Ranges.Logistic.InRange p := by
  obtain ⟨alpha, gradient_tolerance, _ | xs⟩ := p
  all_goals
    simp only [Gen.C04.Logistic.check, Gen.C04.Logistic.guards, guard_simps, XF.zero,
      XF.not_isFinite_or_iff (XF.lt_fin_iff · 0), XF.not_isFinite_or_iff (XF.le_fin_iff · 0)]
    unfold Ranges.Logistic.InRange
    grind
example : Gen.C04.Logistic.check { alpha := .pinf, gradient_tolerance := .fin 1, initial_params := none } ≠ .ok () ∧
    Gen.C04.Logistic.check { alpha := .fin 1, gradient_tolerance := .nan, initial_params := none } ≠ .ok () := by decide +kernel
theorem Logistic.check_ok_iff (p : Gen.C04.Logistic.Params) (h : Ranges.Logistic.Finite p) :
    Gen.C04.Logistic.check p = .ok () ↔ Ranges.Logistic.InRange p :=
  Logistic.check_ok_iff_total p
example : Ranges.Logistic.Finite { alpha := .fin 1, gradient_tolerance := .fin (1/10000), initial_params := some [.fin 0, .fin (1/2)] } ∧
    Ranges.Logistic.InRange { alpha := .fin 1, gradient_tolerance := .fin (1/10000), initial_params := some [.fin 0, .fin (1/2)] } := by decide +kernel
example : ¬ Ranges.Logistic.InRange { alpha := .fin 1, gradient_tolerance := .fin 0, initial_params := none } := by decide +kernel

/-- PLS, the generic builder (crate-private) and the macro-generated PlsRegression / PlsCanonical / PlsCca (guard: negative,
NaN and infinite tolerances are `InvalidTolerance`) -/
theorem Pls.check_ok_iff_total (p : Gen.C04.Pls.Params) :
    Gen.C04.Pls.check p = .ok () ↔ Ranges.Pls.InRange p := by
  simp only [Gen.C04.Pls.check, Gen.C04.Pls.guards, guard_simps]
  unfold Ranges.Pls.InRange
  grind
theorem PlsMacro.check_ok_iff_total (p : Gen.C04.PlsMacro.Params) :
    Gen.C04.PlsMacro.check p = .ok () ↔ Ranges.PlsMacro.InRange p := by
  simp only [Gen.C04.PlsMacro.check, Gen.C04.PlsMacro.guards, guard_simps]
  unfold Ranges.PlsMacro.InRange
  grind
example : Gen.C04.PlsMacro.check { tolerance := .nan, max_iter := 5 } ≠ .ok () ∧ Gen.C04.Pls.check { tolerance := .pinf, max_iter := 5 } ≠ .ok () := by decide +kernel
theorem Pls.check_ok_iff (p : Gen.C04.Pls.Params) (h : Ranges.Pls.Finite p) :
    Gen.C04.Pls.check p = .ok () ↔ Ranges.Pls.InRange p :=
  Pls.check_ok_iff_total p
example : Ranges.Pls.Finite { tolerance := .fin (1/1000000), max_iter := 500 } ∧ Ranges.Pls.InRange { tolerance := .fin (1/1000000), max_iter := 500 } ∧ Gen.C04.Pls.check { tolerance := .fin (1/1000000), max_iter := 500 } = .ok () := by decide +kernel
example : Ranges.Pls.Finite { tolerance := .fin (1/1000000), max_iter := 0 } ∧ ¬ Ranges.Pls.InRange { tolerance := .fin (1/1000000), max_iter := 0 } := by decide +kernel
theorem PlsMacro.check_ok_iff (p : Gen.C04.PlsMacro.Params) (h : Ranges.PlsMacro.Finite p) :
    Gen.C04.PlsMacro.check p = .ok () ↔ Ranges.PlsMacro.InRange p :=
  PlsMacro.check_ok_iff_total p
example : Ranges.PlsMacro.Finite { tolerance := .fin 0, max_iter := 1 } ∧ Ranges.PlsMacro.InRange { tolerance := .fin 0, max_iter := 1 } ∧ Gen.C04.PlsMacro.check { tolerance := .fin 0, max_iter := 1 } = .ok () := by decide +kernel
example : Ranges.PlsMacro.Finite { tolerance := .fin (-1), max_iter := 1 } ∧ ¬ Ranges.PlsMacro.InRange { tolerance := .fin (-1), max_iter := 1 } := by decide +kernel

/-- hierarchical clustering (stopping criterion `NumClusters(n)`: 0 invalid; `Distance(x)`: negative, NaN and infinite
thresholds are invalid) -/
theorem Hierarchical.check_ok_iff_total (p : Gen.C04.Hierarchical.Params) :
    Gen.C04.Hierarchical.check p = .ok () ↔ Ranges.Hierarchical.InRange p := by
  obtain ⟨(_ | n) | x⟩ := p
  · decide
  all_goals
    simp only [Gen.C04.Hierarchical.check, Gen.C04.Hierarchical.guards, guard_simps]
    unfold Ranges.Hierarchical.InRange
    grind
example : Gen.C04.Hierarchical.check { stopping := .Distance .nan } ≠ .ok () := by decide +kernel
theorem Hierarchical.check_ok_iff (p : Gen.C04.Hierarchical.Params) (h : Ranges.Hierarchical.Finite p) :
    Gen.C04.Hierarchical.check p = .ok () ↔ Ranges.Hierarchical.InRange p :=
  Hierarchical.check_ok_iff_total p
example : Ranges.Hierarchical.Finite { stopping := .Distance (.fin (1/2)) } ∧ Ranges.Hierarchical.InRange { stopping := .Distance (.fin (1/2)) } := by decide +kernel
example : ¬ Ranges.Hierarchical.InRange { stopping := .NumClusters 0 } := by decide +kernel

/-- SVM: a NaN / infinite solver tolerance is rejected whatever the other fields are (the weights are compared with `<=`
only: a NaN weight passes, which is outside the statement's "finite values") -/
theorem Svm.nonfinite_eps_rejected (p : Gen.C04.Svm.Params) (h : ¬ p.solver_params_eps.Finite) :
    Gen.C04.Svm.check p ≠ .ok () := by
  simp only [ne_eq, Gen.C04.Svm.check, Gen.C04.Svm.guards, guard_simps]
  exact fun hc => h (by simp only [hc] : Ranges.nonneg p.solver_params_eps).finite
example : ¬ (XF.nan).Finite := by decide

/-! ## Setter chains of `CountVectorizerParams` and of the `TfIdfVectorizer` wrapper (`cvRun` / `tfidfRun`, which the
driver runs on every `sets=` request) -/

/-- a setter that assigns no guarded field (`max_features`, `convert_to_lowercase`, `normalize`, `stopwords`) leaves the
guarded fields alone -/
theorem cv_unguarded_setter_id (p : Gen.C04.CountVectorizer.Params) (s : Ranges.CvSet) (h : s.isGuarded = false) :
    Ranges.CvSet.apply p s = p := by
  cases s with
  | nGramRange | documentFrequency | tokenizerRegex => cases h
  | _ => rfl

/-- … wherever such calls stand in a chain, and however many there are: the parameters a chain leaves are those of the
chain with these calls removed (induction over the chain, for every start state) -/
theorem cv_chain_drop_unguarded (ops : List Ranges.CvSet) :
    Ranges.cvRun ops = Ranges.cvRun (ops.filter Ranges.CvSet.isGuarded) := by
  unfold Ranges.cvRun
  generalize Ranges.cvDefault = p0
  induction ops generalizing p0 with
  | nil => rfl
  | cons s rest ih =>
    cases hs : s.isGuarded with
    | true => rw [List.filter_cons_of_pos hs]; exact ih _
    | false =>
      rw [List.filter_cons_of_neg (Bool.eq_false_iff.mp hs), List.foldl_cons, cv_unguarded_setter_id p0 s hs]
      exact ih _
example : Ranges.cvRun [.maxFeatures, .nGramRange 2 1, .stopwords, .normalize] = Ranges.cvRun [.nGramRange 2 1] ∧
    Gen.C04.CountVectorizer.check (Ranges.cvRun [.maxFeatures, .nGramRange 2 1, .stopwords, .normalize]) ≠ .ok () :=
  ⟨cv_chain_drop_unguarded _, by decide +kernel⟩

/-- a later call of a guarded setter overrides an earlier one of the same kind: what an (invalid) earlier call left in the
field does not survive -/
theorem cv_setter_overrides (p p' : Gen.C04.CountVectorizer.Params) (s : Ranges.CvSet) :
    (∀ a b, s = .nGramRange a b → (Ranges.CvSet.apply p s).n_gram_range = (Ranges.CvSet.apply p' s).n_gram_range) ∧
    (∀ lo hi, s = .documentFrequency lo hi → (Ranges.CvSet.apply p s).document_frequency = (Ranges.CvSet.apply p' s).document_frequency) ∧
    (∀ ok, s = .tokenizerRegex ok → (Ranges.CvSet.apply p s).split_regex_ok = (Ranges.CvSet.apply p' s).split_regex_ok) := by
  refine ⟨?_, ?_, ?_⟩ <;> intros <;> subst_vars <;> rfl

/-- the wrapper's chain (every call through `tfidfSet`) leaves exactly the inner builder's chain result next to an untouched
method; hence `TfIdfVectorizer::fit*` after the chain returns the checking error of the inner chain -/
theorem tfidf_chain {M E Mo Mo' D : Type} (m : M) (ops : List Ranges.CvSet)
    (fit : Gen.C04.CountVectorizer.Params → D → Except String Mo) (wrap : Mo → Mo') (d : D) :
    (Ranges.tfidfRun m ops).1 = Ranges.cvRun ops ∧ (Ranges.tfidfRun m ops).2 = m ∧
    (∀ e, Gen.C04.CountVectorizer.check (Ranges.cvRun ops) = .error e →
      wrapUnchecked Gen.C04.CountVectorizer.check fit wrap (Ranges.tfidfRun m ops).1 d = .error e) := by
  have key : ∀ (w : Gen.C04.CountVectorizer.Params × M),
      (ops.foldl (fun w s => Ranges.tfidfSet (fun p => Ranges.CvSet.apply p s) w) w) = (ops.foldl Ranges.CvSet.apply w.1, w.2) := by
    induction ops with
    | nil => exact fun _ => rfl
    | cons s rest ih => exact fun _ => ih _
  have h1 : (Ranges.tfidfRun m ops).1 = Ranges.cvRun ops := congrArg Prod.fst (key (Ranges.cvDefault, m))
  refine ⟨h1, congrArg Prod.snd (key (Ranges.cvDefault, m)), fun e he => ?_⟩
  rw [h1]
  exact (wrap_on_unchecked _ fit wrap _ d).1 e he
example : (Ranges.tfidfRun "smooth" [.documentFrequency (.fin 0) (.fin 2), .maxFeatures]).2 = "smooth" ∧
    (Ranges.tfidfRun "smooth" [.documentFrequency (.fin 0) (.fin 2), .maxFeatures]).1.document_frequency = (.fin 0, .fin 2) := by decide +kernel

/-! ## Which error, concretely — order-free: the error names a documented bound the parameters violate

(The statement promises "exactly the checking error", not which one a doubly-invalid builder gets; these theorems
survive a reordering of the guards.) -/

/-- K-means: each of the four errors names a bound that is violated -/
theorem KMeans.check_error_sound (p : Gen.C04.KMeans.Params) (h : Ranges.KMeans.Finite p) (t : String)
    (he : Gen.C04.KMeans.check p = .error t) :
    (t = "NClusters" ∧ p.n_clusters = 0) ∨ (t = "NRuns" ∧ p.n_runs = 0) ∨
    (t = "Tolerance" ∧ ¬ Ranges.pos p.tolerance) ∨ (t = "MaxIterations" ∧ p.max_n_iterations = 0) := by
  have hm := (check_error_is_firing_guard _).1 _ he
  simp only [Gen.C04.KMeans.guards, List.mem_cons, List.not_mem_nil, or_false, some_eq_guard_iff, beq_iff_eq,
    XF.zero, XF.le_fin_iff h] at hm
  rcases hm with h | h | h | h <;> simp only [h, not_false_eq_true, and_self, true_or, or_true]
example : Gen.C04.KMeans.check { n_clusters := 2, n_runs := 0, tolerance := .fin 0, max_n_iterations := 0 } = .error "NRuns" := by decide +kernel

/-- count vectoriser: the three hyper-parameter errors name the violated bound -/
theorem CountVectorizer.check_error_sound (p : Gen.C04.CountVectorizer.Params) (h : Ranges.CountVectorizer.Finite p) (t : String)
    (he : Gen.C04.CountVectorizer.check p = .error t) :
    (t = "InvalidNGramBoundaries" ∧ (p.n_gram_range.1 = 0 ∨ p.n_gram_range.2 = 0)) ∨
    (t = "FlippedNGramBoundaries" ∧ p.n_gram_range.2 < p.n_gram_range.1) ∨
    (t = "InvalidDocumentFrequencies" ∧ ¬ (Ranges.unit01 p.document_frequency.1 ∧ Ranges.unit01 p.document_frequency.2)) ∨
    (t = "FlippedDocumentFrequencies" ∧
      ¬ p.document_frequency.1.Sat (fun a => p.document_frequency.2.Sat (fun b => a ≤ b))) ∨
    (t = "RegexError" ∧ p.split_regex_ok = false) := by
  have hm := (check_error_is_firing_guard _).1 _ he
  simp only [Gen.C04.CountVectorizer.guards, List.mem_cons, List.not_mem_nil, or_false, some_eq_guard_iff, Bool.or_eq_true,
    beq_iff_eq, decide_eq_true_eq, gt_iff_lt, XF.not_unit01_pair_iff h.1 h.2, XF.lt_iff h.1 h.2, Bool.not_eq_true'] at hm
  rcases hm with h | h | h | h | h <;> simp only [h, not_false_eq_true, and_self, true_or, or_true]
example : Ranges.CountVectorizer.Finite { n_gram_range := (1, 1), document_frequency := (.fin 0, .fin 2), split_regex_ok := true } := by decide +kernel

end LinfaSpec.Props.C04
