import LinfaSpec.Model.Predict
import LinfaSpec.Proofs.Lists

/-! Core-only lemmas for C03: the calling forms as `predict_inplace` on one buffer; per-sample members in the
flat buffer of `MultiTargetModel`, the score table and the loop of `MultiClassModel`; the three ways the
impls write the target buffer; the isotonic cell. -/
namespace LinfaSpec.Predict

/-! ### list and option facts -/

theorem filterMap_range_take {α β : Type} (l : List α) (f : α → β) (k : Nat) (hk : k ≤ l.length) :
    (List.range k).filterMap (fun j => (l[j]?).map f) = (l.take k).map f := by
  induction k with
  | zero => rfl
  | succ k ih =>
    rw [List.range_succ, List.filterMap_append, ih (Nat.le_of_succ_le hk), List.take_add_one,
      List.map_append]
    simp only [List.filterMap_cons, List.filterMap_nil, List.getElem?_eq_getElem hk, Option.map_some,
      Option.toList_some, List.map_cons, List.map_nil]

theorem eq_some_getD {α : Type} {o : Option α} (h : ∃ c, o = some c) (d : α) : o = some (o.getD d) := by
  obtain ⟨c, rfl⟩ := h
  rfl

theorem mapM_some_of_forall {α β : Type} (f : α → Option β) (g : α → β) (l : List α)
    (h : ∀ a ∈ l, f a = some (g a)) : l.mapM f = some (l.map g) := by
  induction l with
  | nil => rfl
  | cons a l ih =>
    rw [List.mapM_cons, h a List.mem_cons_self, ih fun x hx => h x (List.mem_cons_of_mem _ hx)]
    rfl

/-! ### the calling forms -/

/-- every calling form is `predict_inplace` on some buffer: the caller's for `inplaceInto`,
`default_target` for the other five -/
theorem predictForm_targets {R T : Type} (m : Inplace R T) (f : Form) (records : List R) (buf : T) :
    (predictForm m f records buf).targets =
      m.predictInplace records (if f = .inplaceInto then buf else m.defaultTarget records) := by
  cases f <;> rfl

theorem predictForm_targets_of_const {R T : Type} (m : Inplace R T) (f : Form) (records : List R) (buf : T)
    (ok : T → Prop) (v : Option T) (h : ∀ y, ok y → m.predictInplace records y = v)
    (hb : ok buf) (hd : ok (m.defaultTarget records)) : (predictForm m f records buf).targets = v := by
  rw [predictForm_targets]
  split
  · exact h buf hb
  · exact h _ hd

/-! ### per-sample members: the flat buffer of `MultiTargetModel`, the class-major score table -/

theorem flatMap_map_length {R L : Type} (gs : List (R → L)) (rows : List R) :
    (gs.flatMap fun g => rows.map g).length = gs.length * rows.length := by
  induction gs with
  | nil => simp
  | cons g gs ih =>
    rw [List.flatMap_cons, List.length_append, List.length_map, ih, List.length_cons, Nat.succ_mul,
      Nat.add_comm]

/-- the `j * n + i` index lemma: cell `i` of block `j` of the flat buffer is member `j` on row `i` -/
theorem flat_getElem? {R L : Type} (gs : List (R → L)) (rows : List R) (i j : Nat)
    (hi : i < rows.length) :
    (gs.flatMap fun g => rows.map g)[j * rows.length + i]? = (gs[j]?).map fun g => g rows[i] := by
  induction gs generalizing j with
  | nil => rfl
  | cons g gs ih =>
    rw [List.flatMap_cons]
    cases j with
    | zero =>
      rw [Nat.zero_mul, Nat.zero_add, List.getElem?_append_left (by rwa [List.length_map]),
        List.getElem?_map, List.getElem?_eq_getElem hi]
      rfl
    | succ j =>
      have e : (j + 1) * rows.length + i = (rows.map g).length + (j * rows.length + i) := by
        rw [List.length_map, Nat.succ_mul, Nat.add_comm (j * rows.length), Nat.add_assoc]
      rw [e, List.getElem?_append_right (Nat.le_add_right _ _), Nat.add_sub_cancel_left]
      exact ih j

theorem column_of_rows {R α : Type} (ss : List (R → α)) (rows : List R) (i : Nat)
    (hi : i < rows.length) :
    column (ss.map fun s => rows.map s) i = ss.map fun s => s rows[i] := by
  unfold column
  induction ss with
  | nil => rfl
  | cons s ss ih =>
    rw [List.map_cons, List.filterMap_cons, List.getElem?_map, List.getElem?_eq_getElem hi, ih]
    rfl

/-! ### MultiClassModel: the running arg-max, row by row -/

/-- one member's pass over a running result that is per-row: the overwrite is decided row by row
(on the empty batch both sides are `[]`, whichever branch of `res.is_empty()` is taken) -/
theorem multiClassStep_map {R L P : Type} [LT P] [DecidableLT P] (rows : List R) (b : R → L × P)
    (l : L) (p : R → P) :
    multiClassStep (rows.map b) ((rows.map p).map fun q => (l, q)) =
      rows.map fun r => if (b r).2 < p r then (l, p r) else b r := by
  cases rows with
  | nil => rfl
  | cons r rs =>
    rw [multiClassStep, List.map_cons, List.isEmpty_cons, if_neg Bool.false_ne_true, ← List.map_cons,
      List.map_map, List.zipWith_map, List.zipWith_self]
    rfl

theorem multiClass_fold_map {R L P : Type} [LT P] [DecidableLT P]
    (ms : List (L × (R → P))) (rows : List R) (b : R → L × P) :
    (ms.map fun m => (m.1, fun (rs : List R) => rs.map m.2)).foldl
      (fun res m => multiClassStep res ((m.2 rows).map fun p => (m.1, p))) (rows.map b) =
    rows.map fun r => argmaxPairGo (b r) (ms.map fun k => (k.1, k.2 r)) := by
  induction ms generalizing b with
  | nil => rfl
  | cons m ms ih =>
    simp only [List.map_cons, List.foldl_cons, argmaxPairGo]
    rw [multiClassStep_map]
    exact ih _

/-- the labels the member loop of `MultiClassModel` leaves, for at least one member: the first member
initialises (`res.is_empty()`), the others run the arg-max -/
theorem multiClass_fold_labels {R L P : Type} [LT P] [DecidableLT P]
    (m : L × (R → P)) (ms : List (L × (R → P))) (rows : List R) (dflt : L) :
    (((m :: ms).map fun k => (k.1, fun (rs : List R) => rs.map k.2)).foldl
      (fun res k => multiClassStep res ((k.2 rows).map fun p => (k.1, p))) []).map (·.1) =
    rows.map fun r => multiClassRow (m :: ms) r dflt := by
  rw [List.map_cons, List.foldl_cons]
  have h0 : multiClassStep ([] : List (L × P)) ((rows.map m.2).map fun p => (m.1, p)) =
      rows.map fun r => (m.1, m.2 r) := List.map_map ..
  rw [h0, multiClass_fold_map, List.map_map]
  rfl

/-! ### the target buffer -/

theorem assignInplace_shape {β T : Type} (y : List (List β)) (n m : Nat) (v : Option T)
    (hy : y.length = n ∧ ∀ r ∈ y, r.length = m) :
    assignInplace (y.length == n && y.all (·.length == m)) v = v := by
  have : (y.length == n && y.all (·.length == m)) = true := by
    simpa only [Bool.and_eq_true, beq_iff_eq, List.all_eq_true] using hy
  rw [assignInplace, if_pos this]

theorem replicate_shape {β : Type} (n m : Nat) (d : β) :
    (List.replicate n (List.replicate m d)).length = n ∧
      ∀ r ∈ List.replicate n (List.replicate m d), r.length = m :=
  ⟨List.length_replicate, fun r hr => by rw [(List.mem_replicate.mp hr).2, List.length_replicate]⟩

/-- after the length assert the zip loop is `mapM` over the rows: the buffer content is irrelevant -/
theorem zipWrite_eq_mapM {R β : Type} (f : R → Option β) (rows : List R) (y : List β)
    (hl : y.length = rows.length) : zipWrite f rows y = rows.mapM f := by
  induction rows generalizing y with
  | nil => cases y with
    | nil => rfl
    | cons _ _ => cases hl
  | cons r rs ih => cases y with
    | nil => cases hl
    | cons y0 ys =>
      rw [zipWrite, List.mapM_cons, ih ys (Nat.succ.inj hl)]
      cases f r with
      | none => rfl
      | some v => cases rs.mapM f <;> rfl

theorem zipInplace_eq_mapM {R β : Type} (f : R → Option β) (rows : List R) (y : List β)
    (hl : y.length = rows.length) : zipInplace f rows y = rows.mapM f := by
  rw [zipInplace, if_neg (fun h => h hl)]
  exact zipWrite_eq_mapM f rows y hl

/-- the zip loop overwrites the common prefix and leaves the rest of the buffer -/
theorem writeZip_eq {β : Type} (l y : List β) :
    writeZip l y = l.take y.length ++ y.drop (l.take y.length).length := by
  induction l generalizing y with
  | nil => cases y <;> rfl
  | cons a l ih => cases y with
    | nil => rfl
    | cons b ys => rw [writeZip, ih ys]; rfl

theorem writeZip_full {β : Type} (l y : List β) (h : l.length = y.length) : writeZip l y = l := by
  rw [writeZip_eq, ← h, List.take_length, h, List.drop_length, List.append_nil]

/-- writing into a default-filled buffer = the `take … ++ replicate …` reading of `multiClassBatch` -/
theorem writeZip_replicate {β : Type} (l : List β) (n : Nat) (d : β) :
    writeZip l (List.replicate n d) = l.take n ++ List.replicate (n - (l.take n).length) d := by
  rw [writeZip_eq, List.length_replicate, List.drop_replicate]

theorem plattInplace_eq_batch {R α β : Type} [Add α] [Mul α]
    [Add β] [Div β] [Neg β] [LE β] [DecidableLE β] [OfNat β 0] [OfNat β 1] [Transc β]
    (cast : α → β) (inner : List R → List α) (a b : α) (rows : List R) (y : List β)
    (hin : (inner rows).length = rows.length) (hy : y.length = rows.length) :
    plattInplace cast inner a b rows y = plattBatch cast inner a b rows := by
  rw [plattInplace, if_neg (fun h => h hy)]
  exact zipWrite_eq_mapM _ _ _ (hy.trans hin.symm)

/-! ### isotonic regression -/

/-- no order axiom is used: the statement holds for any decidable `≤`, in particular for IEEE floats
with NaN (where `position` may find no knot and the query value itself is written) -/
theorem isoCell_written {α : Type} [LE α] [DecidableLE α] [Add α] [Sub α] [Mul α] [Div α]
    (reg resp : List α) (v : α) (hne : reg ≠ []) (hlen : resp.length = reg.length) :
    ∃ c, isoCell reg resp v = some (some c) := by
  cases reg with
  | nil => exact absurd rfl hne
  | cons x xs =>
  cases resp with
  | nil => cases hlen
  | cons y ys =>
    -- the four heads/lasts exist because `reg`, `resp` are non-empty; then follow the `if`s of the loop body
    rw [isoCell, List.head?_cons, List.head?_cons, List.getLast?_cons, List.getLast?_cons]
    dsimp only
    by_cases h1 : xs.getLast?.getD x ≤ v
    · exact ⟨_, if_pos h1⟩
    rw [if_neg h1]
    by_cases h2 : v ≤ x
    · exact ⟨_, if_pos h2⟩
    rw [if_neg h2]
    cases hp : positionGe (x :: xs) v with
    | none => exact ⟨v, rfl⟩
    | some j =>
      -- `position` returns an index into `reg`, and `resp` is as long
      obtain ⟨hj, _⟩ := List.findIdx?_eq_some_iff_getElem.mp hp
      have hj1 : j - 1 < (x :: xs).length := Nat.lt_of_le_of_lt (Nat.sub_le j 1) hj
      dsimp only
      rw [List.getElem?_eq_getElem hj, List.getElem?_eq_getElem hj1,
        List.getElem?_eq_getElem (hlen ▸ hj), List.getElem?_eq_getElem (hlen ▸ hj1)]
      dsimp only
      split <;> exact ⟨_, rfl⟩

theorem isoWrite_eq_map {α : Type} [LE α] [DecidableLE α] [Add α] [Sub α] [Mul α] [Div α]
    (reg resp : List α) (g : α → α) (hg : ∀ v, isoCell reg resp v = some (some (g v)))
    (vs : List α) (y : List α) (hy : y.length = vs.length) :
    isoWrite reg resp (vs.map fun v => [v]) y = some (vs.map g) := by
  induction vs generalizing y with
  | nil => cases y with
    | nil => rfl
    | cons _ _ => cases hy
  | cons v vs ih => cases y with
    | nil => cases hy
    | cons y0 ys =>
      rw [List.map_cons, isoWrite, hg v, ih ys (Nat.succ.inj hy)]
      rfl

end LinfaSpec.Predict
