import LinfaSpec.Proofs.KMeans

/-!
# C09 — K-means assigns to the nearest centroid; each Lloyd step lowers the cost

Theorems about `LinfaSpec.KMeans` (the model of `k_means/algorithm.rs` that the driver runs on
`Float` against the Rust code), over an arbitrary linearly ordered field, for every data matrix,
every `k ≥ 1`, every iteration budget, every convergence test `conv` (any tolerance, any metric for
the centroid shift), every list of initial matrices (one per restart).  The reduced distance `rd`
is arbitrary wherever the statement does not need the squared-L2 one.

Not covered here (see notes/C09.md): IEEE rounding; the random initialisers themselves (their
output enters as the list `inits`; the correspondence run observes them through a hook and checks
that they return data rows and that run `i` of `n_runs = r` starts where run `i` of `n_runs = r+1` does).
-/
namespace LinfaSpec.Props.C09
open LinfaSpec LinfaSpec.KMeans

section AnyMetric
variable {α : Type} [LinearOrder α]

/-- **`closest_centroid` is an arg-min**: the returned index is in range, the returned value is the
reduced distance to that centroid (what `transform` reports), no centroid is closer, and the index
is the first one at that minimal distance (ties go to the lower index). -/
theorem closest_is_argmin (rd : List α → List α → α) (cs : List (List α)) (x : List α)
    (hk : cs ≠ []) :
    (closest rd cs x).1 < cs.length ∧
    (closest rd cs x).2 = rd (cs.getD (closest rd cs x).1 []) x ∧
    (∀ j, j < cs.length → (closest rd cs x).2 ≤ rd (cs.getD j []) x) ∧
    (∀ j, j < (closest rd cs x).1 → (closest rd cs x).2 < rd (cs.getD j []) x) :=
  let h := closest_spec rd cs x hk
  ⟨h.lt, h.val, h.min, h.first⟩

example : closest (α := Int) (fun c x => (c.headD 0 - x.headD 0) * (c.headD 0 - x.headD 0))
    [[4], [0], [2], [0]] [1] = (1, 1) := by decide +kernel

/-- **predict / transform treat every row on its own, training or new**: each output pair of
`assign` is `closest_centroid` of its own row (so `closest_is_argmin` applies to it), whatever the
other rows are. -/
theorem assign_is_per_row (rd : List α → List α → α) (cs xs : List (List α)) :
    (assign rd cs xs).length = xs.length ∧
    ∀ x q, (x, q) ∈ xs.zip (assign rd cs xs) → q = closest rd cs x := by
  refine ⟨List.length_map _, fun x q h => ?_⟩
  rw [assign, ← List.map_id xs, List.map_map, List.zip_map'] at h
  obtain ⟨a, _, e⟩ := List.mem_map.mp h
  cases e
  rfl

example : assign (α := Int) (fun c x => (c.headD 0 - x.headD 0) * (c.headD 0 - x.headD 0))
    [[0], [10]] [[1], [9], [5]] = [(0, 1), (1, 1), (0, 25)] := by decide +kernel

/-- **every calling form of `predict` / `transform` is the same per-row arg-min**: predicting a
matrix gives, row by row, what predicting that row alone gives (`Ix1` form), `transform` gives the
reduced distance to the predicted centroid, and no centroid is closer.  (The `DatasetBase`,
`&DatasetBase` and `&ArrayBase` forms of `Predict` are all `default_target` + `predict_inplace`.) -/
theorem predict_forms_agree (rd : List α → List α → α) (cs xs : List (List α)) (hk : cs ≠ []) :
    predict rd cs xs = xs.map (predict1 rd cs) ∧
    (transform rd cs xs).length = xs.length ∧
    ∀ i (hi : i < xs.length),
      predict1 rd cs xs[i] < cs.length ∧
      (transform rd cs xs)[i]? = some (rd (cs.getD (predict1 rd cs xs[i]) []) xs[i]) ∧
      ∀ j, j < cs.length → rd (cs.getD (predict1 rd cs xs[i]) []) xs[i] ≤ rd (cs.getD j []) xs[i] := by
  refine ⟨predict_eq rd cs xs, by simp [transform, assign], fun i hi => ?_⟩
  obtain ⟨h1, h2, h3, _⟩ := closest_spec rd cs xs[i] hk
  refine ⟨h1, ?_, fun j hj => h2 ▸ h3 j hj⟩
  simp only [transform, assign, List.map_map, List.getElem?_map, List.getElem?_eq_getElem hi,
    Option.map_some, Function.comp]
  rw [h2]; rfl

example : predict (α := Int) (fun c x => (c.headD 0 - x.headD 0) * (c.headD 0 - x.headD 0))
      [[0], [10]] [[1], [9], [5]] = [0, 1, 0] ∧
    transform (α := Int) (fun c x => (c.headD 0 - x.headD 0) * (c.headD 0 - x.headD 0))
      [[0], [10]] [[1], [9], [5]] = [1, 1, 25] := by decide +kernel

/-- **`predict_inplace` on a caller-supplied buffer**: it answers exactly when the buffer has one
cell per observation (the `assert_eq!`), and then every cell is overwritten by the prediction of
its row — the result does not depend on what the buffer held. -/
theorem predict_inplace_overwrites (rd : List α → List α → α) (cs xs : List (List α))
    (buf : List Nat) :
    (xs.length = buf.length → predictInplace rd cs xs buf = some (predict rd cs xs)) ∧
    (xs.length ≠ buf.length → predictInplace rd cs xs buf = none) := by
  refine ⟨fun h => ?_, fun h => if_neg h⟩
  rw [predictInplace, if_pos h, predict_eq]
  show some ((xs.zip buf).map (predict1 rd cs ∘ Prod.fst)) = _
  rw [← List.map_map, List.map_fst_zip (Nat.le_of_eq h)]

example : predictInplace (α := Int) (fun c x => (c.headD 0 - x.headD 0) * (c.headD 0 - x.headD 0))
      [[0], [10]] [[1], [9]] [7, 7] = some [0, 1] ∧
    predictInplace (α := Int) (fun c x => (c.headD 0 - x.headD 0) * (c.headD 0 - x.headD 0))
      [[0], [10]] [[1], [9]] [7] = none := by decide +kernel

/-- **the two `predict_inplace` calls the correspondence run makes** (Drv/C09 `handleFit`): on a buffer
of `n` cells holding any value the answer is `predict`; on a buffer one cell short (`n ≥ 1`) it is the
`assert_eq!` panic (`none`) — the code may not leave an observation without a cluster silently. -/
theorem predict_inplace_driver_calls (rd : List α → List α → α) (cs xs : List (List α)) (v w : Nat)
    (hx : xs ≠ []) :
    predictInplace rd cs xs (List.replicate xs.length v) = some (predict rd cs xs) ∧
    predictInplace rd cs xs (List.replicate (xs.length - 1) w) = none := by
  have hpos : 0 < xs.length := List.length_pos_iff.mpr hx
  exact ⟨(predict_inplace_overwrites rd cs xs _).1 List.length_replicate.symm,
    (predict_inplace_overwrites rd cs xs _).2 (by rw [List.length_replicate]; omega)⟩

example : predictInplace (α := Int) (fun c x => (c.headD 0 - x.headD 0) * (c.headD 0 - x.headD 0))
      [[0], [10]] [[1], [9]] (List.replicate 2 7) = some [0, 1] ∧
    predictInplace (α := Int) (fun c x => (c.headD 0 - x.headD 0) * (c.headD 0 - x.headD 0))
      [[0], [10]] [[1], [9]] (List.replicate (2 - 1) 0) = none := by decide +kernel

end AnyMetric

section Field
variable {α : Type} [Field α] [LinearOrder α] [IsStrictOrderedRing α]

set_option linter.unusedSectionVars false in
/-- **the update step**: every new centroid has the dimension of the old one and is, coordinate by
coordinate, the mean of the rows assigned to it together with its previous position;
an empty cluster keeps its centroid. -/
theorem update_is_mean_with_old (cs xs : List (List α)) (mem : List Nat) (p : Nat)
    (hc : ∀ c ∈ cs, c.length = p) (hx : ∀ x ∈ xs, x.length = p) (j : Nat) (hj : j < cs.length) :
    (updateCentroids cs xs mem).length = cs.length ∧
    ((updateCentroids cs xs mem).getD j []).length = p ∧
    ∀ d, d < p → ((updateCentroids cs xs mem).getD j []).getD d 0 =
      (((members j xs mem).map (·.getD d 0)).sum + (cs.getD j []).getD d 0) /
        (((members j xs mem).length : α) + 1) := by
  have hd := length_getD_of_forall hc hj
  obtain ⟨h1, h2⟩ := updateOne_spec _ _ (members_length p cs xs hc hx mem j hj)
  rw [updateCentroids_getD cs xs mem j hj]
  exact ⟨updateCentroids_length cs xs mem, h1.trans hd, fun d hdp => h2 d (hd.symm ▸ hdp)⟩

example : updateCentroids (α := Rat) [[0], [7]] [[1], [2], [3]] [0, 0, 0] = [[3 / 2], [7]] := by
  decide +kernel

/-- **the update inside one Lloyd iteration**: centroid `j` after the iteration is, per coordinate,
the mean of the rows whose nearest current centroid (first minimum) is `j`, together with the
current centroid `j` ("replaces each centroid by the mean of its assigned points together with its
previous position"), for any metric. -/
theorem lloyd_step_is_mean_of_assigned (rd : List α → List α → α) (cs xs : List (List α)) (p : Nat)
    (hc : ∀ c ∈ cs, c.length = p) (hx : ∀ x ∈ xs, x.length = p) (j : Nat) (hj : j < cs.length) :
    (lloydStep rd xs cs).length = cs.length ∧
    ∀ d, d < p → ((lloydStep rd xs cs).getD j []).getD d 0 =
      (((members j xs (predict rd cs xs)).map (·.getD d 0)).sum + (cs.getD j []).getD d 0) /
        (((members j xs (predict rd cs xs)).length : α) + 1) := by
  obtain ⟨h1, _, h3⟩ := update_is_mean_with_old cs xs (predict rd cs xs) p hc hx j hj
  exact ⟨h1, h3⟩

example : lloydStep (α := Rat) sqL2 [[0], [1], [9]] [[0], [10]] = [[1 / 3], [19 / 2]] := by
  decide +kernel

/-- **Appendix A.4 — the update lowers the squared-L2 cost of every cluster**: the new centroid
`(Σ members + c)/(n+1)` has no larger sum of squared distances to the members than `c`. -/
theorem update_lowers_cost_L2 (c : List α) (rows : List (List α))
    (hr : ∀ x ∈ rows, x.length = c.length) :
    (rows.map (sqL2 (updateOne c rows))).sum ≤ (rows.map (sqL2 c)).sum :=
  cluster_descent c rows hr

example : ((([[0], [0], [10]] : List (List Rat)).map (sqL2 (updateOne [0] [[0], [0], [10]]))).sum,
    (([[0], [0], [10]] : List (List Rat)).map (sqL2 [0])).sum) = (275 / 4, 100) := by decide +kernel

/-- **the assignment step lowers the cost** (any metric): the cost of a centroid matrix — every row
at its closest centroid — is at most the cost of the same matrix under any other assignment. -/
theorem assign_lowers_cost (rd : List α → List α → α) (cs xs : List (List α)) (hk : cs ≠ [])
    (h : List α → Nat) (hh : ∀ x ∈ xs, h x < cs.length) :
    cost rd cs xs ≤ (xs.map fun x => rd (cs.getD (h x) []) x).sum :=
  cost_le_any_assignment rd cs xs hk h hh

/-- **one Lloyd iteration never increases the squared-L2 within-cluster cost**, for every data
matrix of dimension `p` and every `k ≥ 1` centroids of dimension `p` (duplicates, empty clusters,
ties included). -/
theorem lloyd_step_lowers_cost (p : Nat) (cs xs : List (List α)) (hk : cs ≠ [])
    (hc : ∀ c ∈ cs, c.length = p) (hx : ∀ x ∈ xs, x.length = p) :
    cost sqL2 (lloydStep sqL2 xs cs) xs ≤ cost sqL2 cs xs :=
  lloydStep_cost_le xs p cs ⟨hk, hc, hx⟩

set_option linter.unusedSectionVars false in
/-- **what a budget of `m` iterations returns**: the `j`-th iterate of the Lloyd step from the initial
matrix for some `1 ≤ j ≤ m`; the loop stops before the budget is used up only because the convergence
test held at that iteration, and it held at no earlier one.  (The counter `n_iter` starts at zero for
every restart: `runOnce` calls `fitLoop` with the full budget.) -/
theorem fit_loop_is_iterate (rd : List α → List α → α) (conv : List (List α) → List (List α) → Bool)
    (xs : List (List α)) (m : Nat) (cs : List (List α)) (hm : 1 ≤ m) :
    ∃ j, 1 ≤ j ∧ j ≤ m ∧ fitLoop rd conv xs m cs = Nat.iterate (lloydStep rd xs) j cs ∧
      (j < m → conv (Nat.iterate (lloydStep rd xs) (j - 1) cs)
        (Nat.iterate (lloydStep rd xs) j cs) = true) ∧
      ∀ i, i + 1 < j → conv (Nat.iterate (lloydStep rd xs) i cs)
        (Nat.iterate (lloydStep rd xs) (i + 1) cs) = false := by
  obtain ⟨j, h1, h⟩ := fitLoop_eq_iterate rd conv xs m cs
  exact ⟨j, h1 hm, h⟩

example : fitLoop (α := Rat) sqL2 (fun a b => a == b) [[0], [2]] 5 [[1]] =
    Nat.iterate (lloydStep sqL2 [[0], [2]]) 1 [[1]] := by decide +kernel

set_option linter.unusedVariables false in
/-- **the cost of the returned centroids never increases when the iteration budget grows**
(squared-L2): from the same initial matrix, with the same (arbitrary) convergence test, the
centroids returned for budget `m'` cost at most those returned for any smaller budget `m ≥ 1`.
Hypotheses are the code's guards: `k ≥ 1`, `max_n_iterations ≥ 1`, rectangular input (the model's
loop does not need `1 ≤ m`: with budget 0 it returns the initial matrix). -/
theorem lloyd_cost_antitone (conv : List (List α) → List (List α) → Bool) (p : Nat)
    (xs init : List (List α)) (hk : init ≠ []) (hc : ∀ c ∈ init, c.length = p)
    (hx : ∀ x ∈ xs, x.length = p) (m m' : Nat) (h1 : 1 ≤ m) (h : m ≤ m') :
    cost sqL2 (runOnce sqL2 conv xs m' init).centroids xs ≤
      cost sqL2 (runOnce sqL2 conv xs m init).centroids xs :=
  fitLoop_cost_antitone conv xs p init ⟨hk, hc, hx⟩ h

example : (cost sqL2 (runOnce (α := Rat) sqL2 (fun _ _ => false) [[0], [0], [10]] 1 [[0]]).centroids
      [[0], [0], [10]],
    cost sqL2 (runOnce (α := Rat) sqL2 (fun _ _ => false) [[0], [0], [10]] 2 [[0]]).centroids
      [[0], [0], [10]]) = (275 / 4, 4275 / 64) := by decide +kernel

/-- **the same claim is false for the L1 metric** (the update is a mean, which minimises squared
deviations, not absolute ones): data `{0, 0, 10}`, one centroid starting at `0`; the L1 cost of the
returned centroid is `25/2` with budget 1 and `105/8` with budget 2.  The witness is replayed on
linfa with `L1Dist` by every run of the check (first `traj` cases); recorded as an open finding. -/
theorem lloyd_cost_antitone_L1_false :
    cost l1 (runOnce (α := Rat) l1 (fun _ _ => false) [[0], [0], [10]] 1 [[0]]).centroids
        [[0], [0], [10]] <
      cost l1 (runOnce (α := Rat) l1 (fun _ _ => false) [[0], [0], [10]] 2 [[0]]).centroids
        [[0], [0], [10]] := by decide +kernel

/-- … and for the L∞ metric (same one-dimensional witness). -/
theorem lloyd_cost_antitone_Linf_false :
    cost linf (runOnce (α := Rat) linf (fun _ _ => false) [[0], [0], [10]] 1 [[0]]).centroids
        [[0], [0], [10]] <
      cost linf (runOnce (α := Rat) linf (fun _ _ => false) [[0], [0], [10]] 2 [[0]]).centroids
        [[0], [0], [10]] := by decide +kernel

set_option linter.unusedSectionVars false in
/-- the kept run of `fit`, unpacked -/
theorem fit_some (rd : List α → List α → α) (conv : List (List α) → List (List α) → Bool)
    (ltInf : α → Bool) (k : Nat) (xs : List (List α)) (budget : Nat)
    (inits : List (List (List α))) (f : Fitted α)
    (h : fit rd conv ltInf k xs budget inits = some f) :
    ∃ init ∈ inits,
      f.centroids = (runOnce rd conv xs budget init).centroids ∧
      f.counts = (List.range k).map (fun j => countOf j (runOnce rd conv xs budget init).memberships) ∧
      f.inertia = (runOnce rd conv xs budget init).inertia / (xs.length : α) := by
  obtain ⟨b, hb, rfl⟩ := (fit_eq_some_iff ..).mp h
  obtain ⟨init, hi, rfl⟩ := fitRuns_mem rd conv xs ltInf budget inits b hb
  exact ⟨init, hi, rfl, rfl, rfl⟩

set_option linter.unusedSectionVars false in
/-- **exactly `k` centroids of the data's dimension** -/
theorem k_centroids_dim (rd : List α → List α → α) (conv : List (List α) → List (List α) → Bool)
    (ltInf : α → Bool) (k p : Nat) (xs : List (List α)) (budget : Nat)
    (inits : List (List (List α))) (f : Fitted α) (hk : 0 < k)
    (hi : ∀ i ∈ inits, i.length = k ∧ ∀ c ∈ i, c.length = p) (hx : ∀ x ∈ xs, x.length = p)
    (h : fit rd conv ltInf k xs budget inits = some f) :
    f.centroids.length = k ∧ ∀ c ∈ f.centroids, c.length = p := by
  have h := fit_centroids_induct rd conv xs ltInf budget inits k f
    (fun cs => cs.length = k ∧ WF p cs xs)
    (fun cs h => ⟨(lloydStep_length rd xs cs).trans h.1, lloydStep_wf rd xs p cs h.2⟩)
    (fun i hi' => ⟨(hi i hi').1, WF.of_length hk (hi i hi').1 (hi i hi').2 hx⟩) h
  exact ⟨h.1, h.2.cdim⟩

/-- **centroids stay in the bounding box of the data when initialised from it**: if every row and
every initial centroid lies between `lo` and `hi` coordinate-wise, so does every returned centroid
(any metric, any budget, any number of restarts). -/
theorem centroids_in_bbox (rd : List α → List α → α) (conv : List (List α) → List (List α) → Bool)
    (ltInf : α → Bool) (k p : Nat) (xs : List (List α)) (budget : Nat)
    (inits : List (List (List α))) (f : Fitted α) (lo hi : Nat → α) (hk : 0 < k)
    (hi' : ∀ i ∈ inits, i.length = k ∧ ∀ c ∈ i, c.length = p ∧ InBox lo hi c)
    (hx : ∀ x ∈ xs, x.length = p ∧ InBox lo hi x)
    (h : fit rd conv ltInf k xs budget inits = some f) :
    ∀ c ∈ f.centroids, InBox lo hi c := by
  have hxd : ∀ x ∈ xs, x.length = p := fun x hx' => (hx x hx').1
  exact (fit_centroids_induct rd conv xs ltInf budget inits k f
    (fun cs => WF p cs xs ∧ ∀ c ∈ cs, InBox lo hi c)
    (fun cs h => ⟨lloydStep_wf rd xs p cs h.1,
      lloydStep_inBox rd xs lo hi p cs h.1 (fun x hx' => (hx x hx').2) h.2⟩)
    (fun i hi0 => ⟨WF.of_length hk (hi' i hi0).1 (fun c hc => ((hi' i hi0).2 c hc).1) hxd,
      fun c hc => ((hi' i hi0).2 c hc).2⟩) h).2

example : InBox (fun _ => (0 : Rat)) (fun _ => 10) [5 / 2] := by
  intro d hd; simp at hd; subst hd; constructor <;> decide +kernel

/-- **initialised from the data ⇒ inside its bounding box**: if every initial centroid of every
restart is a row of the data (what `Random`, k-means++ and k-means‖ return) and the rows lie in the
box, so do the returned centroids. -/
theorem centroids_in_bbox_of_data_rows (rd : List α → List α → α)
    (conv : List (List α) → List (List α) → Bool) (ltInf : α → Bool) (k p : Nat)
    (xs : List (List α)) (budget : Nat) (inits : List (List (List α))) (f : Fitted α)
    (lo hi : Nat → α) (hk : 0 < k) (hi' : ∀ i ∈ inits, i.length = k ∧ ∀ c ∈ i, c ∈ xs)
    (hx : ∀ x ∈ xs, x.length = p ∧ InBox lo hi x)
    (h : fit rd conv ltInf k xs budget inits = some f) :
    ∀ c ∈ f.centroids, InBox lo hi c :=
  centroids_in_bbox rd conv ltInf k p xs budget inits f lo hi hk
    (fun i hi0 => ⟨(hi' i hi0).1, fun c hc => hx c ((hi' i hi0).2 c hc)⟩) hx h

/-- **the reported counts describe the returned centroids and sum to `n`**: `cluster_count[j]` is
the number of training rows whose nearest returned centroid (first minimum) is `j`. -/
theorem counts_describe_returned (rd : List α → List α → α)
    (conv : List (List α) → List (List α) → Bool) (ltInf : α → Bool) (k : Nat)
    (xs : List (List α)) (budget : Nat) (inits : List (List (List α))) (f : Fitted α)
    (hk : 0 < k) (hi : ∀ i ∈ inits, i.length = k)
    (h : fit rd conv ltInf k xs budget inits = some f) :
    f.counts = (List.range k).map (fun j => countOf j ((assign rd f.centroids xs).map (·.1))) ∧
    f.counts.sum = xs.length := by
  obtain ⟨init, hin, e, ec, _⟩ := fit_some rd conv ltInf k xs budget inits f h
  have hmem : (runOnce rd conv xs budget init).memberships = predict rd f.centroids xs := by
    rw [e]; rfl
  rw [ec, hmem]
  refine ⟨rfl, ?_⟩
  have hlen : f.centroids.length = k := fit_centroids_induct rd conv xs ltInf budget inits k f
    (·.length = k) (fun cs h => (lloydStep_length rd xs cs).trans h) hi h
  have hne : f.centroids ≠ [] := List.ne_nil_of_length_pos (hlen ▸ hk)
  rw [predict_eq, countOf_sum k, List.length_map]
  intro j hj
  obtain ⟨x, _, rfl⟩ := List.mem_map.mp hj
  exact hlen ▸ (closest_spec rd f.centroids x hne).lt

/-- **the reported inertia describes the returned centroids**: it is their within-cluster cost
(every training row at its nearest returned centroid) divided by `n`. -/
theorem inertia_describes_returned (rd : List α → List α → α)
    (conv : List (List α) → List (List α) → Bool) (ltInf : α → Bool) (k : Nat)
    (xs : List (List α)) (budget : Nat) (inits : List (List (List α))) (f : Fitted α)
    (h : fit rd conv ltInf k xs budget inits = some f) :
    f.inertia = cost rd f.centroids xs / (xs.length : α) := by
  obtain ⟨init, _, e, _, ei⟩ := fit_some rd conv ltInf k xs budget inits f h
  rw [ei, runOnce_inertia, e]

/-- **more restarts from the same seed never give a higher reported inertia**: the runs of
`n_runs = r` are a prefix of the runs of any larger `n_runs` (the initialisers draw from one RNG
stream, `inits ++ more`); the reported inertia can only go down, and a result is still returned. -/
theorem more_restarts_not_worse (rd : List α → List α → α)
    (conv : List (List α) → List (List α) → Bool) (ltInf : α → Bool) (k : Nat)
    (xs : List (List α)) (budget : Nat) (inits more : List (List (List α))) (f : Fitted α)
    (h : fit rd conv ltInf k xs budget inits = some f) :
    ∃ f', fit rd conv ltInf k xs budget (inits ++ more) = some f' ∧ f'.inertia ≤ f.inertia := by
  obtain ⟨b, hb, rfl⟩ := (fit_eq_some_iff ..).mp h
  obtain ⟨b', e, l⟩ := fitRuns_append_le rd conv xs ltInf budget inits more b hb
  exact ⟨_, (fit_eq_some_iff ..).mpr ⟨b', e, rfl⟩, div_natCast_le l _⟩

example : (fit (α := Rat) sqL2 (fun _ _ => false) (fun _ => true) 1 [[0], [0], [10]] 1
      [[[0]]]).map (·.inertia) = some (275 / 12) ∧
    (fit (α := Rat) sqL2 (fun _ _ => false) (fun _ => true) 1 [[0], [0], [10]] 1
      [[[0]], [[10]]]).map (·.inertia) = some (275 / 12) ∧
    (fit (α := Rat) sqL2 (fun _ _ => false) (fun _ => true) 1 [[0], [0], [10]] 1
      [[[0]], [[10]]]).map (·.counts) = some [3] := by decide +kernel

set_option linter.unusedSectionVars false in
/-- **`fit` returns a model** whenever there is at least one restart (`n_runs ≥ 1`) and every
inertia is below `+∞` (always so over an ordered field; in IEEE arithmetic it fails exactly when the
summed distances overflow — `Err(InertiaError)`). -/
theorem fit_succeeds (rd : List α → List α → α) (conv : List (List α) → List (List α) → Bool)
    (ltInf : α → Bool) (hl : ∀ x, ltInf x = true) (k : Nat) (xs : List (List α)) (budget : Nat)
    (inits : List (List (List α))) (hne : inits ≠ []) :
    ∃ f, fit rd conv ltInf k xs budget inits = some f := by
  cases hf : fit rd conv ltInf k xs budget inits with
  | some f => exact ⟨f, rfl⟩
  | none =>
    obtain ⟨init, hi⟩ := List.exists_mem_of_ne_nil inits hne
    have := (fitRuns_spec rd conv xs ltInf budget inits fun _ _ _ _ => hl _).2.mp
      ((fit_eq_none_iff ..).mp hf) init hi
    rw [hl] at this; cases this

/-- **when `fit` answers `Err(InertiaError)`**: `min_inertia` starts at the sentinel `T` (the code's
`F::infinity()`; the driver runs exactly `fit … (ltThr +∞)`), so no model is returned iff no restart has
an inertia strictly below the sentinel — in IEEE arithmetic: every restart's summed distances are `+∞`
or NaN.  No hypothesis on `T`. -/
theorem fit_err_iff (rd : List α → List α → α) (conv : List (List α) → List (List α) → Bool)
    (T : α) (k : Nat) (xs : List (List α)) (budget : Nat) (inits : List (List (List α))) :
    fit rd conv (ltThr T) k xs budget inits = none ↔
      ∀ init ∈ inits, ¬ cost rd (runOnce rd conv xs budget init).centroids xs < T := by
  rw [fit_eq_none_iff, (fitRuns_spec rd conv xs (ltThr T) budget inits (ltThr_down T)).2]
  simp only [runOnce_inertia, ltThr, decide_eq_false_iff_not]

/-- … hence a model is returned as soon as one restart stays below the sentinel (the guard of the code,
instead of the blanket hypothesis `∀ x, ltInf x = true` of `fit_succeeds`). -/
theorem fit_succeeds_of_sentinel (rd : List α → List α → α)
    (conv : List (List α) → List (List α) → Bool) (T : α) (k : Nat) (xs : List (List α))
    (budget : Nat) (inits : List (List (List α)))
    (h : ∃ init ∈ inits, cost rd (runOnce rd conv xs budget init).centroids xs < T) :
    ∃ f, fit rd conv (ltThr T) k xs budget inits = some f := by
  cases hf : fit rd conv (ltThr T) k xs budget inits with
  | some f => exact ⟨f, rfl⟩
  | none =>
    obtain ⟨init, hi, hlt⟩ := h
    exact absurd hlt ((fit_err_iff rd conv T k xs budget inits).mp hf init hi)

example : fit (α := Rat) sqL2 (fun _ _ => false) (ltThr 10) 1 [[0], [0], [10]] 1 [[[0]]] = none ∧
    (fit (α := Rat) sqL2 (fun _ _ => false) (ltThr 100) 1 [[0], [0], [10]] 1 [[[0]]]).map (·.inertia)
      = some (275 / 12) := by decide +kernel

/-- **the returned run is the best of all restarts**: its reported inertia is at most the inertia
(cost / n) of what any of the restarts returns. -/
theorem fit_inertia_is_min (rd : List α → List α → α) (conv : List (List α) → List (List α) → Bool)
    (ltInf : α → Bool) (hl : ∀ x, ltInf x = true) (k : Nat) (xs : List (List α)) (budget : Nat)
    (inits : List (List (List α))) (f : Fitted α)
    (h : fit rd conv ltInf k xs budget inits = some f) :
    ∀ init ∈ inits, f.inertia ≤
      cost rd (runOnce rd conv xs budget init).centroids xs / (xs.length : α) :=
  (fit_min rd conv xs ltInf budget inits k f (fun _ _ _ _ => hl _) h).2

/-- **the returned run is the best of all restarts, for the selection the code performs** (sentinel
`T`, any value): the cost of the returned centroids is below the sentinel and the reported inertia is at
most cost / n of what ANY restart returns — also of the restarts that were discarded against the
sentinel.  (`fit_inertia_is_min` without its hypothesis `hl`.) -/
theorem fit_inertia_is_min_of_sentinel (rd : List α → List α → α)
    (conv : List (List α) → List (List α) → Bool) (T : α) (k : Nat) (xs : List (List α))
    (budget : Nat) (inits : List (List (List α))) (f : Fitted α)
    (h : fit rd conv (ltThr T) k xs budget inits = some f) :
    cost rd f.centroids xs < T ∧
    ∀ init ∈ inits, f.inertia ≤
      cost rd (runOnce rd conv xs budget init).centroids xs / (xs.length : α) := by
  have h := fit_min rd conv xs (ltThr T) budget inits k f (ltThr_down T) h
  rwa [ltThr, decide_eq_true_eq] at h

set_option linter.unusedVariables false in
/-- **with restarts, too, a larger iteration budget never gives a higher cost** (squared-L2): the
restarts of `fit` start from the same initial matrices whatever the budget (the initialisers draw
from one RNG stream that the Lloyd loop does not touch), each restart's cost is antitone in the
budget (`lloyd_cost_antitone`) and the minimum-inertia restart is returned, so the reported inertia
and the within-cluster cost of the returned centroids for budget `m'` are at most those for any
smaller budget `m ≥ 1` — for every number of restarts and every convergence test. -/
theorem restarts_cost_antitone (conv : List (List α) → List (List α) → Bool)
    (ltInf : α → Bool) (hl : ∀ x, ltInf x = true) (k p : Nat) (xs : List (List α))
    (inits : List (List (List α))) (hk : 0 < k)
    (hi : ∀ i ∈ inits, i.length = k ∧ ∀ c ∈ i, c.length = p) (hx : ∀ x ∈ xs, x.length = p)
    (m m' : Nat) (h1 : 1 ≤ m) (h : m ≤ m') (f f' : Fitted α)
    (hf : fit sqL2 conv ltInf k xs m inits = some f)
    (hf' : fit sqL2 conv ltInf k xs m' inits = some f') :
    f'.inertia ≤ f.inertia ∧ cost sqL2 f'.centroids xs ≤ cost sqL2 f.centroids xs :=
  fit_budget_antitone conv xs ltInf inits k f (fun _ _ _ _ => hl _) p hk hi hx m m' h f' hf hf'

example : (fit (α := Rat) sqL2 (fun _ _ => false) (fun _ => true) 1 [[0], [0], [10]] 1
      [[[10]], [[0]]]).map (·.inertia) = some (275 / 12) ∧
    (fit (α := Rat) sqL2 (fun _ _ => false) (fun _ => true) 1 [[0], [0], [10]] 2
      [[[10]], [[0]]]).map (·.inertia) = some (4275 / 192) := by decide +kernel

set_option linter.unusedVariables false in
/-- **budget monotonicity with restarts, for the selection the code performs** (squared-L2, sentinel
`T` of any value, no hypothesis on it): whenever `fit` returns a model for both budgets `1 ≤ m ≤ m'`, the
reported inertia and the within-cluster cost of the returned centroids for `m'` are at most those for
`m`.  (`restarts_cost_antitone` without `hl`.) -/
theorem restarts_cost_antitone_of_sentinel (conv : List (List α) → List (List α) → Bool)
    (T : α) (k p : Nat) (xs : List (List α))
    (inits : List (List (List α))) (hk : 0 < k)
    (hi : ∀ i ∈ inits, i.length = k ∧ ∀ c ∈ i, c.length = p) (hx : ∀ x ∈ xs, x.length = p)
    (m m' : Nat) (h1 : 1 ≤ m) (h : m ≤ m') (f f' : Fitted α)
    (hf : fit sqL2 conv (ltThr T) k xs m inits = some f)
    (hf' : fit sqL2 conv (ltThr T) k xs m' inits = some f') :
    f'.inertia ≤ f.inertia ∧ cost sqL2 f'.centroids xs ≤ cost sqL2 f.centroids xs :=
  fit_budget_antitone conv xs (ltThr T) inits k f (ltThr_down T) p hk hi hx m m' h f' hf hf'

example : (fit (α := Rat) sqL2 (fun _ _ => false) (ltThr 1000) 1 [[0], [0], [10]] 1
      [[[10]], [[0]]]).map (·.inertia) = some (275 / 12) ∧
    (fit (α := Rat) sqL2 (fun _ _ => false) (ltThr 1000) 1 [[0], [0], [10]] 2
      [[[10]], [[0]]]).map (·.inertia) = some (4275 / 192) := by decide +kernel

end Field

end LinfaSpec.Props.C09
