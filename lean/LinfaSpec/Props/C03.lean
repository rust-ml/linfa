import LinfaSpec.Proofs.Predict
import LinfaSpec.Proofs.PredictOrder
import LinfaSpec.Proofs.PredictPlatt

/-!
# C03 — prediction is a per-sample function through every calling form

Each family's `…Batch` is written as the Rust code processes the whole matrix, `…Row` is what it does to one
row, `…Model` is its `default_target` + `predict_inplace`; the theorems hold for every batch (empty, single,
duplicated, any order), every calling form and every admissible buffer.
-/
namespace LinfaSpec.Props.C03
open LinfaSpec.Predict

/-- **column j of the wrapper is model j's prediction, row by row**: for members that are
per-sample functions `g_j`, the flat-buffer / `into_shape((m, n))` / `reversed_axes` pipeline never
fails and yields the `n × m` table `out[i][j] = g_j (rows[i])` — for every number of rows
(incl. none) and every number of members (incl. none). -/
theorem multiTarget_spec {R L : Type} (gs : List (R → L)) (rows : List R) :
    multiTargetBatch (gs.map fun g => fun rs => rs.map g) rows =
      some (rows.map fun r => gs.map fun g => g r) := by
  unfold multiTargetBatch
  simp only [List.flatMap_map, List.length_map]
  rw [if_neg (fun h => h (flatMap_map_length gs rows))]
  congr 1
  refine map_range_eq_map rows _ _ fun i hi => ?_
  simp only [flat_getElem? gs rows i _ hi]
  rw [filterMap_range_take gs _ gs.length (Nat.le_refl _), List.take_length]

example : multiTargetBatch ([fun (x : Nat) => x + 100, fun x => 2 * x].map fun g => fun rs => rs.map g) [1, 2, 3]
    = some [[101, 2], [102, 4], [103, 6]] := by decide +kernel

/-- the `j * n + i` index statement itself -/
theorem multiTarget_entry {R L : Type} (gs : List (R → L)) (rows : List R) (i j : Nat)
    (hi : i < rows.length) (hj : j < gs.length) :
    ∃ out, multiTargetBatch (gs.map fun g => fun rs => rs.map g) rows = some out ∧
      (out[i]?).bind (·[j]?) = some (gs[j] rows[i]) := by
  refine ⟨_, multiTarget_spec gs rows, ?_⟩
  rw [List.getElem?_map, List.getElem?_eq_getElem hi, Option.map_some, Option.bind_some,
    List.getElem?_map, List.getElem?_eq_getElem hj, Option.map_some]

example : ∃ out, multiTargetBatch ([fun (x : Nat) => x + 100, fun x => 2 * x].map fun g => fun rs => rs.map g) [1, 2, 3] = some out ∧
    (out[2]?).bind (·[1]?) = some 6 := multiTarget_entry _ _ 2 1 (by decide) (by decide)


/-- the wrapper's whole-batch loop (first member initialises, every later member overwrites
where its probability is strictly higher, labels written into the default-filled target) equals,
row by row, the per-row running arg-max over the members — any batch, any number of members. -/
theorem multiClass_batch_eq_map {R L P : Type} [LT P] [DecidableLT P]
    (ms : List (L × (R → P))) (rows : List R) (dflt : L) :
    multiClassBatch (ms.map fun m => (m.1, fun rs => rs.map m.2)) rows dflt =
      rows.map fun r => multiClassRow ms r dflt := by
  cases ms with
  | nil => simp [multiClassBatch, multiClassRow, List.map_const']
  | cons m ms =>
    -- the loop leaves one label per row, so nothing is cut off and no default remains
    simp only [multiClassBatch, multiClass_fold_labels m ms rows dflt]
    rw [List.take_of_length_le (Nat.le_of_eq (List.length_map _)), List.length_map, Nat.sub_self]
    exact List.append_nil _

example : multiClassBatch ([(7, fun (x : Nat) => x % 3), (9, fun x => x % 2), (4, fun x => x % 3)].map
    fun m => (m.1, fun rs => rs.map m.2)) [0, 1, 2, 3] 0 = [7, 7, 7, 9] := by decide +kernel

/-- **the label returned is that of the first member with the highest probability**: the running
arg-max splits the (label, probability) list as `pre ++ r :: post` with everything before `r`
strictly smaller and nothing anywhere larger. -/
theorem multiClass_argmax {L P : Type} [LinearOrder P] (best : L × P) (ds : List (L × P)) :
    ∃ pre post, best :: ds = pre ++ argmaxPairGo best ds :: post ∧
      (∀ d ∈ pre, d.2 < (argmaxPairGo best ds).2) ∧
      (∀ d ∈ best :: ds, d.2 ≤ (argmaxPairGo best ds).2) :=
  argmaxPairGo_first_max best ds

example : argmaxPairGo (7, 1) [(9, 3), (4, 3), (5, 2)] = (9, 3) := by decide +kernel

/-- what the statement asks of the wrapper, without the tie-break: the pair returned is one of the
members' (label, probability) pairs for that row and no member has a higher probability -/
theorem multiClass_label_has_max_probability {L P : Type} [LinearOrder P] (best : L × P)
    (ds : List (L × P)) :
    argmaxPairGo best ds ∈ best :: ds ∧ ∀ d ∈ best :: ds, d.2 ≤ (argmaxPairGo best ds).2 := by
  obtain ⟨pre, post, e, _, hall⟩ := multiClass_argmax best ds
  exact ⟨by rw [e]; simp, hall⟩

example : (argmaxPairGo (7, 1) [(9, 3), (4, 3), (5, 2)]) ∈ [(7, 1), (9, 3), (4, 3), (5, 2)] :=
  (multiClass_label_has_max_probability (7, 1) [(9, 3), (4, 3), (5, 2)]).1


/-! ## The structural families: `batch = map row`

Each `…Batch` is written as the Rust code processes the whole matrix; each `…Row` is what it
does to one row.  All statements hold for every batch (empty, single, duplicated, any order). -/

section families
set_option linter.unusedSectionVars false
variable {α : Type} [Add α] [Sub α] [Mul α] [Div α] [LT α] [DecidableLT α] [LE α] [DecidableLE α]
  [OfNat α 0]

/-- affine family (`x.dot(w) + b`: OLS, elastic net, GLM linear predictor, logistic, SVM-linear) -/
theorem affine_batch_eq_map (rows : List (List α)) (w : List α) (b : α) :
    affineBatch rows w b = rows.map (affineRow w b) := by
  rw [affineBatch, matVec, List.map_map]
  rfl

/-- centred/scaled linear maps (`((x - mean) / std)·C + bias`: PCA, PLS, multi-task elastic net):
the four whole-matrix passes equal the per-row computation -/
theorem linMap_batch_eq_map (mean std : List α) (cols : List (List α)) (bias : List α)
    (rows : List (List α)) :
    linMapBatch mean std cols bias rows = rows.map (linMapRow mean std cols bias) := by
  rw [linMapBatch, subRows, divRows, matMul, addRows, List.map_map, List.map_map, List.map_map]
  rfl

/-- k-means: with at least one centroid no call fails and the membership vector is the per-row
nearest-centroid index -/
theorem kmeans_batch_eq_map (c0 : List α) (cents : List (List α)) (rows : List (List α)) :
    kmeansBatch (c0 :: cents) rows =
      some (rows.map fun r => (closestGo r (c0 :: cents) 0 (0, sqDist c0 r)).1) :=
  mapM_some_of_forall _ _ rows fun _ _ => rfl

/-- score tables (naive Bayes: class-major likelihood table read sample-major; GMM; multinomial
logistic): for per-sample class scores the arg-max of column `i` of the class-major table is the
arg-max of row `i`'s own score vector; the call fails exactly when there is a row but no class. -/
theorem table_batch_eq_map {R : Type} (ss : List (R → α)) (rows : List R) :
    tableBatch (ss.map fun s => fun rs => rs.map s) rows =
      if ss.isEmpty && !rows.isEmpty then none else some (rows.map (tableRow ss)) := by
  unfold tableBatch
  simp only [List.isEmpty_map, List.map_map, Function.comp_def]
  split
  · rfl
  · exact congrArg some (map_range_eq_map rows _ _ fun i hi =>
      congrArg argmaxIdx (column_of_rows ss rows i hi))

/-- threshold family (binary logistic `p >= threshold`, SVM `val >= 0`) -/
theorem thresh_batch_eq_map {R : Type} (d : R → α) (thr : α) (rows : List R) :
    threshBatch (fun rs => rs.map d) thr rows = rows.map fun r => decide (thr ≤ d r) := by
  rw [threshBatch, List.map_map]
  rfl

end families

example : affineBatch ([[1, 2], [3, 4]] : List (List Int)) [10, 1] 5 = [17, 39] := by decide +kernel
example : linMapBatch ([1, 1] : List Int) [1, 1] [[1, 0], [1, 1]] [0, 100] [[1, 2], [3, 4]] = [[0, 101], [2, 105]] := by decide +kernel
example : kmeansBatch ([[0], [10]] : List (List Int)) [[1], [9], [5]] = some [0, 1, 0] := by decide +kernel
example : tableBatch ([fun (x : Int) => x, fun x => 3 - x].map fun s => fun rs => rs.map s) [0, 1, 2, 3]
    = some [1, 1, 0, 0] := by decide +kernel
example : threshBatch (fun rs => rs.map fun (x : Int) => 2 * x) 3 [1, 2] = [false, true] := by decide +kernel

/-- k-means (oracle clause `nearest_centroid`): whatever `closest_centroid` returns is an index into
the centroid table, the distance of that very centroid, and no centroid is nearer — for every
table and every observation (first minimum; centroid 0 visited twice changes nothing) -/
theorem kmeans_nearest_centroid {α : Type} [LinearOrder α] [Add α] [Sub α] [Mul α] [OfNat α 0]
    (cents : List (List α)) (obs : List α) (i : Nat) (d : α)
    (h : closestCentroid cents obs = some (i, d)) :
    ∃ hi : i < cents.length, d = sqDist cents[i] obs ∧ ∀ c ∈ cents, d ≤ sqDist c obs := by
  cases cents with
  | nil => cases h
  | cons c0 rest =>
    obtain ⟨_, h2, h3⟩ := closestGo_spec obs (c0 :: rest) 0 (0, sqDist c0 obs)
    rw [Option.some.inj h] at h2 h3
    rcases h3 with h3 | ⟨j, hj, h3⟩
    · cases h3
      exact ⟨Nat.succ_pos _, rfl, h2⟩
    · rw [Nat.zero_add] at h3
      cases h3
      exact ⟨hj, rfl, h2⟩

example : closestCentroid ([[0], [10], [4]] : List (List Int)) [5] = some (2, 1) := by decide +kernel

/-- score tables (naive Bayes, GMM, multinomial logistic): the class returned for a row is in range,
its score is maximal among the row's scores and every earlier class scores strictly less -/
theorem table_row_first_max {R α : Type} [LinearOrder α] (ss : List (R → α)) (r : R) (hne : ss ≠ []) :
    ∃ v, (ss.map fun s => s r)[tableRow ss r]? = some v ∧ (∀ s ∈ ss, s r ≤ v) ∧
      ∀ j y, j < tableRow ss r → (ss.map fun s => s r)[j]? = some y → y < v := by
  obtain ⟨v, h1, h2, h3⟩ := argmaxIdx_first_max (ss.map fun s => s r) (by simpa using hne)
  exact ⟨v, h1, fun s hs => h2 (s r) (List.mem_map_of_mem hs), h3⟩

example : tableRow [fun (x : Int) => x, fun x => 3 - x, fun x => 3 - x] 1 = 1 := by decide +kernel

def treeFeaturesBelow {α L : Type} : Tree α L → Nat → Prop
  | .leaf _, _ => True
  | .node f _ lo hi, p => f < p ∧ treeFeaturesBelow lo p ∧ treeFeaturesBelow hi p

/-- tree descent never fails when every split feature exists in the row -/
theorem tree_descend_total {α L : Type} [LE α] [DecidableLE α] (t : Tree α L) (x : List α)
    (h : treeFeaturesBelow t x.length) : ∃ l, treeDescend t x = some l := by
  induction t with
  | leaf l => exact ⟨l, rfl⟩
  | node f thr lo hi ihlo ihhi =>
    obtain ⟨hf, hlo, hhi⟩ := h
    simp only [treeDescend, List.getElem?_eq_getElem hf]
    split
    · exact ihlo hlo
    · exact ihhi hhi

def treeAnyLeaf {α L : Type} : Tree α L → L
  | .leaf l => l
  | .node _ _ lo _ => treeAnyLeaf lo

/-- decision tree: the batch loop is the per-row descent, and it is total on rows of the
fitted width -/
theorem tree_batch_eq_map {α L : Type} [LE α] [DecidableLE α] (t : Tree α L) (rows : List (List α))
    (p : Nat) (ht : treeFeaturesBelow t p) (hrows : ∀ r ∈ rows, r.length = p) :
    ∃ g : List α → L, (∀ r ∈ rows, treeDescend t r = some (g r)) ∧
      treeBatch t rows = some (rows.map g) := by
  have hg : ∀ r ∈ rows, treeDescend t r = some ((treeDescend t r).getD (treeAnyLeaf t)) :=
    fun r hr => eq_some_getD (tree_descend_total t r (hrows r hr ▸ ht)) _
  exact ⟨_, hg, mapM_some_of_forall _ _ rows hg⟩

example : treeBatch (LinfaSpec.Predict.Tree.node 0 (5 : Int) (.leaf 1) (.node 1 2 (.leaf 2) (.leaf 3))) [[5, 0], [6, 2], [6, 3]]
    = some [1, 2, 3] := by decide +kernel

/-- the five forms that allocate their own buffer (`&records`, `records`, `&dataset`, `dataset`,
`predict_inplace` into `default_target`) return the same targets — whatever the model does with
its buffer and whatever buffer the caller holds -/
theorem forms_agree {R T : Type} (m : Inplace R T) (f g : Form) (records : List R) (buf buf' : T)
    (hf : f ≠ .inplaceInto) (hg : g ≠ .inplaceInto) :
    (predictForm m f records buf).targets = (predictForm m g records buf').targets := by
  rw [predictForm_targets, predictForm_targets, if_neg hf, if_neg hg]

/-- a model *overwrites* its buffer: on admissible buffers (`ok` = the shape assert at the head of
`predict_inplace`) the outcome does not depend on what the buffer held -/
def Overwrites {R T : Type} (m : Inplace R T) (ok : List R → T → Prop) : Prop :=
  (∀ rs y, ok rs y → ok rs (m.defaultTarget rs)) ∧
  ∀ rs y y', ok rs y → ok rs y' → m.predictInplace rs y = m.predictInplace rs y'

/-- **in place into a supplied buffer**: for a model that overwrites its buffer, all six calling
forms — including `predict_inplace` into any admissible pre-filled or reused buffer — return the
same targets -/
theorem forms_agree_supplied {R T : Type} (m : Inplace R T) (ok : List R → T → Prop)
    (h : Overwrites m ok) (f g : Form) (records : List R) (buf buf' : T)
    (hb : ok records buf) (hb' : ok records buf') :
    (predictForm m f records buf).targets = (predictForm m g records buf').targets := by
  have hd := h.1 records buf hb
  have key := fun y hy => h.2 records y _ hy hd
  rw [predictForm_targets_of_const m f records buf _ _ key hb hd,
    predictForm_targets_of_const m g records buf' _ _ key hb' hd]

/-- the dataset-returning forms hand back the input records unchanged -/
theorem dataset_form_returns_records {R T : Type} (m : Inplace R T) (records : List R) (buf : T) :
    (predictForm m .ownedArray records buf).records = some records ∧
    (predictForm m .ownedDataset records buf).records = some records := ⟨rfl, rfl⟩

/-- `*y = e` after the shape assert: the outcome is the assigned value on every admissible buffer
and a panic on every other one (OLS, elastic net, GLM, PLS, PCA, naive Bayes, GMM, multi-target) -/
theorem assign_inplace_spec {T : Type} (ok : Bool) (v : Option T) :
    assignInplace ok v = if ok then v else none := rfl

/-- the zip loop after the length assert: for a per-row function that never panics on the rows of
the batch the outcome is `rows.map g`, whatever the buffer held; a buffer of another length is the
documented panic -/
theorem zip_inplace_spec {R β : Type} (f : R → Option β) (g : R → β) (rows : List R) (y : List β)
    (h : ∀ r ∈ rows, f r = some (g r)) :
    zipInplace f rows y = if y.length = rows.length then some (rows.map g) else none := by
  unfold zipInplace
  by_cases hl : y.length = rows.length
  · rw [if_neg (fun h' => h' hl), if_pos hl]
    rw [zipWrite_eq_mapM f rows y hl, mapM_some_of_forall f g rows h]
  · rw [if_pos hl, if_neg hl]

/-- OLS / elastic net / GLM linear predictor into a supplied buffer -/
theorem affine_inplace_overwrites {α : Type} [Add α] [Mul α] [OfNat α 0]
    (rows : List (List α)) (w : List α) (b : α) (y : List α) (hy : y.length = rows.length) :
    affineInplace rows w b y = some (rows.map (affineRow w b)) := by
  rw [affineInplace, hy, beq_self_eq_true, affineBatch, matVec, List.map_map]
  rfl

theorem kmeans_inplace_overwrites {α : Type} [Add α] [Sub α] [Mul α] [LT α] [DecidableLT α] [OfNat α 0]
    (c0 : List α) (cents : List (List α)) (rows : List (List α)) (y : List Nat)
    (hy : y.length = rows.length) :
    kmeansInplace (c0 :: cents) rows y =
      some (rows.map fun r => (closestGo r (c0 :: cents) 0 (0, sqDist c0 r)).1) := by
  rw [kmeansInplace, zipInplace_eq_mapM _ rows y hy]
  exact mapM_some_of_forall _ _ rows fun _ _ => rfl

set_option linter.unusedVariables false in
/-- decision tree into a supplied label buffer (`ht`, `hrows` are not needed: after the length assert
the zip loop is `mapM` of the descent, panics included) -/
theorem tree_inplace_overwrites {α L : Type} [LE α] [DecidableLE α] (t : Tree α L)
    (rows : List (List α)) (p : Nat) (ht : treeFeaturesBelow t p) (hrows : ∀ r ∈ rows, r.length = p)
    (y y' : List L) (hy : y.length = rows.length) (hy' : y'.length = rows.length) :
    treeInplace t rows y = treeInplace t rows y' ∧ treeInplace t rows y = treeBatch t rows := by
  have e : ∀ z : List L, z.length = rows.length → treeInplace t rows z = treeBatch t rows :=
    fun z hz => zipInplace_eq_mapM _ rows z hz
  exact ⟨(e y hy).trans (e y' hy').symm, e y hy⟩

/-- `MultiTargetModel` into a supplied `(n, m)` buffer: the buffer content is irrelevant -/
theorem multiTarget_inplace_spec {R L : Type} (gs : List (R → L)) (rows : List R) (y : List (List L))
    (hy : y.length = rows.length) (hc : ∀ r ∈ y, r.length = gs.length) :
    multiTargetInplace (gs.map fun g => fun rs => rs.map g) rows y =
      some (rows.map fun r => gs.map fun g => g r) := by
  rw [multiTargetInplace, assignInplace_shape y _ _ _ ⟨hy, by rwa [List.length_map]⟩]
  exact multiTarget_spec gs rows

/-- `MultiClassModel` into a supplied label buffer, at least one member: every cell is overwritten
with the per-row running arg-max; the buffer content is irrelevant -/
theorem multiClass_inplace_overwrites {R L P : Type} [LT P] [DecidableLT P]
    (m : L × (R → P)) (ms : List (L × (R → P))) (rows : List R) (y : List L) (dflt : L)
    (hy : y.length = rows.length) :
    multiClassInplace ((m :: ms).map fun k => (k.1, fun rs => rs.map k.2)) rows y =
      some (rows.map fun r => multiClassRow (m :: ms) r dflt) := by
  simp only [multiClassInplace, multiClass_fold_labels m ms rows dflt]
  rw [if_neg (fun h => h hy), writeZip_full _ _ (by rw [List.length_map, hy])]

/-- the `Predict` forms of `MultiClassModel` are the in-place form on the `L::default()` fill -/
theorem multiClass_batch_is_inplace {R L P : Type} [LT P] [DecidableLT P]
    (members : List (L × (List R → List P))) (rows : List R) (dflt : L) :
    multiClassInplace members rows (List.replicate rows.length dflt) =
      some (multiClassBatch members rows dflt) := by
  simp only [multiClassInplace, multiClassBatch, writeZip_replicate]
  rw [if_neg (fun h => h List.length_replicate)]

/-- `MultiClassModel` with **no member at all** hands the buffer back untouched (the `Predict` forms then
return the `L::default()` fill): the one case where the in-place form shows the caller's data -/
theorem multiClass_inplace_no_member {R L P : Type} [LT P] [DecidableLT P]
    (rows : List R) (y : List L) (hy : y.length = rows.length) :
    multiClassInplace (P := P) ([] : List (L × (List R → List P))) rows y = some y := by
  rw [multiClassInplace, if_neg (fun h => h hy)]
  rfl

/-- isotonic regression into a supplied buffer, for **any decidable `≤`** (no order axiom is used, so
NaN queries over IEEE floats are covered): every cell is written — when `position` finds no knot, which
only an unordered query can cause, the query value itself (repo bf53440) — so the in-place form returns
`vs.map g` whatever the buffer held.  Assumed, not modelled: `reg ≠ []`, `|resp| = |reg|` (what `fit`
produces). -/
theorem iso_inplace_overwrites {α : Type} [LE α] [DecidableLE α] [Add α] [Sub α] [Mul α] [Div α]
    (reg resp : List α) (hne : reg ≠ []) (hlen : resp.length = reg.length) :
    ∃ g : α → α, (∀ v, isoCell reg resp v = some (some (g v))) ∧
      ∀ (vs y : List α), y.length = vs.length →
        isoInplace reg resp (vs.map fun v => [v]) y = some (vs.map g) := by
  have hg : ∀ v, isoCell reg resp v = some (some (((isoCell reg resp v).bind id).getD v)) := by
    intro v
    obtain ⟨c, hc⟩ := isoCell_written reg resp v hne hlen
    rw [hc]
    rfl
  refine ⟨_, hg, fun vs y hy => ?_⟩
  have e1 : reg.isEmpty = false := List.isEmpty_eq_false_iff.mpr hne
  have e2 : resp.isEmpty = false :=
    List.isEmpty_eq_false_iff.mpr (List.ne_nil_of_length_pos (hlen ▸ List.length_pos_iff.mpr hne))
  rw [isoInplace, if_neg (fun h => h (hy.trans (List.length_map _).symm)), e1, e2, if_neg nofun]
  exact isoWrite_eq_map reg resp _ hg vs y hy

/-- the `Predict` forms of isotonic regression are `batch = map row`, one output per row -/
theorem iso_batch_eq_map {α : Type} [LE α] [DecidableLE α] [Add α] [Sub α] [Mul α] [Div α] [OfNat α 0]
    (reg resp : List α) (hne : reg ≠ []) (hlen : resp.length = reg.length) :
    ∃ g : α → α, ∀ vs : List α, isoBatch reg resp (vs.map fun v => [v]) = some (vs.map g) := by
  obtain ⟨g, _, h⟩ := iso_inplace_overwrites reg resp hne hlen
  refine ⟨g, fun vs => ?_⟩
  exact h vs _ (List.length_replicate.trans (List.length_map _))

example : isoInplace ([0, 2, 4] : List Int) [0, 2, 10] [[2], [3], [9], [-1]] [77, 77, 77, 77] =
    some [2, 2, 10, 0] := by decide +kernel

example : multiClassInplace ([(7, fun (x : Nat) => x % 3), (9, fun x => x % 2)].map
    fun m => (m.1, fun rs => rs.map m.2)) [0, 1, 2, 3] [55, 55, 55, 55] = some [7, 7, 7, 9] := by decide +kernel
example : affineInplace ([[1, 2], [3, 4]] : List (List Int)) [10, 1] 5 [99, -99] = some [17, 39] := by decide +kernel
example : affineInplace ([[1, 2], [3, 4]] : List (List Int)) [10, 1] 5 [99] = none := by decide +kernel
example : kmeansInplace ([[0], [10]] : List (List Int)) [[1], [9], [5]] [7, 7, 7] = some [0, 1, 0] := by decide +kernel


/-! ## Every family through every calling form

`Drv/C03.lean` answers every family request with `predictForm <family>Model form rows buf`; the
theorems below are about exactly those terms.  `PerSample m ok g`: on admissible buffers the
model's `predict_inplace` returns `rows.map g`, and `default_target` is admissible. -/

def PerSample {R T : Type} (m : Inplace R (List T)) (ok : List R → List T → Prop) (g : R → T) : Prop :=
  (∀ rs y, ok rs y → ok rs (m.defaultTarget rs)) ∧
  ∀ rs y, ok rs y → m.predictInplace rs y = some (rs.map g)

/-- **all six calling forms** of a per-sample model — `&records`, `records`, `&dataset`, `dataset`,
`predict_inplace` into `default_target` and into any admissible supplied buffer — return
`rows.map g`: one output per row, row `i`'s output a function of row `i` alone -/
theorem perSample_every_form {R T : Type} (m : Inplace R (List T)) (ok : List R → List T → Prop)
    (g : R → T) (h : PerSample m ok g) (f : Form) (rows : List R) (buf : List T) (hb : ok rows buf) :
    (predictForm m f rows buf).targets = some (rows.map g) :=
  predictForm_targets_of_const m f rows buf _ _ (h.2 rows) hb (h.1 rows buf hb)

/-- a per-sample model overwrites its buffer (discharges the hypothesis of `forms_agree_supplied`) -/
theorem perSample_overwrites {R T : Type} (m : Inplace R (List T)) (ok : List R → List T → Prop)
    (g : R → T) (h : PerSample m ok g) : Overwrites m ok :=
  ⟨h.1, fun rs y y' hy hy' => (h.2 rs y hy).trans (h.2 rs y' hy').symm⟩

/-- exactly one output per input row, through every form -/
theorem perSample_length {R T : Type} (m : Inplace R (List T)) (ok : List R → List T → Prop)
    (g : R → T) (h : PerSample m ok g) (f : Form) (rows : List R) (buf t : List T) (hb : ok rows buf)
    (ht : (predictForm m f rows buf).targets = some t) : t.length = rows.length := by
  rw [perSample_every_form m ok g h f rows buf hb] at ht
  cases ht
  exact List.length_map _

/-- batch composition: predicting `a ++ b` (through any form) is predicting `a` and `b` (through any
forms) and concatenating -/
theorem perSample_append {R T : Type} (m : Inplace R (List T)) (ok : List R → List T → Prop)
    (g : R → T) (h : PerSample m ok g) (f fa fb : Form) (a b : List R) (buf bufa bufb : List T)
    (hab : ok (a ++ b) buf) (ha : ok a bufa) (hb : ok b bufb) :
    ∃ ta tb, (predictForm m fa a bufa).targets = some ta ∧ (predictForm m fb b bufb).targets = some tb ∧
      (predictForm m f (a ++ b) buf).targets = some (ta ++ tb) :=
  ⟨a.map g, b.map g, perSample_every_form m ok g h fa a bufa ha, perSample_every_form m ok g h fb b bufb hb,
    by rw [perSample_every_form m ok g h f (a ++ b) buf hab, List.map_append]⟩

/-- row order: permuting the batch permutes the outputs the same way — every row keeps its output -/
theorem perSample_perm {R T : Type} (m : Inplace R (List T)) (ok : List R → List T → Prop)
    (g : R → T) (h : PerSample m ok g) (f f' : Form) (a b : List R) (bufa bufb : List T)
    (hp : a.Perm b) (ha : ok a bufa) (hb : ok b bufb) :
    ∃ ta tb, (predictForm m f a bufa).targets = some ta ∧ (predictForm m f' b bufb).targets = some tb ∧
      (a.zip ta).Perm (b.zip tb) := by
  refine ⟨a.map g, b.map g, perSample_every_form m ok g h f a bufa ha,
    perSample_every_form m ok g h f' b bufb hb, ?_⟩
  have e : ∀ l : List R, l.zip (l.map g) = l.map fun r => (r, g r) := fun l => by
    simpa using List.zip_map' (f := id) (g := g) (l := l)
  rw [e a, e b]
  exact hp.map _

/-- row `i` of a batch gets what the one-row batch `[rows[i]]` gets, whatever forms are used -/
theorem perSample_row_alone {R T : Type} (m : Inplace R (List T)) (ok : List R → List T → Prop)
    (g : R → T) (h : PerSample m ok g) (f f' : Form) (rows : List R) (buf buf1 : List T) (i : Nat)
    (hi : i < rows.length) (hb : ok rows buf) (h1 : ok [rows[i]] buf1) :
    ∃ t t1, (predictForm m f rows buf).targets = some t ∧
      (predictForm m f' [rows[i]] buf1).targets = some t1 ∧ t[i]? = t1[0]? :=
  ⟨rows.map g, [rows[i]].map g, perSample_every_form m ok g h f rows buf hb,
    perSample_every_form m ok g h f' [rows[i]] buf1 h1,
    by rw [List.getElem?_map, List.getElem?_eq_getElem hi]; rfl⟩

/-- equal rows get equal outputs, wherever they stand and whatever forms are used -/
theorem perSample_duplicates {R T : Type} (m : Inplace R (List T)) (ok : List R → List T → Prop)
    (g : R → T) (h : PerSample m ok g) (f f' : Form) (rows rows' : List R) (buf buf' : List T) (i j : Nat)
    (hi : i < rows.length) (hj : j < rows'.length) (e : rows[i] = rows'[j])
    (hb : ok rows buf) (hb' : ok rows' buf') :
    ∃ t t', (predictForm m f rows buf).targets = some t ∧
      (predictForm m f' rows' buf').targets = some t' ∧ t[i]? = t'[j]? :=
  ⟨rows.map g, rows'.map g, perSample_every_form m ok g h f rows buf hb,
    perSample_every_form m ok g h f' rows' buf' hb',
    by rw [List.getElem?_map, List.getElem?_map, List.getElem?_eq_getElem hi, List.getElem?_eq_getElem hj, e]⟩

section familyModels
set_option linter.unusedSectionVars false
variable {α : Type} [Add α] [Sub α] [Mul α] [Div α] [LT α] [DecidableLT α] [LE α] [DecidableLE α]
  [OfNat α 0]

/-- OLS / elastic net -/
theorem affine_perSample (w : List α) (b : α) :
    PerSample (affineModel w b) (fun rs y => y.length = rs.length) (affineRow w b) :=
  ⟨fun _ _ _ => List.length_replicate, fun rs y hy => affine_inplace_overwrites rs w b y hy⟩

/-- PCA / PLS: buffer of shape `(n, q)` -/
theorem linMap_perSample (mean std : List α) (cols : List (List α)) (bias : List α) :
    PerSample (linMapModel mean std cols bias)
      (fun rs y => y.length = rs.length ∧ ∀ r ∈ y, r.length = cols.length)
      (linMapRow mean std cols bias) := by
  refine ⟨fun rs _ _ => replicate_shape _ _ _, fun rs y hy => ?_⟩
  show linMapInplace mean std cols bias rs y = _
  rw [linMapInplace, assignInplace_shape y _ _ _ hy, linMap_batch_eq_map]

theorem kmeans_perSample (c0 : List α) (cents : List (List α)) :
    PerSample (kmeansModel (c0 :: cents)) (fun rs y => y.length = rs.length)
      (fun r => (closestGo r (c0 :: cents) 0 (0, sqDist c0 r)).1) :=
  ⟨fun _ _ _ => List.length_replicate, fun rs y hy => kmeans_inplace_overwrites c0 cents rs y hy⟩

/-- the `Predict` forms of the k-means model are `kmeansBatch` (about which `kmeans_batch_eq_map` is) -/
theorem kmeans_forms_are_batch (cents : List (List α)) (f : Form) (rows : List (List α)) (buf : List Nat)
    (hf : f ≠ .inplaceInto) :
    (predictForm (kmeansModel cents) f rows buf).targets = kmeansBatch cents rows := by
  rw [predictForm_targets, if_neg hf]
  exact zipInplace_eq_mapM _ rows _ List.length_replicate

theorem affine_forms_are_batch (w : List α) (b : α) (f : Form) (rows : List (List α)) (buf : List α)
    (hb : buf.length = rows.length) :
    (predictForm (affineModel w b) f rows buf).targets = some (affineBatch rows w b) := by
  rw [perSample_every_form _ _ _ (affine_perSample w b) f rows buf hb, affine_batch_eq_map]

theorem linMap_forms_are_batch (mean std : List α) (cols : List (List α)) (bias : List α) (f : Form)
    (rows : List (List α)) (buf : List (List α))
    (hb : buf.length = rows.length ∧ ∀ r ∈ buf, r.length = cols.length) :
    (predictForm (linMapModel mean std cols bias) f rows buf).targets =
      some (linMapBatch mean std cols bias rows) := by
  rw [perSample_every_form _ _ _ (linMap_perSample mean std cols bias) f rows buf hb, linMap_batch_eq_map]

end familyModels

/-- decision tree whose split features exist in rows of width `p` -/
theorem tree_perSample {α L : Type} [LE α] [DecidableLE α] (t : Tree α L) (dflt : L) (p : Nat)
    (ht : treeFeaturesBelow t p) :
    PerSample (treeModel t dflt) (fun rs y => y.length = rs.length ∧ ∀ r ∈ rs, r.length = p)
      (fun r => (treeDescend t r).getD (treeAnyLeaf t)) := by
  refine ⟨fun rs _ h => ⟨List.length_replicate, h.2⟩, fun rs y hy => ?_⟩
  show zipInplace (treeDescend t) rs y = _
  rw [zipInplace_eq_mapM _ rs y hy.1]
  exact mapM_some_of_forall _ _ rs fun r hr =>
    eq_some_getD (tree_descend_total t r (hy.2 r hr ▸ ht)) _

theorem tree_forms_are_batch {α L : Type} [LE α] [DecidableLE α] (t : Tree α L) (dflt : L) (f : Form)
    (rows : List (List α)) (buf : List L) (hf : f ≠ .inplaceInto) :
    (predictForm (treeModel t dflt) f rows buf).targets = treeBatch t rows := by
  rw [predictForm_targets, if_neg hf]
  exact zipInplace_eq_mapM _ rows _ List.length_replicate

/-- isotonic regression through every form, for any decidable `≤`: the rows of the `(n, 1)` matrix are
the singletons `[v]` -/
theorem iso_every_form {α : Type} [LE α] [DecidableLE α] [Add α] [Sub α] [Mul α] [Div α] [OfNat α 0]
    (reg resp : List α) (hne : reg ≠ []) (hlen : resp.length = reg.length) :
    ∃ g : α → α, ∀ (f : Form) (vs buf : List α), buf.length = vs.length →
      (predictForm (isoModel reg resp) f (vs.map fun v => [v]) buf).targets = some (vs.map g) := by
  obtain ⟨g, _, h⟩ := iso_inplace_overwrites reg resp hne hlen
  exact ⟨g, fun f vs buf hb => predictForm_targets_of_const _ f _ buf _ _ (h vs) hb
    (List.length_replicate.trans (List.length_map _))⟩

/-- `MultiTargetModel` over per-sample members through every form: column `j` = member `j` -/
theorem multiTarget_perSample {R L : Type} (gs : List (R → L)) (dflt : L) :
    PerSample (multiTargetModel (gs.map fun g => fun rs => rs.map g) dflt)
      (fun rs y => y.length = rs.length ∧ ∀ r ∈ y, r.length = gs.length)
      (fun r => gs.map fun g => g r) := by
  refine ⟨fun rs _ _ => ?_, fun rs y hy => multiTarget_inplace_spec gs rs y hy.1 hy.2⟩
  simp only [multiTargetModel, List.length_map]
  exact replicate_shape _ _ _

/-- the `Predict` forms of `MultiTargetModel` are `multiTargetBatch` (about which `multiTarget_spec` /
`_entry` are), for any members -/
theorem multiTarget_forms_are_batch {R L : Type} (members : List (List R → List L)) (dflt : L) (f : Form)
    (rows : List R) (buf : List (List L)) (hf : f ≠ .inplaceInto) :
    (predictForm (multiTargetModel members dflt) f rows buf).targets = multiTargetBatch members rows := by
  rw [predictForm_targets, if_neg hf]
  exact assignInplace_shape _ _ _ _ (replicate_shape _ _ _)

/-- `MultiClassModel` with at least one per-sample member through every form -/
theorem multiClass_perSample {R L P : Type} [LT P] [DecidableLT P]
    (m : L × (R → P)) (ms : List (L × (R → P))) (dflt : L) :
    PerSample (multiClassModel ((m :: ms).map fun k => (k.1, fun rs => rs.map k.2)) dflt)
      (fun rs y => y.length = rs.length) (fun r => multiClassRow (m :: ms) r dflt) :=
  ⟨fun _ _ _ => List.length_replicate,
    fun rs y hy => multiClass_inplace_overwrites m ms rs y dflt hy⟩

/-- the `Predict` forms of `MultiClassModel` are `multiClassBatch`, for any members (none included) -/
theorem multiClass_forms_are_batch {R L P : Type} [LT P] [DecidableLT P]
    (members : List (L × (List R → List P))) (dflt : L) (f : Form) (rows : List R) (buf : List L)
    (hf : f ≠ .inplaceInto) :
    (predictForm (multiClassModel members dflt) f rows buf).targets =
      some (multiClassBatch members rows dflt) := by
  rw [predictForm_targets, if_neg hf]
  exact multiClass_batch_is_inplace members rows dflt

example : (predictForm (affineModel ([10, 1] : List Int) 5) .ownedDataset [[1, 2], [3, 4]] []).targets = some [17, 39] ∧
    (predictForm (affineModel ([10, 1] : List Int) 5) .inplaceInto [[1, 2], [3, 4]] [99, -99]).targets = some [17, 39] ∧
    (predictForm (affineModel ([10, 1] : List Int) 5) .ownedDataset [[1, 2], [3, 4]] []).records = some [[1, 2], [3, 4]] := by decide +kernel
example : (predictForm (kmeansModel ([[0], [10]] : List (List Int))) .refDataset [[1], [9], [5]] []).targets = some [0, 1, 0] := by decide +kernel
example : (predictForm (multiClassModel ([(7, fun (x : Nat) => x % 3), (9, fun x => x % 2)].map
    fun m => (m.1, fun rs => rs.map m.2)) 0) .inplaceInto [0, 1, 2, 3] [55, 55, 55, 55]).targets = some [7, 7, 7, 9] := by decide +kernel
example : PerSample (affineModel ([10, 1] : List Int) 5) (fun rs y => y.length = rs.length) (affineRow [10, 1] 5) :=
  affine_perSample _ _

/-! ## Platt scaling (over `ℝ`, `exp := Real.exp`, the `F → f32` cast read as the identity) -/

/-- the two branches of `platt_predict` compute the same sigmoid `1 / (1 + e^t)` -/
theorem platt_branches_agree (t : ℝ) :
    Real.exp (-t) / (1 + Real.exp (-t)) = 1 / (1 + Real.exp t) ∧
    plattRaw t = 1 / (1 + Real.exp t) :=
  ⟨exp_neg_div t, plattRaw_eq t⟩

/-- the value `platt_predict` returns: `Pr::new` never rejects it -/
theorem platt_value (x a b : ℝ) :
    plattPredict (fun (v : ℝ) => v) x a b = some (1 / (1 + Real.exp (a * x + b))) := by
  unfold plattPredict
  simp only [plattRaw_eq]
  rw [if_pos (sigmoid_mem _)]

/-- **a Platt-calibrated model returns a probability in [0,1]**, for every decision value and
every fitted `A`, `B` -/
theorem platt_range (x a b : ℝ) :
    ∃ p, plattPredict (fun (v : ℝ) => v) x a b = some p ∧ 0 ≤ p ∧ p ≤ 1 :=
  ⟨_, platt_value x a b, sigmoid_mem _⟩

/-- the probability is an antitone sigmoid of `t = A·f + B` -/
theorem platt_antitone_in_t (t t' : ℝ) (h : t ≤ t') : plattRaw t' ≤ plattRaw t := by
  rw [plattRaw_eq, plattRaw_eq]
  exact one_div_le_one_div_of_le (by positivity) ((add_le_add_iff_left 1).mpr (Real.exp_le_exp.mpr h))

/-- the probability is **monotone in the inner decision value** `f`: non-increasing for `A ≥ 0`,
non-decreasing for `A ≤ 0` (the fitted `A` of a useful calibration is negative). -/
theorem platt_monotone (a b x x' : ℝ) (hx : x ≤ x') :
    (0 ≤ a → plattRaw (a * x' + b) ≤ plattRaw (a * x + b)) ∧
    (a ≤ 0 → plattRaw (a * x + b) ≤ plattRaw (a * x' + b)) :=
  ⟨fun ha => platt_antitone_in_t _ _ ((add_le_add_iff_right b).mpr (mul_le_mul_of_nonneg_left hx ha)),
    fun ha => platt_antitone_in_t _ _ ((add_le_add_iff_right b).mpr (mul_le_mul_of_nonpos_left hx ha))⟩

/-- strictly so when `A ≠ 0` and the decision values differ: a sigmoid, not a step -/
theorem platt_strict (a b x x' : ℝ) (hx : x < x') (ha : a < 0) :
    plattRaw (a * x + b) < plattRaw (a * x' + b) := by
  rw [plattRaw_eq, plattRaw_eq]
  have e : a * x' + b < a * x + b := (add_lt_add_iff_right b).mpr (mul_lt_mul_of_neg_left hx ha)
  exact one_div_lt_one_div_of_lt (by positivity) ((add_lt_add_iff_left 1).mpr (Real.exp_lt_exp.mpr e))

/-- the Platt wrapper over a per-sample inner model is a per-sample function with one output per row -/
theorem platt_batch_eq_map {R : Type} (d : R → ℝ) (a b : ℝ) (rows : List R) :
    plattBatch (fun (v : ℝ) => v) (fun rs => rs.map d) a b rows =
      some (rows.map fun r => 1 / (1 + Real.exp (a * d r + b))) := by
  rw [plattBatch, List.mapM_map]
  exact mapM_some_of_forall _ _ rows fun r _ => platt_value (d r) a b

/-- the Platt wrapper into a supplied probability buffer: every cell is overwritten -/
theorem platt_inplace_overwrites {R : Type} (d : R → ℝ) (a b : ℝ) (rows : List R) (y : List ℝ)
    (hy : y.length = rows.length) :
    plattInplace (fun (v : ℝ) => v) (fun rs => rs.map d) a b rows y =
      some (rows.map fun r => 1 / (1 + Real.exp (a * d r + b))) := by
  rw [plattInplace_eq_batch _ _ a b rows y (List.length_map _) hy]
  exact platt_batch_eq_map d a b rows

/-- the Platt wrapper over a per-sample inner model through every calling form (over `ℝ`) -/
theorem platt_perSample {R : Type} (d : R → ℝ) (a b : ℝ) :
    PerSample (plattModel (fun (v : ℝ) => v) (fun rs => rs.map d) a b) (fun rs y => y.length = rs.length)
      (fun r => 1 / (1 + Real.exp (a * d r + b))) :=
  ⟨fun _ _ _ => List.length_replicate, fun rs y hy => platt_inplace_overwrites d a b rs y hy⟩

/-- the `Predict` forms of the Platt model are `plattBatch` whenever the inner model returns one value
per row (any scalar, in particular the `Float → Float32` instance the driver runs) -/
theorem platt_forms_are_batch {R α β : Type} [Add α] [Mul α]
    [Add β] [Div β] [Neg β] [LE β] [DecidableLE β] [OfNat β 0] [OfNat β 1] [Transc β]
    (cast : α → β) (inner : List R → List α) (a b : α) (f : Form) (rows : List R) (buf : List β)
    (hin : (inner rows).length = rows.length) (hf : f ≠ .inplaceInto) :
    (predictForm (plattModel cast inner a b) f rows buf).targets = plattBatch cast inner a b rows := by
  rw [predictForm_targets, if_neg hf]
  exact plattInplace_eq_batch cast inner a b rows _ hin List.length_replicate

example : PerSample (plattModel (fun (v : ℝ) => v) (fun (rs : List ℝ) => rs.map fun x => 2 * x) (-1) 0.5)
    (fun rs y => y.length = rs.length) (fun r => 1 / (1 + Real.exp (-1 * (2 * r) + 0.5))) :=
  platt_perSample _ _ _

example : ∃ p, plattPredict (fun (v : ℝ) => v) 2 (-1) 0.5 = some p ∧ 0 ≤ p ∧ p ≤ 1 := platt_range _ _ _
example : plattRaw ((-1 : ℝ) * 1 + 0) < plattRaw ((-1 : ℝ) * 2 + 0) := platt_strict (-1) 0 1 2 (by norm_num) (by norm_num)

end LinfaSpec.Props.C03
