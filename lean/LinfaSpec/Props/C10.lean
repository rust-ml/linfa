import LinfaSpec.Proofs.Gmm
import LinfaSpec.Proofs.GmmReal
import LinfaSpec.Proofs.GmmFit
import Mathlib.Tactic.NormNum

/-!
# C10 — A fitted Gaussian mixture is a valid mixture and yields valid probabilities

Theorems about `LinfaSpec.Gmm` (`Model/Gmm.lean`), the model of
`linfa-clustering/src/gaussian_mixture/algorithm.rs`.  Every parameter set a fit
returns is the output of one M-step (`estimate_gaussian_parameters`, then
`weights = nk / n`) on responsibilities `r` that are either one-hot (k-means
initialiser), normalised uniforms (random initialiser) or `exp(log_resp)` of an
E-step — in every case non-negative with rows summing to one.  The theorems of
the first part therefore quantify over **all** observations `x`, all such `r`,
all `n d k`, all `reg` and hold in every ordered field; the second part (E-step,
probabilities) is over `ℝ` with `exp`/`ln`.

IEEE effects (underflow far from the data) are outside these theorems; see
`lse_stable_finite` for the reason the repaired form cannot underflow and the
oracle of the correspondence run for the far queries.
-/
set_option linter.unusedSectionVars false

namespace LinfaSpec.Props.C10
open LinfaSpec LinfaSpec.Gmm

section mstep
variable {α : Type} [Field α] [LinearOrder α] [IsStrictOrderedRing α]

/-- **weights sum to one**: if every row of the responsibilities sums to one, the
weights returned by an M-step sum to one. -/
theorem weights_sum_one (thr reg : α) (n d k : Nat) (x r : List (List α)) (p : Params α)
    (hn : 0 < n) (hrow : ∀ i, i < n → sumRange k (fun j => at2 r i j) = 1)
    (h : estimateParams thr reg n d k x r = .ok p) :
    sumS p.weights = 1 := by
  obtain ⟨_, _, hw, _, _⟩ := estimateParams_ok h
  have hrow' : ∀ i ∈ Finset.range n, ∑ j ∈ Finset.range k, at2 r i j = 1 := fun i hi => by
    rw [← sumRange_eq]; exact hrow i (Finset.mem_range.mp hi)
  rw [hw, sumS_weights, Finset.sum_congr rfl hrow', Finset.sum_const, Finset.card_range, nsmul_eq_mul,
    mul_one, div_self (Nat.cast_ne_zero.mpr hn.ne')]

/-- **… and approximately so when the rows sum to one only approximately** (what floating point gives:
the random initialiser normalises in f64 and casts, an E-step row is `exp` of rounded logs): if every row sum
is within `ε` of one, so is the sum of the weights -/
theorem weights_sum_approx (thr reg : α) (n d k : Nat) (x r : List (List α)) (p : Params α) (ε : α)
    (hn : 0 < n) (hrow : ∀ i, i < n → |sumRange k (fun j => at2 r i j) - 1| ≤ ε)
    (h : estimateParams thr reg n d k x r = .ok p) :
    |sumS p.weights - 1| ≤ ε := by
  obtain ⟨_, _, hw, _, _⟩ := estimateParams_ok h
  rw [hw]
  exact sum_weights_approx n k r ε hn fun i hi => by rw [← sumRange_eq]; exact hrow i hi

/-- non-vacuity: rows summing to `1, 99/100, 1` satisfy the hypothesis with `ε = 1/100` -/
example : ∀ i, i < 3 → |sumRange 2 (fun j => at2 [[(1 : ℚ), 0], [99/100, 0], [0, 1]] i j) - 1| ≤ 1/100 := by
  decide +kernel

/-- **weights are positive**: the `EmptyCluster` guard (`nk.min() < 10ε` is an
error) leaves only components with mass `≥ thr > 0`. -/
theorem weights_pos (thr reg : α) (n d k : Nat) (x r : List (List α)) (p : Params α)
    (hthr : 0 < thr) (hn : 0 < n)
    (h : estimateParams thr reg n d k x r = .ok p) :
    ∀ w ∈ p.weights, 0 < w := by
  obtain ⟨hg, _, hw, _, _⟩ := estimateParams_ok h
  intro w hwm
  rw [hw, List.mem_map] at hwm
  obtain ⟨v, hv, rfl⟩ := hwm
  exact div_pos (lt_of_lt_of_le hthr (hg v hv)) (Nat.cast_pos.mpr hn)

/-- one mean per component, each coordinate inside the data's bounding box -/
theorem means_in_bbox (thr reg : α) (n d k : Nat) (x r : List (List α)) (p : Params α)
    (hthr : 0 < thr) (hr : ∀ i j, i < n → j < k → 0 ≤ at2 r i j)
    (h : estimateParams thr reg n d k x r = .ok p) :
    p.means.length = k ∧
    ∀ j c, j < k → c < d → ∀ lo hi : α, (∀ i, i < n → lo ≤ at2 x i c ∧ at2 x i c ≤ hi) →
      lo ≤ at2 p.means j c ∧ at2 p.means j c ≤ hi := by
  obtain ⟨_, _, _, hm, _⟩ := estimateParams_ok h
  refine ⟨by rw [hm, meansOf, List.length_map, List.length_range], ?_⟩
  intro j c hj hc lo hi hb
  rw [hm, meansOf_at hj hc, nkOf_getD hj]
  exact weighted_mean_bounds n (fun i => at2 r i j) (fun i => at2 x i c) lo hi
    (fun i hi' => hr i j hi' hj) (estimateParams_nk_pos hthr h hj) hb

/-- the covariance of component `j` as the model computes it -/
theorem covs_getD (thr reg : α) (n d k : Nat) (x r : List (List α)) (p : Params α)
    (h : estimateParams thr reg n d k x r = .ok p) (j : Nat) (hj : j < k) :
    p.covs.getD j [] = covOf n d x r j ((meansOf n d k x r (nkOf n k r)).getD j [])
      ((nkOf n k r).getD j 0) reg := by
  obtain ⟨_, _, _, _, hc⟩ := estimateParams_ok h
  rw [hc, getD_map_range _ hj]

/-- covariances are symmetric -/
theorem cov_symm (thr reg : α) (n d k : Nat) (x r : List (List α)) (p : Params α)
    (h : estimateParams thr reg n d k x r = .ok p) :
    ∀ j a b, j < k → a < d → b < d →
      at2 (p.covs.getD j []) a b = at2 (p.covs.getD j []) b a := by
  intro j a b hj ha hb
  rw [covs_getD thr reg n d k x r p h j hj]
  exact covOf_symm ha hb

/-- **covariances dominate the regularisation**: `vᵀ Σ_j v ≥ reg · |v|²` for every
vector `v` -/
theorem cov_pd (thr reg : α) (n d k : Nat) (x r : List (List α)) (p : Params α)
    (hthr : 0 < thr) (hr : ∀ i j, i < n → j < k → 0 ≤ at2 r i j)
    (h : estimateParams thr reg n d k x r = .ok p) :
    ∀ j, j < k → ∀ v : Nat → α,
      reg * sumRange d (fun a => v a ^ 2) ≤
        sumRange d (fun a => sumRange d fun b => v a * at2 (p.covs.getD j []) a b * v b) := by
  intro j hj v
  rw [covs_getD thr reg n d k x r p h j hj]
  simp only [sumRange_eq]
  apply covOf_quad_ge v (fun i hi => hr i j hi hj)
  rw [nkOf_getD hj]
  exact estimateParams_nk_pos hthr h hj

/-- with `reg > 0` the covariances are positive definite -/
theorem cov_pos_def (thr reg : α) (n d k : Nat) (x r : List (List α)) (p : Params α)
    (hthr : 0 < thr) (hreg : 0 < reg) (hr : ∀ i j, i < n → j < k → 0 ≤ at2 r i j)
    (h : estimateParams thr reg n d k x r = .ok p) :
    ∀ j, j < k → ∀ v : Nat → α, (∃ a, a < d ∧ v a ≠ 0) →
      0 < sumRange d (fun a => sumRange d fun b => v a * at2 (p.covs.getD j []) a b * v b) := by
  intro j hj v ⟨a, ha, hva⟩
  refine lt_of_lt_of_le (mul_pos hreg ?_) (cov_pd thr reg n d k x r p hthr hr h j hj v)
  rw [sumRange_eq]
  exact lt_of_lt_of_le (sq_pos_of_ne_zero hva)
    (Finset.single_le_sum (f := fun a => v a ^ 2) (fun i _ => sq_nonneg (v i)) (Finset.mem_range.mpr ha))

/-- the diagonal of every covariance includes the configured regularisation -/
theorem cov_diag_ge_reg (thr reg : α) (n d k : Nat) (x r : List (List α)) (p : Params α)
    (hthr : 0 < thr) (hr : ∀ i j, i < n → j < k → 0 ≤ at2 r i j)
    (h : estimateParams thr reg n d k x r = .ok p) :
    ∀ j a, j < k → a < d → reg ≤ at2 (p.covs.getD j []) a a := by
  intro j a hj ha
  rw [covs_getD thr reg n d k x r p h j hj]
  apply covOf_diag_ge ha (fun i hi => hr i j hi hj)
  rw [nkOf_getD hj]
  exact estimateParams_nk_pos hthr h hj

/-- an emptied component is an error, never a parameter set -/
theorem empty_cluster_is_error (thr reg : α) (n d k : Nat) (x r : List (List α))
    (j : Nat) (hj : j < k) (hempty : sumRange n (fun i => at2 r i j) < thr) :
    estimateParams thr reg n d k x r = .error "EmptyCluster" := by
  rw [estimateParams_eq, if_pos]
  refine List.any_eq_true.mpr ⟨_, nkOf_mem hj, decide_eq_true ?_⟩
  rw [← sumRange_eq]
  exact hempty

end mstep

/-- non-vacuity: three points on a line, two components, one-hot responsibilities -/
example : ∃ p : Params ℚ,
    estimateParams (1/100 : ℚ) (1/4) 3 1 2 [[0], [2], [10]] [[1, 0], [1, 0], [0, 1]] = .ok p ∧
    p.weights = [2/3, 1/3] ∧ p.means = [[1], [10]] ∧ p.covs = [[[5/4]], [[1/4]]] := by
  refine ⟨_, (estimateParams_eq ..).trans (if_neg ?_), ?_⟩
  · decide +kernel
  · decide +kernel

example : estimateParams (1/100 : ℚ) (1/4) 3 1 2 [[0], [2], [10]] [[1, 0], [1, 0], [1, 0]]
    = .error "EmptyCluster" :=
  empty_cluster_is_error _ _ 3 1 2 _ _ 1 (by decide) (by decide +kernel)

/-! ## The loop of `fit`: failure to converge or a failing step is an error

`fitOutcome tol maxIter nRuns tr` is the loop of `GmmValidParams::fit` (runs, iterations, convergence test,
choice of the best run, final `match`) on the chain of EM states; `tr[t]` is the outcome of step `t`
(`e_step` then `m_step` on state `t`): its lower bound, or the error it raised.  `.ok i` = `fit` returns
chain state `i`.  All `tol`, iteration and run counts, all chains. -/
section fitloop
variable {α : Type} [Field α] [LinearOrder α] [IsStrictOrderedRing α]

/-- **a returned model comes from a converged run, reached without any failed step**: if `fit` returns
state `i`, then `i ≥ 2`, the two steps that produced it are consecutive steps (of one run) whose lower
bounds differ by less than the tolerance, every step up to `i` succeeded, and `i` is within the budget
`n_runs · max_n_iterations`.  (State `i ≥ 1` is the output of an M-step, so the M-step theorems above
apply to it.) -/
theorem fit_ok_converged (tol : α) (maxIter nRuns : Nat) (tr : List (Except String α)) (i : Nat)
    (h : fitOutcome tol maxIter nRuns tr = .ok i) :
    2 ≤ i ∧ i ≤ nRuns * maxIter ∧
    (∃ p v, tr[i - 2]? = some (.ok p) ∧ tr[i - 1]? = some (.ok v) ∧ |v - p| < tol) ∧
    ∀ t, t < i → ∃ v, tr[t]? = some (.ok v) := by
  rw [fitOutcome] at h
  split at h
  · cases h
  · rename_i b posEnd hr
    have hinv0 : BestInv tol tr 0 (⟨none, none, none⟩ : Best α) :=
      ⟨fun _ h => (nomatch h), fun _ h => (nomatch h), fun _ _ h => (nomatch h)⟩
    obtain ⟨_, h2, h3, _, g2, g3⟩ :=
      fitRuns_ok tol maxIter tr nRuns 0 _ b posEnd (fun t _ ht => by omega) hinv0 hr
    split at h
    · rename_i it hbi
      split at h
      · rename_i j hbb
        obtain rfl := Except.ok.inj h
        obtain ⟨c1, conv⟩ := g3 j it hbb hbi
        have hj := g2 j hbb
        exact ⟨c1, by omega, conv, fun t ht => h3 t (Nat.zero_le _) (by omega)⟩
      · cases h
    · cases h

/-- **failure to converge is an error**: on a chain whose consecutive lower bounds never come within the
tolerance, `fit` returns no model, whatever the numbers of runs and iterations -/
theorem never_converged_is_error (tol : α) (maxIter nRuns : Nat) (tr : List (Except String α))
    (hfar : ∀ t p v, tr[t]? = some (.ok p) → tr[t + 1]? = some (.ok v) → tol ≤ |v - p|) :
    ∀ i, fitOutcome tol maxIter nRuns tr ≠ .ok i := by
  intro i h
  obtain ⟨h2, _, ⟨p, v, c2, c3, c4⟩, _⟩ := fit_ok_converged tol maxIter nRuns tr i h
  have : i - 2 + 1 = i - 1 := by omega
  have := hfar (i - 2) p v c2 (by rw [this]; exact c3)
  exact absurd c4 (not_lt.mpr this)

/-- **a failing step is an error** (emptied component, failed Cholesky): a run that meets a failed step
ends with that error … -/
theorem step_error_ends_run (tol : α) (tr : List (Except String α)) (fuel iter pos : Nat)
    (prev : Option α) (e : String) (h : tr[pos]? = some (.error e)) :
    runLoop tol tr (fuel + 1) iter pos prev = .error e := by
  unfold runLoop
  rw [h]

/-- … and the error of a run is the result of `fit` (no later run, no earlier accepted run hides it) -/
theorem run_error_is_fit_error (tol : α) (maxIter : Nat) (tr : List (Except String α)) (runs pos : Nat)
    (b : Best α) (e : String) (h : runLoop tol tr maxIter 0 pos none = .error e) :
    fitRuns tol maxIter tr (runs + 1) pos b = .error e := by
  unfold fitRuns
  rw [h]

/-- in particular: the very first step failing makes `fit` fail with that error -/
theorem first_step_error_is_fit_error (tol : α) (maxIter nRuns : Nat) (tr : List (Except String α))
    (e : String) (h : tr[0]? = some (.error e)) :
    fitOutcome tol (maxIter + 1) (nRuns + 1) tr = .error e := by
  unfold fitOutcome
  rw [run_error_is_fit_error tol (maxIter + 1) tr nRuns 0 _ e (step_error_ends_run tol tr maxIter 0 0 none e h)]

end fitloop

/-- non-vacuity: a chain that converges at its third step (|21/20 − 1| < 1/10): state 3 is returned -/
example : fitOutcome (1/10 : ℚ) 5 1 [.ok 0, .ok 1, .ok (21/20)] = .ok 3 := by
  decide +kernel
/-- two runs of two iterations: the first does not converge, the second (continuing the chain) does -/
example : fitOutcome (1/10 : ℚ) 2 2 [.ok 0, .ok 1, .ok (21/20), .ok (21/20)] = .ok 4 := by
  decide +kernel
/-- the budget runs out before the bounds settle: `NotConverged` -/
example : fitOutcome (1/10 : ℚ) 3 1 [.ok 0, .ok 1, .ok 2] = .error "NotConverged" := by
  decide +kernel
/-- the hypothesis of `never_converged_is_error` is satisfiable -/
example : ∀ t p v, ([.ok 0, .ok 1, .ok 2] : List (Except String ℚ))[t]? = some (.ok p) →
    ([.ok 0, .ok 1, .ok 2] : List (Except String ℚ))[t + 1]? = some (.ok v) → (1/10 : ℚ) ≤ |v - p| := by
  intro t p v h1 h2
  match t with
  | 0 => cases h1; cases h2; decide +kernel
  | 1 => cases h1; cases h2; decide +kernel
  | n + 2 => cases h2
/-- an emptied component in the second step: the error is the result -/
example : fitOutcome (1/10 : ℚ) 5 2 [.ok 0, .error "EmptyCluster"] = .error "EmptyCluster" := by
  decide +kernel


/-! ## The whole of `fit`: the returned model is a valid mixture from a converged run

`fitFull step tol maxIter nRuns fuel s₀` is `GmmValidParams::fit` after `GaussianMixtureModel::new`: the loop
`fitOutcome` run on the chain of states `chainFrom` generates with `step` from the initial state `s₀` — the
function the driver evaluates for the op `fitfull` with `step = emStepFull` (the methods `e_step`, `m_step`
incl. the Cholesky factorisation).  These theorems join the loop theorems (about an abstract trace) to the
EM iteration: trace entry `t` IS the lower bound `e_step` reports for state `t`, state `t+1` IS the output of
`m_step` on it. -/
section fitfull
variable {α : Type} [Field α] [LinearOrder α] [IsStrictOrderedRing α]

/-- **what `fit` returns**, for every step function, initial state, tolerance, run / iteration count and
fuel: chain state `i ≥ 2`, reached by two consecutive successful steps `a → b → s` whose lower bounds (the
values the steps themselves report) differ by less than the tolerance -/
theorem fitFull_returns_converged_step_output {σ : Type} (step : σ → Except String (α × σ)) (tol : α)
    (maxIter nRuns fuel : Nat) (s0 s : σ) (i : Nat)
    (h : fitFull step tol maxIter nRuns fuel s0 = .ok (i, s)) :
    2 ≤ i ∧ i ≤ nRuns * maxIter ∧
    ∃ a b lbA lbB, (chainFrom step fuel s0).2[i - 2]? = some a ∧ (chainFrom step fuel s0).2[i - 1]? = some b ∧
      step a = .ok (lbA, b) ∧ step b = .ok (lbB, s) ∧ |lbB - lbA| < tol := by
  unfold fitFull at h
  dsimp only at h
  split at h
  · cases h
  · rename_i j ho
    split at h
    · rename_i s' hs
      obtain ⟨rfl, rfl⟩ := Prod.mk.inj (Except.ok.inj h)
      obtain ⟨h2, hb, ⟨p, v, c1, c2, c3⟩, _⟩ := fit_ok_converged tol maxIter nRuns _ j ho
      -- the last two states of the chain and the steps between them
      obtain ⟨b, lbB, hb1, hb2, hb3⟩ := chainFrom_succ step fuel s0 (j - 1) s'
        (by rwa [Nat.sub_add_cancel (by omega)])
      obtain ⟨a, lbA, ha1, ha2, ha3⟩ := chainFrom_succ step fuel s0 (j - 2) b
        (by rwa [show j - 2 + 1 = j - 1 by omega])
      rw [c2] at hb3
      rw [c1] at ha3
      cases hb3
      cases ha3
      exact ⟨h2, hb, a, b, p, v, ha1, hb1, ha2, hb2, c3⟩
    · cases h

/-- a step that fails is the result of `fit`: if the first step from the initial state raises an error
(emptied component, failed factorisation), `fit` returns that error, for every later behaviour -/
theorem fitFull_first_step_error {σ : Type} (step : σ → Except String (α × σ)) (tol : α)
    (maxIter nRuns fuel : Nat) (s0 : σ) (e : String) (h : step s0 = .error e) :
    fitFull step tol (maxIter + 1) (nRuns + 1) (fuel + 1) s0 = .error e := by
  unfold fitFull
  rw [chainFrom_error step fuel s0 e h]
  dsimp only
  rw [first_step_error_is_fit_error tol maxIter nRuns [.error e] e rfl]

end fitfull

/-- non-vacuity: a step function on ℚ-states that halves the distance to 1 and reports the state as its
lower bound: `fit` with tolerance 1/10 returns the state after the fifth step -/
example : fitFull (fun s : ℚ => .ok (s, (s + 1) / 2)) (1/10 : ℚ) 10 1 10 0 = .ok (5, 31/32) := by
  decide +kernel
/-- an error in the first step is the result -/
example : fitFull (fun _ : ℚ => (.error "EmptyCluster" : Except String (ℚ × ℚ))) (1/10 : ℚ) 10 1 10 0
    = .error "EmptyCluster" :=
  fitFull_first_step_error _ _ 9 0 9 0 "EmptyCluster" rfl

theorem weightedLogProb_ne_nil (ln2pi : ℝ) (d : Nat) (w : List ℝ) (mu : List (List ℝ))
    (pcs : List (List (List ℝ))) (x : List ℝ) (hk : w ≠ []) :
    weightedLogProb ln2pi d w mu pcs x ≠ [] := by
  simpa [weightedLogProb] using hk

/-- responsibilities of an E-step row (`exp(log_resp)`) sum to one — with
`resp_row_pos` the hypotheses of the M-step theorems above -/
theorem resp_row_sum_one (wlp : List ℝ) (hl : wlp ≠ []) :
    sumS ((logRespStable wlp).2.map Transc.exp) = 1 := by
  rw [sumS_eq_sum, logRespStable_snd]
  exact softmax_sum _ (mt List.map_eq_nil_iff.mp hl)

theorem resp_row_pos (wlp : List ℝ) : ∀ p ∈ (logRespStable wlp).2.map Transc.exp, 0 < p := by
  intro p hp
  obtain ⟨y, _, rfl⟩ := List.mem_map.mp hp
  exact Real.exp_pos y

/-- **membership probabilities sum to one**, for every mixture with at least one
component, every observation (near or far — over ℝ there is no underflow) -/
theorem proba_sum_one (ln2pi : ℝ) (d : Nat) (w : List ℝ) (mu : List (List ℝ))
    (pcs : List (List (List ℝ))) (x : List ℝ) (hk : w ≠ []) :
    sumS (predictProba ln2pi d w mu pcs x) = 1 :=
  resp_row_sum_one _ (weightedLogProb_ne_nil ln2pi d w mu pcs x hk)

/-- probabilities are positive, one per component -/
theorem proba_nonneg (ln2pi : ℝ) (d : Nat) (w : List ℝ) (mu : List (List ℝ))
    (pcs : List (List (List ℝ))) (x : List ℝ) :
    (predictProba ln2pi d w mu pcs x).length = w.length ∧
    ∀ p ∈ predictProba ln2pi d w mu pcs x, 0 < p := by
  refine ⟨?_, resp_row_pos _⟩
  unfold predictProba logRespStable weightedLogProb
  simp

/-- `argmax` in general: valid index, entry maximal (any linear order, any non-empty row) -/
theorem argmaxFirst_is_max {α : Type} [LinearOrder α] [OfNat α 0] (l : List α) (hl : l ≠ []) :
    ∃ m, l[argmaxFirst l]? = some m ∧ ∀ v ∈ l, v ≤ m :=
  ⟨_, argmaxFirst_rowMax l hl⟩

example : argmaxFirst [(1 : Nat), 5, 3, 5] = 1 := by decide

/-- **the predicted component is one of maximal probability** -/
theorem predict_is_argmax (ln2pi : ℝ) (d : Nat) (w : List ℝ) (mu : List (List ℝ))
    (pcs : List (List (List ℝ))) (x : List ℝ) (hk : w ≠ []) :
    ∃ m, (predictProba ln2pi d w mu pcs x)[predict ln2pi d w mu pcs x]? = some m ∧
      ∀ p ∈ predictProba ln2pi d w mu pcs x, p ≤ m := by
  unfold predict
  apply argmaxFirst_is_max
  intro h
  have h1 := (proba_nonneg ln2pi d w mu pcs x).1
  rw [h] at h1
  exact hk (List.length_eq_zero_iff.mp h1.symm)


/-- **the repaired log-sum-exp is the naive one over ℝ**: same normaliser, same
log-responsibilities — the repair changes nothing but the floating-point range -/
theorem stable_eq_naive (wlp : List ℝ) (hl : wlp ≠ []) :
    logRespStable wlp = logRespNaive wlp := by
  have hshift := lse_shift wlp hl (rowMax wlp)
  unfold logRespStable logRespNaive
  simp only [sumS_eq_sum, transc_ln]
  have hmap : ∀ l : List ℝ, l.map Transc.exp = l.map Real.exp := fun l => rfl
  rw [hmap, hmap]
  refine Prod.ext hshift ?_
  rw [← hshift]
  show List.map _ (List.map _ wlp) = List.map _ wlp
  rw [List.map_map]
  apply List.map_congr_left
  intro v _
  simp only [Function.comp]
  ring

/-- **why the repaired form cannot underflow**: in any ordered field with an
`exp` that is non-negative, `exp 0 = 1` and `exp x ≤ 1` for `x ≤ 0` (true of IEEE
`exp` as well), the normaliser `Σ exp(wlp − max)` lies in `[1, k]`; its logarithm
is therefore finite, however far the observation is from every component. -/
theorem lse_stable_finite {α : Type} [Field α] [LinearOrder α] [IsStrictOrderedRing α] [Transc α]
    (hexp0 : Transc.exp (0 : α) = 1) (hnn : ∀ x : α, 0 ≤ Transc.exp x)
    (hle : ∀ x : α, x ≤ 0 → Transc.exp x ≤ 1) (wlp : List α) (hl : wlp ≠ []) :
    1 ≤ sumS ((wlp.map fun v => v - rowMax wlp).map Transc.exp) ∧
    sumS ((wlp.map fun v => v - rowMax wlp).map Transc.exp) ≤ (wlp.length : α) := by
  obtain ⟨hmem, hmax⟩ := rowMax_spec wlp hl
  rw [sumS_eq_sum, List.map_map]
  constructor
  · -- the entry at the maximum contributes `exp 0 = 1`, the others are non-negative
    have h2 : Transc.exp (rowMax wlp - rowMax wlp) ≤ _ :=
      List.single_le_sum (l := wlp.map (Transc.exp ∘ fun v => v - rowMax wlp))
        (fun y hy => by obtain ⟨z, _, rfl⟩ := List.mem_map.mp hy; exact hnn _) _
        (List.mem_map.mpr ⟨_, hmem, rfl⟩)
    rwa [sub_self, hexp0] at h2
  · -- every entry is `exp` of something `≤ 0`
    have h2 := List.sum_le_card_nsmul (wlp.map (Transc.exp ∘ fun v => v - rowMax wlp)) (1 : α)
      (fun y hy => by
        obtain ⟨z, hz, rfl⟩ := List.mem_map.mp hy
        exact hle _ (sub_nonpos.mpr (hmax z hz)))
    rwa [List.length_map, nsmul_eq_mul, mul_one] at h2

/-- non-vacuity of the hypotheses of `lse_stable_finite`: the real exponential -/
example : (Transc.exp (0 : ℝ) = 1) ∧ (∀ x : ℝ, 0 ≤ Transc.exp x) ∧ (∀ x : ℝ, x ≤ 0 → Transc.exp x ≤ 1) :=
  ⟨Real.exp_zero, fun x => (Real.exp_pos x).le, fun _ hx => Real.exp_le_one_iff.mpr hx⟩

/-- non-vacuity: a two-component mixture in one dimension, a query 100 σ away -/
example : sumS (predictProba (1 : ℝ) 1 [2/3, 1/3] [[7], [-14]] [[[4]], [[4]]] [-1000]) = 1 :=
  proba_sum_one 1 1 [2/3, 1/3] [[7], [-14]] [[[4]], [[4]]] [-1000] (by simp)


/-! ## One EM iteration keeps the mixture valid

`emStep` = `e_step` on the current mixture followed by `m_step` on `exp(log_resp)`: whatever the current
parameters are (any weights list with at least one component, any means, any `precisions_chol`), the
parameters after the iteration are a valid mixture or the iteration is an error.  With `fit_ok_converged`
(a returned model is chain state `i ≥ 2`, i.e. the result of such an iteration) this is the statement for
every model `fit` returns, for all data, configurations and iteration counts. -/

theorem range_map_getD {α : Type} [OfNat α 0] (l : List α) :
    (List.range l.length).map (fun j => l.getD j 0) = l :=
  (map_getD_range (fun x => x) l 0).trans (List.map_id' l)

theorem eResp_row (ln2pi : ℝ) (d : Nat) (w : List ℝ) (mu : List (List ℝ))
    (pcs : List (List (List ℝ))) (x : List (List ℝ)) (i : Nat) (hi : i < x.length) :
    (eResp ln2pi d w mu pcs x).getD i [] = predictProba ln2pi d w mu pcs (x[i]) := by
  simp [eResp, List.getD_eq_getElem?_getD, hi]

/-- the responsibilities of an E-step: every row sums to one … -/
theorem eResp_row_sum (ln2pi : ℝ) (d : Nat) (w : List ℝ) (mu : List (List ℝ))
    (pcs : List (List (List ℝ))) (x : List (List ℝ)) (hk : w ≠ []) :
    ∀ i, i < x.length → sumRange w.length (fun j => at2 (eResp ln2pi d w mu pcs x) i j) = 1 := by
  intro i hi
  have hlen := (proba_nonneg ln2pi d w mu pcs (x[i])).1
  unfold sumRange at2
  rw [eResp_row ln2pi d w mu pcs x i hi, ← hlen, range_map_getD]
  exact proba_sum_one ln2pi d w mu pcs (x[i]) hk

/-- … and every entry is non-negative -/
theorem eResp_nonneg (ln2pi : ℝ) (d : Nat) (w : List ℝ) (mu : List (List ℝ))
    (pcs : List (List (List ℝ))) (x : List (List ℝ)) :
    ∀ i j, i < x.length → j < w.length → 0 ≤ at2 (eResp ln2pi d w mu pcs x) i j := by
  intro i j hi hj
  obtain ⟨hlen, hpos⟩ := proba_nonneg ln2pi d w mu pcs (x[i])
  unfold at2
  rw [eResp_row ln2pi d w mu pcs x i hi]
  have hj' : j < (predictProba ln2pi d w mu pcs (x[i])).length := by rw [hlen]; exact hj
  rw [List.getD_eq_getElem?_getD, List.getElem?_eq_getElem hj']
  exact le_of_lt (hpos _ (List.getElem_mem hj'))

/-- **the valid-mixture invariant is inductive over EM iterations**: after `e_step; m_step` from ANY
mixture, the weights are positive and sum to one, there is one mean per component inside the bounding
box, and every covariance is symmetric with `vᵀΣv ≥ reg·|v|²` and diagonal `≥ reg` -/
theorem em_step_valid (thr reg ln2pi : ℝ) (d : Nat) (w : List ℝ) (mu : List (List ℝ))
    (pcs : List (List (List ℝ))) (x : List (List ℝ)) (p : Params ℝ)
    (hk : w ≠ []) (hn : 0 < x.length) (hthr : 0 < thr)
    (h : emStep thr reg ln2pi d w mu pcs x = .ok p) :
    sumS p.weights = 1 ∧ (∀ v ∈ p.weights, 0 < v) ∧ p.means.length = w.length ∧
    (∀ j c, j < w.length → c < d → ∀ lo hi : ℝ,
      (∀ i, i < x.length → lo ≤ at2 x i c ∧ at2 x i c ≤ hi) →
        lo ≤ at2 p.means j c ∧ at2 p.means j c ≤ hi) ∧
    (∀ j a b, j < w.length → a < d → b < d →
      at2 (p.covs.getD j []) a b = at2 (p.covs.getD j []) b a) ∧
    (∀ j, j < w.length → ∀ v : Nat → ℝ, reg * sumRange d (fun a => v a ^ 2) ≤
      sumRange d (fun a => sumRange d fun b => v a * at2 (p.covs.getD j []) a b * v b)) ∧
    (∀ j a, j < w.length → a < d → reg ≤ at2 (p.covs.getD j []) a a) := by
  unfold emStep at h
  have hrow := eResp_row_sum ln2pi d w mu pcs x hk
  have hnn := eResp_nonneg ln2pi d w mu pcs x
  obtain ⟨hm1, hm2⟩ := means_in_bbox thr reg x.length d w.length x _ p hthr hnn h
  exact ⟨weights_sum_one thr reg x.length d w.length x _ p hn hrow h,
    weights_pos thr reg x.length d w.length x _ p hthr hn h, hm1, hm2,
    cov_symm thr reg x.length d w.length x _ p h,
    cov_pd thr reg x.length d w.length x _ p hthr hnn h,
    cov_diag_ge_reg thr reg x.length d w.length x _ p hthr hnn h⟩

/-- non-vacuity of `em_step_valid`'s hypotheses other than the guard: rows of an E-step on two
observations under a two-component mixture sum to one (so an `emStep` has well-formed input) -/
example : ∀ i, i < 2 → sumRange 2 (fun j => at2 (eResp (1 : ℝ) 1 [2/3, 1/3] [[7], [-14]] [[[4]], [[4]]] [[0], [3]]) i j) = 1 :=
  eResp_row_sum 1 1 [2/3, 1/3] [[7], [-14]] [[[4]], [[4]]] [[0], [3]] (by simp)

/-! ## End to end: every model `fit` returns is a valid mixture

`emStepFull` is the body of `fit`'s loop as the driver runs it (`e_step`, `m_step` incl. the Cholesky
factorisation of the new covariances); `fitFull (emStepFull …)` is `fit` after `new`. -/

/-- the responsibilities the method `e_step` hands over are the E-step matrix `eResp` -/
theorem eStepFull_snd (ln2pi : ℝ) (d : Nat) (s : State ℝ) (x : List (List ℝ)) :
    (eStepFull ln2pi d s x).2 = eResp ln2pi d s.weights s.means s.pcs x := by
  simp [eStepFull, eResp, predictProba, List.map_map, Function.comp_def]

/-- a successful `emStepFull` is a successful model M-step `emStep` (the function `em_step_valid` is about)
whose covariances all passed the Cholesky step; the lower bound is the one `e_step` reports -/
theorem emStepFull_ok (thr reg ln2pi : ℝ) (d : Nat) (x : List (List ℝ)) (a b : State ℝ) (lb : ℝ)
    (h : emStepFull thr reg ln2pi d x a = .ok (lb, b)) :
    ∃ p, emStep thr reg ln2pi d a.weights a.means a.pcs x = .ok p ∧
      b.weights = p.weights ∧ b.means = p.means ∧ b.covs = p.covs ∧
      precCholAll d b.covs = .ok b.pcs ∧ lb = (eStepFull ln2pi d a x).1 := by
  unfold emStepFull mStepFull at h
  dsimp only at h
  rw [eStepFull_snd] at h
  unfold emStep
  cases hp : estimateParams thr reg x.length d a.weights.length x (eResp ln2pi d a.weights a.means a.pcs x) with
  | error e => rw [hp] at h; simp at h
  | ok p =>
    rw [hp] at h
    dsimp only at h
    cases hc : precCholAll d p.covs with
    | error e => rw [hc] at h; simp at h
    | ok pcs =>
      rw [hc] at h
      simp only [Except.ok.injEq, Prod.mk.injEq] at h
      obtain ⟨rfl, rfl⟩ := h
      exact ⟨p, rfl, rfl, rfl, rfl, hc, rfl⟩

/-- an EM iteration keeps the number of components -/
theorem emStepFull_weights_length (thr reg ln2pi : ℝ) (d : Nat) (x : List (List ℝ)) (a b : State ℝ) (lb : ℝ)
    (h : emStepFull thr reg ln2pi d x a = .ok (lb, b)) : b.weights.length = a.weights.length := by
  obtain ⟨p, hp, hw, _⟩ := emStepFull_ok thr reg ln2pi d x a b lb h
  unfold emStep at hp
  obtain ⟨_, _, hw', _, _⟩ := estimateParams_ok hp
  rw [hw, hw']
  simp [nkOf]

/-- **every model `fit` returns is a valid mixture from a converged run** — for all records, initial states
(whatever `new` produced, with at least one component), regularisation values, tolerances, run and iteration
counts: the returned state has as many components as the initial one, weights positive and summing to one,
means inside the bounding box of the records, covariances symmetric with `vᵀΣv ≥ reg·|v|²` and diagonal
`≥ reg`, a `precisions_chol` that is the accepted Cholesky-and-solve result of exactly those covariances,
and it was reached by two consecutive successful EM iterations `a → b → s` whose lower bounds (the means
of `log_prob_norm` that `e_step` reports for `a` and for `b`) differ by less than the tolerance. -/
theorem fit_returns_valid_mixture (thr reg ln2pi tol : ℝ) (d maxIter nRuns fuel : Nat)
    (x : List (List ℝ)) (s0 s : State ℝ) (i : Nat)
    (hk : s0.weights ≠ []) (hn : 0 < x.length) (hthr : 0 < thr)
    (h : fitFull (emStepFull thr reg ln2pi d x) tol maxIter nRuns fuel s0 = .ok (i, s)) :
    s.weights.length = s0.weights.length ∧
    sumS s.weights = 1 ∧ (∀ v ∈ s.weights, 0 < v) ∧ s.means.length = s0.weights.length ∧
    (∀ j c, j < s0.weights.length → c < d → ∀ lo hi : ℝ,
      (∀ r, r < x.length → lo ≤ at2 x r c ∧ at2 x r c ≤ hi) →
        lo ≤ at2 s.means j c ∧ at2 s.means j c ≤ hi) ∧
    (∀ j a b, j < s0.weights.length → a < d → b < d →
      at2 (s.covs.getD j []) a b = at2 (s.covs.getD j []) b a) ∧
    (∀ j, j < s0.weights.length → ∀ v : Nat → ℝ, reg * sumRange d (fun a => v a ^ 2) ≤
      sumRange d (fun a => sumRange d fun b => v a * at2 (s.covs.getD j []) a b * v b)) ∧
    (∀ j a, j < s0.weights.length → a < d → reg ≤ at2 (s.covs.getD j []) a a) ∧
    precCholAll d s.covs = .ok s.pcs ∧
    (2 ≤ i ∧ i ≤ nRuns * maxIter ∧ ∃ a b : State ℝ,
      emStepFull thr reg ln2pi d x a = .ok ((eStepFull ln2pi d a x).1, b) ∧
      emStepFull thr reg ln2pi d x b = .ok ((eStepFull ln2pi d b x).1, s) ∧
      |(eStepFull ln2pi d b x).1 - (eStepFull ln2pi d a x).1| < tol) := by
  obtain ⟨h2, hb, a, b, lbA, lbB, ha1, hb1, ha2, hb2, hconv⟩ :=
    fitFull_returns_converged_step_output _ tol maxIter nRuns fuel s0 s i h
  -- the number of components is an invariant of the chain
  have hinv := chainFrom_inv (emStepFull thr reg ln2pi d x) (fun st => st.weights.length = s0.weights.length)
    fuel s0 rfl (fun a' lb' b' ha' hs' => by
      rw [emStepFull_weights_length thr reg ln2pi d x a' b' lb' hs']; exact ha')
  have hbK : b.weights.length = s0.weights.length := hinv _ b hb1
  have hbne : b.weights ≠ [] := fun hnil =>
    hk (List.length_eq_zero_iff.mp (hbK.symm.trans (congrArg List.length hnil)))
  obtain ⟨p, hp, hw, hm, hc, hpc, hlbB⟩ := emStepFull_ok thr reg ln2pi d x b s lbB hb2
  obtain ⟨_, _, _, _, _, _, hlbA⟩ := emStepFull_ok thr reg ln2pi d x a b lbA ha2
  have hv := em_step_valid thr reg ln2pi d b.weights b.means b.pcs x p hbne hn hthr hp
  rw [← hw, ← hm, ← hc, hbK] at hv
  obtain ⟨v1, v2, v3, v4, v5, v6, v7⟩ := hv
  subst hlbA hlbB
  exact ⟨by rw [emStepFull_weights_length thr reg ln2pi d x b s _ hb2, hbK],
    v1, v2, v3, v4, v5, v6, v7, hpc, h2, hb, a, b, ha2, hb2, hconv⟩

/-! ## Precisions

`precisions = C Cᵀ` of `precisions_chol = C` is the inverse of the covariance under the contract of the two
`linfa-linalg` calls; for a fitted model the contract is a hypothesis about the modelled factorisation,
proved here for one feature. -/

/-- **precisions are the inverses of the covariances**, under the contract of the
two `linfa-linalg` calls of `compute_precisions_cholesky_full`: `L = cholesky(Σ)`
with `L Lᵀ = Σ`, `sol = solve_triangular(L, I)` with `L·sol = I`, and
`precisions_chol = solᵀ`.  Then `precisions = C Cᵀ` (`precisionsFull`) satisfies
`P Σ = Σ P = I`. -/
theorem precision_is_inverse {α : Type} [Field α] (d : Nat) (pc : List (List α))
    (L sol Sig : Matrix (Fin d) (Fin d) α)
    (hchol : L * L.transpose = Sig) (hsolve : L * sol = 1) (hpc : toMat d pc = sol.transpose) :
    toMat d (precisionsFull d pc) * Sig = 1 ∧ Sig * toMat d (precisionsFull d pc) = 1 := by
  have hsl : sol * L = 1 := mul_eq_one_comm.mp hsolve
  have h1 : toMat d (precisionsFull d pc) * Sig = 1 := by
    rw [precisionsFull_toMat, hpc, ← hchol, Matrix.transpose_transpose]
    calc sol.transpose * sol * (L * L.transpose)
        = sol.transpose * ((sol * L) * L.transpose) := by simp only [Matrix.mul_assoc]
      _ = sol.transpose * L.transpose := by rw [hsl, Matrix.one_mul]
      _ = (L * sol).transpose := by rw [Matrix.transpose_mul]
      _ = 1 := by rw [hsolve, Matrix.transpose_one]
  exact ⟨h1, mul_eq_one_comm.mp h1⟩

/-- non-vacuity: `Σ = [[4]]`, `L = [[2]]`, `sol = [[1/2]]`, `precisions_chol = [[1/2]]` -/
example : toMat 1 (precisionsFull 1 [[(1/2 : ℚ)]]) * (Matrix.of fun _ _ => (4 : ℚ)) = 1 := by
  refine (precision_is_inverse 1 [[(1/2 : ℚ)]] (Matrix.of fun _ _ => 2) (Matrix.of fun _ _ => 1/2)
    (Matrix.of fun _ _ => 4) ?_ ?_ ?_).1
  · decide +kernel
  · decide +kernel
  · decide +kernel

/-- the accepted factor of every component: `precCholAll` succeeds exactly when `precCholOf` (Cholesky, then
forward substitution against the identity, transposed) succeeds on every covariance, component by component -/
theorem precCholAll_getD {α : Type} [Field α] [LinearOrder α] [Transc α] (d : Nat) :
    ∀ (covs pcs : List (List (List α))), precCholAll d covs = .ok pcs →
      pcs.length = covs.length ∧ ∀ j, j < covs.length → precCholOf d (covs.getD j []) = .ok (pcs.getD j []) := by
  intro covs
  induction covs with
  | nil => intro pcs h; cases h; exact ⟨rfl, fun j hj => absurd hj (Nat.not_lt_zero j)⟩
  | cons c cs ih =>
    intro pcs h
    rw [precCholAll] at h
    split at h
    · cases h
    · rename_i pc hc
      split at h
      · cases h
      · rename_i rest hr
        cases h
        obtain ⟨hl, hg⟩ := ih rest hr
        refine ⟨congrArg (· + 1) hl, fun j hj => ?_⟩
        cases j with
        | zero => exact hc
        | succ j => exact hg j (Nat.lt_of_succ_lt_succ hj)

/-- **precisions of a returned model are the inverses of its covariances**, component by component, under
the contract of the modelled factorisation for the covariance at hand (`C = precCholOf Σ` satisfies
`C Cᵀ Σ = 1`; proved below for one feature, validated by the oracle on every fitted model otherwise) -/
theorem fitted_precision_is_inverse (d : Nat) (covs pcs : List (List (List ℝ))) (j : Nat)
    (hall : precCholAll d covs = .ok pcs) (hj : j < covs.length)
    (hcontract : ∀ C, precCholOf d (covs.getD j []) = .ok C →
      toMat d C * (toMat d C).transpose * toMat d (covs.getD j []) = 1) :
    toMat d (precisionsFull d (pcs.getD j [])) * toMat d (covs.getD j []) = 1 ∧
    toMat d (covs.getD j []) * toMat d (precisionsFull d (pcs.getD j [])) = 1 := by
  obtain ⟨_, hg⟩ := precCholAll_getD d covs pcs hall
  have h1 : toMat d (precisionsFull d (pcs.getD j [])) * toMat d (covs.getD j []) = 1 := by
    rw [precisionsFull_toMat]
    exact hcontract _ (hg j hj)
  exact ⟨h1, mul_eq_one_comm.mp h1⟩

/-- **the contract of the modelled factorisation holds for one feature**: whenever `precCholOf` accepts a
1×1 covariance `[[a]]` (i.e. `a > 0`), its result `C = [[1/√a]]` satisfies `C Cᵀ Σ = 1` — no hypothesis.
(For `d > 1` the contract `L Lᵀ = Σ` of the Cholesky recursion is not proved; see the notes.) -/
theorem chol_contract_one_feature (cov C : List (List ℝ)) (h : precCholOf 1 cov = .ok C) :
    toMat 1 C * (toMat 1 C).transpose * toMat 1 cov = 1 := by
  rw [precCholOf_one] at h
  split at h
  · cases h
  · rename_i ha
    cases h
    have hpos : 0 < at2 cov 0 0 := not_le.mp ha
    ext a b
    rw [Subsingleton.elim a 0, Subsingleton.elim b 0]
    simp only [Matrix.mul_apply, Matrix.transpose_apply, Fin.sum_univ_one, toMat_apply, Matrix.one_apply_eq]
    show 1 / Real.sqrt (at2 cov 0 0) * (1 / Real.sqrt (at2 cov 0 0)) * at2 cov 0 0 = 1
    rw [div_mul_div_comm, one_mul, Real.mul_self_sqrt hpos.le, one_div, inv_mul_cancel₀ hpos.ne']

/-- hence, with one feature, the precisions of every model `fit` returns are the inverses of its
covariances (no contract hypothesis left) -/
theorem fitted_precision_is_inverse_one_feature (covs pcs : List (List (List ℝ))) (j : Nat)
    (hall : precCholAll 1 covs = .ok pcs) (hj : j < covs.length) :
    toMat 1 (precisionsFull 1 (pcs.getD j [])) * toMat 1 (covs.getD j []) = 1 ∧
    toMat 1 (covs.getD j []) * toMat 1 (precisionsFull 1 (pcs.getD j [])) = 1 :=
  fitted_precision_is_inverse 1 covs pcs j hall hj (fun C hC => chol_contract_one_feature _ C hC)

/-- non-vacuity: the factorisation accepts `[[4]]` and returns `[[1/2]]` -/
example : precCholAll 1 [[[(4 : ℝ)]]] = .ok [[[1/2]]] :=
  precCholAll_single 4 2 (by norm_num) (by norm_num)

/-- a fixed point of the EM iteration on the two records `0, 2` with one component and `reg = 3`:
`μ = 1`, `Σ = ((0−1)² + (2−1)²)/2 + 3 = 4`, `precisions_chol = 1/2` (Cholesky `√4 = 2`, forward substitution `1/2`) -/
noncomputable def sfix : State ℝ := ⟨[1], [[1]], [[[4]]], [[[1/2]]]⟩

theorem sfix_step : emStepFull (1/100 : ℝ) 3 0 1 [[0],[2]] sfix = .ok (-(1/8) + Real.log (1/2), sfix) := by
  have s1 : ∀ f : Nat → ℝ, sumRange 1 f = f 0 := fun f => by simp [sumRange_succ, sumRange_zero]
  have s2 : ∀ f : Nat → ℝ, sumRange 2 f = f 0 + f 1 := fun f => by simp [sumRange_succ, sumRange_zero]
  -- `e_step`: both records are at distance 1 from the mean
  have hE : eStepFull 0 1 sfix [[0],[2]] = (-(1/8) + Real.log (1/2), [[1],[1]]) := by
    simp only [eStepFull, weightedLogProb, maha, logDet, negHalf, sfix, s1, at2, List.length_cons,
      List.length_nil, Nat.zero_add, List.range_one, List.map_cons, List.map_nil, List.getD_cons_zero,
      logRespStable_singleton, sumS, List.foldl_cons, List.foldl_nil]
    norm_num
  -- `estimate_gaussian_parameters` on unit responsibilities
  have hM : estimateParams (1/100 : ℝ) 3 2 1 1 [[0],[2]] [[1],[1]] = .ok ⟨[2], [1], [[1]], [[[4]]]⟩ := by
    simp only [estimateParams, nkOf, meansOf, covOf, s2, at2, List.range_one, List.map_cons, List.map_nil,
      List.getD_cons_zero, List.getD_cons_succ, List.any_cons, List.any_nil]
    norm_num
  have hC : precCholAll 1 [[[(4 : ℝ)]]] = .ok [[[1/2]]] := precCholAll_single 4 2 (by norm_num) (by norm_num)
  have hx : ([[0],[2]] : List (List ℝ)).length = 2 := rfl
  have hw : sfix.weights.length = 1 := rfl
  simp only [emStepFull, mStepFull, hE, hx, hw, hM, hC]
  rfl

/-- non-vacuity of `fit_returns_valid_mixture` (and of `emStepFull_ok`): from the fixed point, `fit` (tolerance 1,
one run of three iterations) returns chain state 2, that very state, so the hypothesis `fitFull … = .ok (i, s)`
is satisfiable -/
example : fitFull (emStepFull (1/100 : ℝ) 3 0 1 [[0],[2]]) 1 3 1 3 sfix = .ok (2, sfix) := by
  have hc : chainFrom (emStepFull (1/100 : ℝ) 3 0 1 [[0],[2]]) 3 sfix
      = ([.ok (-(1/8) + Real.log (1/2)), .ok (-(1/8) + Real.log (1/2)), .ok (-(1/8) + Real.log (1/2))],
         [sfix, sfix, sfix, sfix]) := by
    simp only [chainFrom, sfix_step]
  unfold fitFull
  rw [hc]
  simp [fitOutcome, fitRuns, runLoop, convTest, lbGreater, absS]

/-- the contract hypothesis of `fitted_precision_is_inverse` holds for this model: `C Cᵀ Σ = (1/2)² · 4 = 1` -/
example : toMat 1 (precisionsFull 1 (sfix.pcs.getD 0 [])) * toMat 1 (sfix.covs.getD 0 []) = 1 := by
  obtain ⟨_, _, _, _, _, hall, _⟩ := emStepFull_ok _ _ _ _ _ sfix sfix _ sfix_step
  exact (fitted_precision_is_inverse_one_feature sfix.covs sfix.pcs 0 hall Nat.one_pos).1

end LinfaSpec.Props.C10
