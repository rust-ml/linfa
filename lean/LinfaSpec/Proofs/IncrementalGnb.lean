import LinfaSpec.Proofs.IncrementalNb

/-!
C15, Gaussian naive Bayes: the pooled update of mean and variance is exact (also when the stored
variance carries an offset, which is how `var_smoothing` travels through a history); one `fit_with`
call seen from one class (absent from the batch / new / already stored); hence what every class holds
after every history, for every `var_smoothing`; keys, counts and priors.
-/
namespace LinfaSpec.Incremental
open LinfaSpec


section Field
variable {α : Type} [Field α] [LinearOrder α] [IsStrictOrderedRing α]

/-! ### the pooled update of one column -/

def sumSq (l : List α) : α := sumS (l.map fun x => x * x)

section
-- the anonymous sections omit what their lemmas do not use of the enclosing section's scalar
omit [LinearOrder α] [IsStrictOrderedRing α]

theorem sumSq_append (a b : List α) : sumSq (a ++ b) = sumSq a + sumSq b := by
  simp only [sumSq, List.map_append, sumS_append]

end

theorem sum_sqdev (m : α) (l : List α) :
    sumS (l.map fun x => (x - m) * (x - m)) = sumSq l - 2 * m * sumS l + (l.length : α) * (m * m) := by
  induction l with
  | nil => simp [sumSq, sumS_nil]
  | cons x l ih =>
    simp only [List.map_cons, sumS_cons, sumSq, List.length_cons, Nat.cast_succ] at ih ⊢
    rw [ih]; ring

theorem varL_eq (l : List α) :
    varL l = (sumSq l - 2 * meanL l * sumS l + (l.length : α) * (meanL l * meanL l)) / (l.length : α) := by
  unfold varL
  rw [sum_sqdev]

/-- the pooled update of `update_mean_variance` is exact: merging the statistics of `xs` with a
new batch `ys` gives the statistics of `xs ++ ys` (no hypothesis: an empty side is the early return) -/
theorem gnbMerge_spec (xs ys : List α) :
    gnbMerge xs.length (meanL xs) (varL xs) ys = (meanL (xs ++ ys), varL (xs ++ ys)) := by
  unfold gnbMerge
  by_cases hy : ys.length = 0
  · obtain rfl := List.eq_nil_of_length_eq_zero hy
    simp
  · by_cases hx : xs.length = 0
    · obtain rfl := List.eq_nil_of_length_eq_zero hx
      simp [hy]
    · simp only [hy, hx, if_false]
      have hx' : (xs.length : α) ≠ 0 := Nat.cast_ne_zero.mpr hx
      have hy' : (ys.length : α) ≠ 0 := Nat.cast_ne_zero.mpr hy
      have hxy : ((xs.length : α) + (ys.length : α)) ≠ 0 := by
        rw [← Nat.cast_add]; exact Nat.cast_ne_zero.mpr (by omega)
      refine Prod.ext ?_ ?_
      · simp only [meanL_def, sumS_append, List.length_append, Nat.cast_add]
        field_simp
        ring
      · simp only [varL_eq, meanL_def, sumS_append, sumSq_append, List.length_append, Nat.cast_add,
          Nat.cast_mul]
        field_simp
        ring

theorem gnbMerge_zero (ys : List α) : gnbMerge 0 0 0 ys = (meanL ys, varL ys) := by
  simpa [meanL_nil, varL_nil] using gnbMerge_spec ([] : List α) ys

/-- pooled update when the stored variance carries an offset `d`: the offset survives with weight
`n_old / n_total` -/
theorem gnbMerge_shift (xs ys : List α) (d : α) (hx : xs ≠ []) (hy : ys ≠ []) :
    gnbMerge xs.length (meanL xs) (varL xs + d) ys =
      (meanL (xs ++ ys), varL (xs ++ ys) + d * (xs.length : α) / ((xs.length + ys.length : Nat) : α)) := by
  have hx0 : xs.length ≠ 0 := mt List.eq_nil_of_length_eq_zero hx
  have hy0 : ys.length ≠ 0 := mt List.eq_nil_of_length_eq_zero hy
  have h := gnbMerge_spec xs ys
  unfold gnbMerge at h ⊢
  simp only [hx0, hy0, if_false, Prod.mk.injEq] at h ⊢
  refine ⟨h.1, ?_⟩
  rw [← h.2, Nat.cast_add]
  ring

/-! ### one class, one feature column: the trajectory over a history of batches -/

/-- (count, mean, variance) of one class in one column after one more batch (`ys` = the class's
values in that batch, possibly none) -/
def gnbColStep (st : Nat × α × α) (ys : List α) : Nat × α × α :=
  (st.1 + ys.length, (gnbMerge st.1 st.2.1 st.2.2 ys).1, (gnbMerge st.1 st.2.1 st.2.2 ys).2)

theorem gnbColStep_history (hist : List (List α)) :
    hist.foldl gnbColStep (0, 0, 0) =
      (hist.flatten.length, meanL hist.flatten, varL hist.flatten) := by
  refine foldl_history gnbColStep (0, 0, 0)
    (fun past s => s = (past.flatten.length, meanL past.flatten, varL past.flatten))
    (by rw [List.flatten_nil, meanL_nil, varL_nil]; rfl) ?_ hist
  rintro past _ ys rfl
  simp only [gnbColStep, gnbMerge_spec, List.flatten_append, List.flatten_singleton, List.length_append]

/-! ### the class update on all columns -/

/-- what the property is about: count, means, variances (the prior is treated separately) -/
def gProj (i : GInfo α) : Nat × List α × List α := (i.count, i.theta, i.sigma)

/-- the update of one class inside the class loop -/
def gnbF (p : Nat) (b : Batch α) (k : Nat) (o : Option (GInfo α)) : GInfo α :=
  let info := o.getD GInfo.default
  let ts := gnbUpdateClass info (columns p (rowsOf k b))
  { info with theta := ts.1, sigma := ts.2, count := info.count + (rowsOf k b).length }

section
omit [LinearOrder α] [IsStrictOrderedRing α]

theorem gnbClassLoop_eq (p : Nat) (b : Batch α) (st : GState α) :
    gnbClassLoop p b st = (labelsOf b).foldl (fun s k => upsert k (gnbF p b k (lookup k s)) s) st := rfl

end

theorem gnbUpdateClass_fresh (info : GInfo α) (h : info.count = 0) (cols : List (List α)) :
    gnbUpdateClass info cols = (cols.map meanL, cols.map varL) := by
  simp [gnbUpdateClass, h, gnbMerge_zero]

section
omit [LinearOrder α] [IsStrictOrderedRing α]

/-- a class that has rows already: the update is `gnbMerge` column by column, so whatever `gnbMerge`
does to the statistics `μ`, `v` of each column it does to the vectors -/
theorem gnbUpdateClass_columns (p : Nat) (pr : α) (r1 r2 : List (List α)) (h1 : r1 ≠ [])
    (μ v μ' v' : List α → α)
    (h : ∀ j, gnbMerge r1.length (μ (column j r1)) (v (column j r1)) (column j r2) =
      (μ' (column j (r1 ++ r2)), v' (column j (r1 ++ r2)))) :
    gnbUpdateClass ⟨r1.length, pr, (columns p r1).map μ, (columns p r1).map v⟩ (columns p r2) =
      ((columns p (r1 ++ r2)).map μ', (columns p (r1 ++ r2)).map v') := by
  have h0 : r1.length ≠ 0 := mt List.eq_nil_of_length_eq_zero h1
  simp only [gnbUpdateClass, h0, if_false, columns, List.map_map, List.zip_map', List.zipWith_map_left,
    List.zipWith_map_right, List.zipWith_self, Function.comp_def, h]

end

/-- vector form of `gnbMerge_shift` -/
theorem gnbUpdateClass_shift (p : Nat) (pr d : α) (r1 r2 : List (List α)) (h1 : r1 ≠ []) (h2 : r2 ≠ []) :
    gnbUpdateClass ⟨r1.length, pr, (columns p r1).map meanL, (columns p r1).map fun xs => varL xs + d⟩
        (columns p r2) =
      ((columns p (r1 ++ r2)).map meanL,
       (columns p (r1 ++ r2)).map fun xs =>
         varL xs + d * (r1.length : α) / ((r1.length + r2.length : Nat) : α)) := by
  refine gnbUpdateClass_columns p pr r1 r2 h1 meanL (fun xs => varL xs + d) meanL _ fun j => ?_
  rw [← column_length j r1, gnbMerge_shift _ _ d (column_ne_nil j r1 h1) (column_ne_nil j r2 h2),
    column_append, column_length, column_length]

/-! ### one `fit_with` call, seen from one class -/

section
omit [IsStrictOrderedRing α]

/-- the call at class `c`: epsilon of the batch off the variances, the class update if the batch has
rows of `c`, epsilon back on (the priors do not show in `gProj`) -/
theorem lookup_gnbStep (vs : α) (p : Nat) (st : GState α) (b : Batch α) (c : Nat) :
    (lookup c (gnbStep vs p st b)).map gProj =
      (if rowsOf c b = [] then
          (lookup c st).map fun i => { i with sigma := i.sigma.map (· - gnbEps vs p b) }
        else some (gnbF p b c
          ((lookup c st).map fun i => { i with sigma := i.sigma.map (· - gnbEps vs p b) }))).map
        fun i => (i.count, i.theta, i.sigma.map (· + gnbEps vs p b)) := by
  simp only [gnbStep, gnbPriors, lookup_mapVals, gnbClassLoop_eq, lookup_classLoop, Option.map_map]
  rfl

theorem gnbStep_absent_class (vs : α) (p : Nat) (st : GState α) (b : Batch α) (c : Nat)
    (hb : rowsOf c b = []) :
    (lookup c (gnbStep vs p st b)).map gProj = (lookup c st).map gProj := by
  rw [lookup_gnbStep, if_pos hb, Option.map_map]
  refine Option.map_congr fun i _ => ?_
  have : (i.sigma.map (· - gnbEps vs p b)).map (· + gnbEps vs p b) = i.sigma := by
    rw [List.map_map]
    exact (List.map_congr_left fun x _ => sub_add_cancel x _).trans (List.map_id _)
  simp only [Function.comp, gProj, this]

end

theorem gnbStep_new_class (vs : α) (p : Nat) (st : GState α) (b : Batch α) (c : Nat)
    (hnone : lookup c st = none) (hb : rowsOf c b ≠ []) :
    (lookup c (gnbStep vs p st b)).map gProj =
      some ((rowsOf c b).length, (columns p (rowsOf c b)).map meanL,
        (columns p (rowsOf c b)).map fun xs => varL xs + gnbEps vs p b) := by
  rw [lookup_gnbStep, if_neg hb, hnone]
  simp [gnbF, GInfo.default, gnbUpdateClass_fresh, List.map_map, Function.comp_def]

/-- **a class that is stored already** with the statistics of the rows `r1`, its variances carrying
an offset `d`, and that has rows in the batch: statistics of `r1 ++` its rows in the batch; of the
offset, shifted by the epsilon of this batch, the share `n_old / n_total` survives -/
theorem gnbStep_old_class (vs : α) (p : Nat) (st : GState α) (b : Batch α) (c : Nat) (i : GInfo α)
    (r1 : List (List α)) (d : α) (hi : lookup c st = some i) (h1 : r1 ≠ [])
    (hproj : gProj i = (r1.length, (columns p r1).map meanL, (columns p r1).map fun xs => varL xs + d))
    (hb : rowsOf c b ≠ []) :
    (lookup c (gnbStep vs p st b)).map gProj =
      some (r1.length + (rowsOf c b).length, (columns p (r1 ++ rowsOf c b)).map meanL,
        (columns p (r1 ++ rowsOf c b)).map fun xs => varL xs +
          ((d - gnbEps vs p b) * (r1.length : α) / ((r1.length + (rowsOf c b).length : Nat) : α) +
            gnbEps vs p b)) := by
  obtain ⟨cnt, pr, th, sg⟩ := i
  obtain ⟨rfl, rfl, rfl⟩ : cnt = _ ∧ th = _ ∧ sg = _ := by simpa [gProj] using hproj
  have hs : ((columns p r1).map fun xs => varL xs + d).map (· - gnbEps vs p b) =
      (columns p r1).map fun xs => varL xs + (d - gnbEps vs p b) := by
    rw [List.map_map]; exact List.map_congr_left fun xs _ => add_sub_assoc _ _ _
  rw [lookup_gnbStep, if_neg hb, hi]
  simp only [Option.map_some, gnbF, Option.getD_some, hs,
    gnbUpdateClass_shift p pr _ r1 _ h1 hb, List.map_map, Function.comp_def, add_assoc]

/-! ### every history, every `var_smoothing` -/

/-- `Σ_b epsilon_b · (rows of class c in batch b)` -/
def gnbEffSum (vs : α) (p : Nat) (hist : List (Batch α)) (c : Nat) : α :=
  sumS (hist.map fun b => gnbEps vs p b * ((rowsOf c b).length : α))

theorem gnbEffSum_snoc (vs : α) (p : Nat) (hist : List (Batch α)) (b : Batch α) (c : Nat) :
    gnbEffSum vs p (hist ++ [b]) c = gnbEffSum vs p hist c + gnbEps vs p b * ((rowsOf c b).length : α) := by
  simp [gnbEffSum, sumS_append, sumS_cons, sumS_nil]

/-- what the code stores for class `c` after the history: count, column means, and column
variances plus the row-weighted mean of the batch epsilons (`none` if the class never occurred) -/
def gnbStatsSm (vs : α) (p : Nat) (hist : List (Batch α)) (c : Nat) : Option (Nat × List α × List α) :=
  if rowsOf c hist.flatten = [] then none
  else some ((rowsOf c hist.flatten).length, (columns p (rowsOf c hist.flatten)).map meanL,
    (columns p (rowsOf c hist.flatten)).map fun xs =>
      varL xs + gnbEffSum vs p hist c / ((rowsOf c hist.flatten).length : α))

theorem gnbEffSum_uniform (vs : α) (p : Nat) (hist : List (Batch α)) (c : Nat) (e : α)
    (he : ∀ b ∈ hist, gnbEps vs p b = e) :
    gnbEffSum vs p hist c = e * ((rowsOf c hist.flatten).length : α) := by
  induction hist using List.reverseRecOn with
  | nil => simp [gnbEffSum, sumS_nil, rowsOf]
  | append_singleton hist b ih =>
    rw [gnbEffSum_snoc, ih (fun b' hb' => he b' (List.mem_append_left _ hb')),
      he b (List.mem_append_right _ (List.mem_singleton_self b)), rowsOf_flatten_snoc,
      List.length_append, Nat.cast_add]
    ring

theorem gnbEffSum_absent (vs : α) (p : Nat) (hist : List (Batch α)) (c : Nat)
    (h : rowsOf c hist.flatten = []) : gnbEffSum vs p hist c = 0 := by
  induction hist using List.reverseRecOn with
  | nil => rfl
  | append_singleton hist b ih =>
    rw [rowsOf_flatten_snoc, List.append_eq_nil_iff] at h
    rw [gnbEffSum_snoc, ih h.1, h.2, List.length_nil, Nat.cast_zero, mul_zero, add_zero]

theorem gnbStatsSm_uniform (vs : α) (p : Nat) (hist : List (Batch α)) (c : Nat) (e : α)
    (hc : rowsOf c hist.flatten ≠ []) (he : ∀ b ∈ hist, gnbEps vs p b = e) :
    gnbStatsSm vs p hist c = some ((rowsOf c hist.flatten).length,
      (columns p (rowsOf c hist.flatten)).map meanL,
      (columns p (rowsOf c hist.flatten)).map fun xs => varL xs + e) := by
  have hn : ((rowsOf c hist.flatten).length : α) ≠ 0 :=
    Nat.cast_ne_zero.mpr (mt List.eq_nil_of_length_eq_zero hc)
  rw [gnbStatsSm, if_neg hc, gnbEffSum_uniform vs p hist c e he, mul_div_assoc, div_self hn, mul_one]

section
omit [IsStrictOrderedRing α]

theorem gnbEps_zero (p : Nat) (b : Batch α) : gnbEps (0 : α) p b = 0 := zero_mul _

end

/-- textbook statistics of class `c` in the data `d` (`none` if the class does not occur) -/
def gnbStats (p : Nat) (d : Batch α) (c : Nat) : Option (Nat × List α × List α) :=
  if rowsOf c d = [] then none
  else some ((rowsOf c d).length, (columns p (rowsOf c d)).map meanL, (columns p (rowsOf c d)).map varL)

theorem gnbStatsSm_zero (p : Nat) (hist : List (Batch α)) (c : Nat) :
    gnbStatsSm 0 p hist c = gnbStats p hist.flatten c := by
  by_cases hc : rowsOf c hist.flatten = []
  · rw [gnbStatsSm, gnbStats, if_pos hc, if_pos hc]
  · rw [gnbStatsSm_uniform 0 p hist c 0 hc fun b _ => gnbEps_zero p b, gnbStats, if_neg hc]
    simp only [add_zero]

/-- the algebra of one step for a class with `n` old and `m` new rows:
`(S/n - e)·n/(n+m) + e = (S + e·m)/(n+m)` -/
theorem eff_step (S e : α) (n m : Nat) (hn : n ≠ 0) :
    (S / (n : α) - e) * (n : α) / ((n + m : Nat) : α) + e = (S + e * (m : α)) / ((n + m : Nat) : α) := by
  have hn' : (n : α) ≠ 0 := Nat.cast_ne_zero.mpr hn
  have hnm : ((n + m : Nat) : α) ≠ 0 := Nat.cast_ne_zero.mpr (by omega)
  rw [Nat.cast_add] at hnm ⊢
  field_simp
  ring

theorem gnbStep_invariant_sm (vs : α) (p : Nat) (st : GState α) (past : List (Batch α)) (b : Batch α)
    (H : ∀ c, (lookup c st).map gProj = gnbStatsSm vs p past c) (c : Nat) :
    (lookup c (gnbStep vs p st b)).map gProj = gnbStatsSm vs p (past ++ [b]) c := by
  have Hc := H c
  rw [gnbStatsSm, rowsOf_flatten_snoc, gnbEffSum_snoc]
  by_cases hb : rowsOf c b = []
  · rw [gnbStep_absent_class vs p st b c hb, Hc, gnbStatsSm, hb, List.append_nil, List.length_nil,
      Nat.cast_zero, mul_zero, add_zero]
  · have hb0 : ((rowsOf c b).length : α) ≠ 0 :=
      Nat.cast_ne_zero.mpr (mt List.eq_nil_of_length_eq_zero hb)
    rw [if_neg (fun h => hb (List.append_eq_nil_iff.mp h).2), List.length_append]
    by_cases hd : rowsOf c past.flatten = []
    · have hnone : lookup c st = none := by
        rw [gnbStatsSm, if_pos hd] at Hc; exact Option.map_eq_none_iff.mp Hc
      rw [gnbStep_new_class vs p st b c hnone hb, hd, gnbEffSum_absent vs p past c hd, List.nil_append,
        List.length_nil, Nat.zero_add, zero_add, mul_div_assoc, div_self hb0, mul_one]
    · rw [gnbStatsSm, if_neg hd] at Hc
      obtain ⟨i, hi, hproj⟩ := Option.map_eq_some_iff.mp Hc
      rw [gnbStep_old_class vs p st b c i _ _ hi hd hproj hb]
      simp only [eff_step _ _ _ _ (mt List.eq_nil_of_length_eq_zero hd)]

end Field

section Order
variable {α : Type} [Field α] [LinearOrder α]

/-! ### keys, counts and priors -/

theorem gnbStep_keys_nodup (vs : α) (p : Nat) (st : GState α) (b : Batch α) (h : (keys st).Nodup) :
    (keys (gnbStep vs p st b)).Nodup := by
  simp only [gnbStep, gnbPriors, keys_mapVals, gnbClassLoop_eq]
  exact nodup_keys_foldl_upsert (fun s k => gnbF p b k (lookup k s)) _ _ (by rwa [keys_mapVals])

section
omit [LinearOrder α]

theorem gnbF_count (p : Nat) (b : Batch α) (k : Nat) (o : Option (GInfo α)) :
    (gnbF p b k o).count = (o.map GInfo.count).getD 0 + (rowsOf k b).length := by
  cases o <;> rfl

end

/-- sum of the stored class counts -/
def gnbTotal (st : GState α) : Nat := tot GInfo.count st

theorem gnbStep_total (vs : α) (p : Nat) (st : GState α) (b : Batch α) :
    gnbTotal (gnbStep vs p st b) = gnbTotal st + b.length := by
  simp only [gnbStep, gnbPriors, gnbTotal]
  -- the three `mapVals` (epsilon off, epsilon on, priors) leave the counts alone
  refine (tot_mapVals GInfo.count GInfo.count _ (fun _ => ?_) _).trans ?_
  · rfl
  refine (tot_mapVals GInfo.count GInfo.count _ (fun _ => ?_) _).trans ?_
  · rfl
  rw [gnbClassLoop_eq, tot_classLoop GInfo.count (gnbF p b) b (gnbF_count p b)]
  refine congrArg (· + b.length) (tot_mapVals GInfo.count GInfo.count _ (fun _ => ?_) _)
  rfl

theorem gnbRun_total (vs : α) (p : Nat) (hist : List (Batch α)) :
    gnbTotal (gnbRun vs p hist) = hist.flatten.length :=
  foldl_history (gnbStep vs p) [] (fun past st => gnbTotal st = past.flatten.length) rfl
    (fun past st b h => by
      rw [gnbStep_total, h, List.flatten_append, List.flatten_singleton, List.length_append]) hist

section
omit [Field α] [LinearOrder α]

theorem gnbTotal_eq_foldl (st : GState α) :
    gnbTotal st = (st.map fun ci => ci.2.count).foldl (fun (a b : Nat) => a + b) 0 := by
  simp [gnbTotal, tot, List.sum_eq_foldl]

end

theorem gnbStep_prior (vs : α) (p : Nat) (st : GState α) (b : Batch α) (c : Nat) (i : GInfo α)
    (h : lookup c (gnbStep vs p st b) = some i) :
    i.prior = (i.count : α) / ((gnbTotal (gnbStep vs p st b) : Nat) : α) := by
  rw [gnbTotal_eq_foldl]
  simp only [gnbStep, gnbPriors, lookup_mapVals] at h ⊢
  obtain ⟨j, _, rfl⟩ := Option.map_eq_some_iff.mp h
  simp only [mapVals, List.map_map, Function.comp_def]

theorem gnbRun_prior (vs : α) (p : Nat) (hist : List (Batch α)) (c : Nat) (i : GInfo α)
    (h : lookup c (gnbRun vs p hist) = some i) :
    i.prior = (i.count : α) / (hist.flatten.length : α) := by
  rcases List.eq_nil_or_concat hist with rfl | ⟨h', b, rfl⟩
  · exact nomatch h
  · rw [← gnbRun_total vs p]
    rw [List.concat_eq_append, gnbRun, List.foldl_append] at h ⊢
    exact gnbStep_prior vs p _ b c i h

end Order
end LinfaSpec.Incremental
