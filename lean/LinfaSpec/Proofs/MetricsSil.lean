import LinfaSpec.Proofs.Metrics

/-!
The silhouette score.  For the invariance under a joint permutation of records and labels the score
is rewritten without positions (`silS`); the minimum over the other clusters is a lower bound that is
attained, so the first-appearance order of the labels is immaterial.  Before that: the zero
self-distance and the `- 1` take a sample out of its own cluster's total and count; at the end: on a
fresh label cache `silhouetteC` is `silhouette`.
-/

namespace LinfaSpec.Metrics
open LinfaSpec

theorem perm_cons_eraseIdx {β : Type} {l : List β} {i : Nat} {x : β} (h : l[i]? = some x) :
    l.Perm (x :: l.eraseIdx i) := by
  obtain ⟨hlt, rfl⟩ := List.getElem?_eq_some_iff.mp h
  exact (List.getElem_cons_eraseIdx_perm hlt).symm

theorem totalDist_excludes_self {α : Type} [Field α] (d : List (List α)) (labels : List Nat) (i li : Nat)
    (hrow : (d.getD i [])[i]? = some 0) (hl : labels[i]? = some li) :
    totalDist d labels i li =
      ((((d.getD i []).zip labels).eraseIdx i).filterMap fun (x, lj) => if lj == li then some x else none).sum := by
  have hz : ((d.getD i []).zip labels)[i]? = some (0, li) := List.getElem?_zip_eq_some.mpr ⟨hrow, hl⟩
  unfold totalDist
  -- the sample itself, moved to the front, passes the label test and contributes its distance `0`
  rw [sumS_eq_sum, ((perm_cons_eraseIdx hz).filterMap _).sum_eq, List.filterMap_cons_some (b := 0) (by simp),
    List.sum_cons, zero_add]

theorem labelCount_excludes_self (labels : List Nat) (i li : Nat) (hl : labels[i]? = some li) :
    labelCount labels li - 1 = ((labels.eraseIdx i).filter (· == li)).length := by
  unfold labelCount
  rw [((perm_cons_eraseIdx hl).filter _).length_eq, List.filter_cons_of_pos (by simp), List.length_cons,
    Nat.add_sub_cancel]

theorem distMatrix_entry (x : List (List ℝ)) (i j : Nat) (xi xj : List ℝ)
    (hi : x[i]? = some xi) (hj : x[j]? = some xj) :
    ((distMatrix x).getD i [])[j]? =
      some (Real.sqrt ((List.zipWith (fun a b => (a - b) * (a - b)) xi xj).sum)) := by
  unfold distMatrix
  rw [List.getD_eq_getElem?_getD, List.getElem?_map, hi]
  simp only [Option.map_some, Option.getD_some]
  rw [List.getElem?_map, hj]
  simp only [Option.map_some, sqDist, sumS_eq_sum, Transc.sqrt]

theorem distMatrix_diag (x : List (List ℝ)) (i : Nat) (hi : i < x.length) :
    ((distMatrix x).getD i [])[i]? = some 0 := by
  have h := distMatrix_entry x i i x[i] x[i] (List.getElem?_eq_getElem hi) (List.getElem?_eq_getElem hi)
  rw [h, List.zipWith_self]
  simp

theorem labelSet_step (acc : List Nat) (l : Nat) (hacc : acc.Nodup) :
    (if acc.contains l then acc else acc ++ [l]).Nodup ∧
      ∀ a, a ∈ (if acc.contains l then acc else acc ++ [l]) ↔ a ∈ acc ∨ a = l := by
  split
  · rename_i hc
    have hl : l ∈ acc := List.contains_iff_mem.mp hc
    exact ⟨hacc, fun a => ⟨Or.inl, fun h => h.elim id (fun e => e ▸ hl)⟩⟩
  · rename_i hc
    have hl : l ∉ acc := fun h => hc (List.contains_iff_mem.mpr h)
    refine ⟨List.nodup_append.mpr ⟨hacc, List.nodup_singleton l, ?_⟩, fun a => ?_⟩
    · intro a ha b hb
      rw [List.mem_singleton.mp hb]
      exact fun hab => hl (hab ▸ ha)
    · rw [List.mem_append, List.mem_singleton]

theorem labelSet_aux (labels : List Nat) : ∀ acc : List Nat, acc.Nodup →
    (labels.foldl (fun acc l => if acc.contains l then acc else acc ++ [l]) acc).Nodup ∧
    ∀ a, a ∈ labels.foldl (fun acc l => if acc.contains l then acc else acc ++ [l]) acc ↔ a ∈ acc ∨ a ∈ labels := by
  induction labels with
  | nil => intro acc hacc; simp [hacc]
  | cons l ls ih =>
    intro acc hacc
    obtain ⟨hn, hm⟩ := labelSet_step acc l hacc
    obtain ⟨h1, h2⟩ := ih _ hn
    refine ⟨h1, fun a => ?_⟩
    rw [List.foldl_cons, h2, hm, List.mem_cons, or_assoc]

theorem nodup_labelSet (labels : List Nat) : (labelSet labels).Nodup :=
  (labelSet_aux labels [] List.nodup_nil).1

theorem mem_labelSet (labels : List Nat) (a : Nat) : a ∈ labelSet labels ↔ a ∈ labels := by
  have := (labelSet_aux labels [] List.nodup_nil).2 a
  simpa [labelSet] using this

theorem labelSet_perm {l l' : List Nat} (h : l.Perm l') : (labelSet l).Perm (labelSet l') :=
  (List.perm_ext_iff_of_nodup (nodup_labelSet l) (nodup_labelSet l')).mpr
    (fun a => by rw [mem_labelSet, mem_labelSet, h.mem_iff])

theorem labelCount_perm {l l' : List Nat} (h : l.Perm l') (c : Nat) : labelCount l c = labelCount l' c := by
  unfold labelCount
  exact (h.filter _).length_eq

/-! ### the silhouette of a sample without positions -/

/-- total distance of the record `xi` to the samples of `ps` labelled `c` -/
noncomputable def tdist (ps : List (List ℝ × Nat)) (xi : List ℝ) (c : Nat) : ℝ :=
  (ps.filterMap fun p => if p.2 == c then some (Real.sqrt (sqDist xi p.1)) else none).sum

theorem tdist_perm {ps ps' : List (List ℝ × Nat)} (h : ps.Perm ps') (xi : List ℝ) (c : Nat) :
    tdist ps xi c = tdist ps' xi c := by
  unfold tdist
  exact (h.filterMap _).sum_eq

/-- the value the `match` on the list of mean distances returns -/
noncomputable def pickMin (a : ℝ) : List ℝ → ℝ
  | [] => 0
  | m0 :: ms =>
    let b := ms.foldl (fun v m => if m < v then m else v) m0
    if b ≤ a then (b - a) / a else (b - a) / b

theorem pickMin_perm (a : ℝ) {m m' : List ℝ} (h : m.Perm m') : pickMin a m = pickMin a m' := by
  cases m with
  | nil => rw [h.nil_eq]
  | cons m0 ms =>
    cases m' with
    | nil => exact absurd h.symm.nil_eq (by simp)
    | cons m0' ms' =>
      obtain ⟨h1, h2⟩ := foldl_min_spec ms m0
      obtain ⟨h1', h2'⟩ := foldl_min_spec ms' m0'
      have e : ms.foldl min m0 = ms'.foldl min m0' :=
        le_antisymm (h1 _ (h.mem_iff.mpr h2')) (h1' _ (h.mem_iff.mp h2))
      simp only [pickMin, ite_lt_eq_min, e]

noncomputable def silS (ps : List (List ℝ × Nat)) (xi : List ℝ) (li : Nat) : ℝ :=
  pickMin (if labelCount (ps.map Prod.snd) li = 1 then 0
      else tdist ps xi li / ((labelCount (ps.map Prod.snd) li - 1 : Nat) : ℝ))
    (((labelSet (ps.map Prod.snd)).filter (· != li)).map fun c =>
      tdist ps xi c / ((labelCount (ps.map Prod.snd) c : Nat) : ℝ))

theorem silS_perm {ps ps' : List (List ℝ × Nat)} (h : ps.Perm ps') (xi : List ℝ) (li : Nat) :
    silS ps xi li = silS ps' xi li := by
  have hl : (ps.map Prod.snd).Perm (ps'.map Prod.snd) := h.map _
  unfold silS
  rw [labelCount_perm hl li, tdist_perm h xi li]
  apply pickMin_perm
  have hf : (fun c => tdist ps xi c / ((labelCount (ps.map Prod.snd) c : Nat) : ℝ)) =
      fun c => tdist ps' xi c / ((labelCount (ps'.map Prod.snd) c : Nat) : ℝ) := by
    funext c; rw [labelCount_perm hl c, tdist_perm h xi c]
  rw [hf]
  exact ((labelSet_perm hl).filter _).map _

theorem totalDist_eq_tdist (ps : List (List ℝ × Nat)) (i : Nat) (hi : i < ps.length) (c : Nat) :
    totalDist (distMatrix (ps.map Prod.fst)) (ps.map Prod.snd) i c = tdist ps (ps[i]).1 c := by
  have hrow : (distMatrix (ps.map Prod.fst)).getD i [] =
      (ps.map Prod.fst).map fun xj => Real.sqrt (sqDist (ps[i]).1 xj) := by
    unfold distMatrix
    rw [List.getD_eq_getElem?_getD, List.getElem?_map, List.getElem?_map, List.getElem?_eq_getElem hi]
    rfl
  unfold totalDist tdist
  rw [hrow, sumS_eq_sum, List.map_map, List.zip_map', List.filterMap_map]
  rfl

theorem silSample_eq_silS (ps : List (List ℝ × Nat)) (i : Nat) (hi : i < ps.length) (li : Nat) :
    silSample (distMatrix (ps.map Prod.fst)) (ps.map Prod.snd) i li = silS ps (ps[i]).1 li := by
  have hA := totalDist_eq_tdist ps i hi
  unfold silSample silS
  simp only [hA]
  generalize ((labelSet (ps.map Prod.snd)).filter (· != li)).map
    (fun c => tdist ps (ps[i]).1 c / ((labelCount (ps.map Prod.snd) c : Nat) : ℝ)) = means
  cases means <;> rfl

theorem silhouettePts_eq (ps : List (List ℝ × Nat)) :
    silhouettePts (ps.map Prod.fst) (ps.map Prod.snd) =
      if (labelSet (ps.map Prod.snd)).length = 1 then 1
      else (ps.map fun p => silS ps p.1 p.2).sum / (ps.length : ℝ) := by
  unfold silhouettePts silhouette
  split
  · rfl
  · simp only [sumS_eq_sum, List.length_map]
    congr 2
    apply List.ext_getElem
    · simp
    · intro k h1 h2
      have hk : k < ps.length := by simpa using h2
      simp only [List.getElem_map, List.getElem_zip, List.getElem_range]
      exact silSample_eq_silS ps k hk _

theorem silhouettePts_perm {ps ps' : List (List ℝ × Nat)} (h : ps.Perm ps') :
    silhouettePts (ps.map Prod.fst) (ps.map Prod.snd) = silhouettePts (ps'.map Prod.fst) (ps'.map Prod.snd) := by
  rw [silhouettePts_eq, silhouettePts_eq, (labelSet_perm (h.map Prod.snd)).length_eq, h.length_eq]
  have : (ps.map fun p => silS ps p.1 p.2).sum = (ps'.map fun p => silS ps' p.1 p.2).sum := by
    rw [(h.map _).sum_eq]
    congr 1
    apply List.map_congr_left
    intro p _
    exact silS_perm h p.1 p.2
  rw [this]

theorem labelCache_fst (cl : List Nat) : (labelCache cl).map Prod.fst = labelSet cl := by
  unfold labelCache
  rw [List.map_map]
  induction labelSet cl with
  | nil => rfl
  | cons a as ih => simp [ih]

theorem cacheCount_fresh (cl : List Nat) : cacheCount (labelCache cl) = labelCount cl := by
  funext l
  unfold cacheCount labelCache
  rw [List.find?_map, Option.map_map]
  cases hf : (labelSet cl).find? ((fun p : Nat × Nat => p.1 == l) ∘ fun l => (l, labelCount cl l)) with
  | some a =>
    -- the entry found carries the label asked for
    have : a = l := by simpa using List.find?_some hf
    rw [this]; rfl
  | none =>
    -- no entry: the label does not occur, its count is 0
    have hl : l ∉ cl := fun hc => by simpa using List.find?_eq_none.mp hf l ((mem_labelSet cl l).mpr hc)
    refine (List.length_eq_zero_iff.mpr (List.filter_eq_nil_iff.mpr fun a ha => ?_)).symm
    have : a ≠ l := fun e => hl (e ▸ ha)
    simpa using this

theorem silhouetteC_fresh {α : Type} [Field α] [LinearOrder α] (d : List (List α)) (labels : List Nat) :
    silhouetteC (labelCache labels) d labels = some (silhouette d labels) := by
  unfold silhouetteC silhouette
  simp only [labelCache_fst, cacheCount_fresh]
  have hany : labels.any (fun l => !(labelSet labels).contains l) = false := by
    rw [List.any_eq_false]
    intro l hl
    simp [(mem_labelSet labels l).mpr hl]
  rw [hany]
  split
  · rfl
  · rfl

end LinfaSpec.Metrics
