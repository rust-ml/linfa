/-
The scans of the SMO solver: running maxima (`maxAcc`: `max_violating_pair(_nu)`), the second-order
partner scan (`scanAcc`), the `calculate_rho(_nu)` scan (`RhoInvG`); what they give: the selected pair is
legal, the optimality flag bounds every pair, and such a bound gives the eps-KKT conditions (`rhoInv_kkt`).
-/
import LinfaSpec.Proofs.Smo
import LinfaSpec.Proofs.Scalar

namespace LinfaSpec.Smo

theorem foldl_range_succ {β : Type} (f : β → Nat → β) (b : β) (n : Nat) :
    (List.range (n + 1)).foldl f b = f ((List.range n).foldl f b) n := by
  rw [List.range_succ, List.foldl_append]; rfl

theorem lt_succ_cases {n k : Nat} (hk : k < n + 1) : k < n ∨ k = n := Nat.lt_succ_iff_lt_or_eq.mp hk

section
variable {α : Type}

def upd (cmp : α → α → Bool) (c : Bool) (g : α × Option Nat) (v : α) (i : Nat) : α × Option Nat :=
  if c && cmp g.1 v then (v, some i) else g

theorem upd_cases (cmp : α → α → Bool) (c : Bool) (g : α × Option Nat) (v : α) (i : Nat) :
    (c = true ∧ cmp g.1 v = true ∧ upd cmp c g v i = (v, some i)) ∨
    ((c = true → cmp g.1 v = false) ∧ upd cmp c g v i = g) := by
  unfold upd
  cases c <;> cases cmp g.1 v <;> simp

/-- `x` is the greatest `le`-lower bound, below `top`, of the values `val k` with `k < n` and `S k`;
`le` is `≤` for `ub` (a running minimum from `inf`) and `≥` for `lb` (a running maximum from `-inf`) -/
def IsBound (le : α → α → Prop) (top : α) (val : Nat → α) (S : Nat → Prop) (n : Nat) (x : α) : Prop :=
  (∀ k, k < n → S k → le x (val k)) ∧ ∀ c, le c top → (∀ k, k < n → S k → le c (val k)) → le c x

theorem isBound_skip {le : α → α → Prop} {top x : α} {val : Nat → α} {S : Nat → Prop} {n : Nat}
    (h : IsBound le top val S n x) (hn : ¬ S n) : IsBound le top val S (n + 1) x := by
  refine ⟨fun k hk hs => ?_, fun c hc hall => h.2 c hc fun k hk => hall k (Nat.lt_succ_of_lt hk)⟩
  rcases lt_succ_cases hk with hlt | heq
  · exact h.1 k hlt hs
  · subst heq; exact absurd hs hn

/-- `m` is the meet of `le`: `minS` for `≤`, `maxS` for `≥` -/
theorem isBound_add {le : α → α → Prop} {m : α → α → α} (hl : ∀ a b, le (m a b) a)
    (hr : ∀ a b, le (m a b) b) (hm : ∀ c a b, le c a → le c b → le c (m a b))
    (htrans : ∀ a b c, le a b → le b c → le a c) {top x : α} {val : Nat → α} {S : Nat → Prop} {n : Nat}
    (h : IsBound le top val S n x) (hs : S n) : IsBound le top val S (n + 1) (m x (val n)) := by
  refine ⟨fun k hk hs' => ?_, fun c hc hall => hm c _ _
    (h.2 c hc fun k hk => hall k (Nat.lt_succ_of_lt hk)) (hall n (Nat.lt_succ_self n) hs)⟩
  rcases lt_succ_cases hk with hlt | heq
  · exact htrans _ _ _ (hl _ _) (h.1 k hlt hs')
  · subst heq; exact hr _ _

end

section order
variable {α : Type} [LinearOrder α]

/-- the comparison of `max_violating_pair`: `≤` keeps the last maximiser -/
def leB (a b : α) : Bool := decide (a ≤ b)
/-- the comparison of `max_violating_pair_nu`: `<` keeps the first maximiser -/
def ltB (a b : α) : Bool := decide (a < b)

def IsCmp (cmp : α → α → Bool) : Prop :=
  ∀ a b, (cmp a b = true → a ≤ b) ∧ (cmp a b = false → b ≤ a)

theorem isCmp_leB : IsCmp (leB (α := α)) := fun _ _ =>
  ⟨fun h => of_decide_eq_true h, fun h => le_of_lt (not_le.1 (of_decide_eq_false h))⟩

theorem isCmp_ltB : IsCmp (ltB (α := α)) := fun _ _ =>
  ⟨fun h => le_of_lt (of_decide_eq_true h), fun h => not_lt.1 (of_decide_eq_false h)⟩

theorem isBound_addMin {top x : α} {val : Nat → α} {S : Nat → Prop} {n : Nat}
    (h : IsBound (· ≤ ·) top val S n x) (hs : S n) :
    IsBound (· ≤ ·) top val S (n + 1) (minS x (val n)) := by
  rw [minS_eq_min]
  exact isBound_add min_le_left min_le_right (fun _ _ _ => le_min) (fun _ _ _ => le_trans) h hs

theorem isBound_addMax {top x : α} {val : Nat → α} {S : Nat → Prop} {n : Nat}
    (h : IsBound (· ≥ ·) top val S n x) (hs : S n) :
    IsBound (· ≥ ·) top val S (n + 1) (maxS x (val n)) := by
  rw [maxS_eq_max]
  exact isBound_add le_max_left le_max_right (fun _ _ _ => max_le) (fun _ _ _ => ge_trans) h hs

end order

section
variable {α : Type} [Field α]

/-- `y_i G_i` -/
def yG (s : St α) (i : Nat) : α := tgt s i * gf s.grad i

theorem yG_pos (s : St α) (i : Nat) (h : gb s.y i = true) : yG s i = gf s.grad i := by
  unfold yG tgt; rw [h]; simp
theorem yG_neg (s : St α) (i : Nat) (h : gb s.y i = false) : yG s i = -gf s.grad i := by
  unfold yG tgt; rw [h]; simp

end

/-! What the scans compute and which pair is selected: the field operations and the comparisons, none of the order axioms. -/
section scan
variable {α : Type} [Field α] [LinearOrder α]

/-- `i ∈ I_up(α)` as `max_violating_pair` tests it: a positive variable below its bound or a
negative variable above zero -/
def inUp (s : St α) (i : Nat) : Bool := if gb s.y i then !reachedUpper s i else !reachedLower s i
/-- `i ∈ I_low(α)`: a positive variable above zero or a negative variable below its bound -/
def inLow (s : St α) (i : Nat) : Bool := if gb s.y i then !reachedLower s i else !reachedUpper s i

/-- the running maximum of `v k` over the positions `k < n` with `c k`, started at `(-inf, none)` -/
def maxAcc (cmp : α → α → Bool) (inf : α) (c : Nat → Bool) (v : Nat → α) (n : Nat) : α × Option Nat :=
  (List.range n).foldl (fun g k => upd cmp (c k) g (v k) k) (-inf, none)

omit [LinearOrder α] in
theorem maxAcc_succ (cmp : α → α → Bool) (inf : α) (c : Nat → Bool) (v : Nat → α) (n : Nat) :
    maxAcc cmp inf c v (n + 1) = upd cmp (c n) (maxAcc cmp inf c v n) (v n) n :=
  foldl_range_succ _ _ n

theorem maxAcc_ge {cmp : α → α → Bool} (hcmp : IsCmp cmp) (inf : α) (c : Nat → Bool) (v : Nat → α)
    (n k : Nat) (hk : k < n) (hc : c k = true) : v k ≤ (maxAcc cmp inf c v n).1 := by
  induction n with
  | zero => exact absurd hk (Nat.not_lt_zero k)
  | succ n ih =>
    rw [maxAcc_succ]
    rcases upd_cases cmp (c n) (maxAcc cmp inf c v n) (v n) n with ⟨_, h2, h3⟩ | ⟨h1, h3⟩ <;> rw [h3]
    · rcases lt_succ_cases hk with hlt | heq
      · exact le_trans (ih hlt) ((hcmp _ _).1 h2)
      · rw [heq]
    · rcases lt_succ_cases hk with hlt | heq
      · exact ih hlt
      · subst heq; exact (hcmp _ _).2 (h1 hc)

omit [LinearOrder α] in
theorem maxAcc_some (cmp : α → α → Bool) (inf : α) (c : Nat → Bool) (v : Nat → α) (n i : Nat) :
    (maxAcc cmp inf c v n).2 = some i →
      i < n ∧ c i = true ∧ (maxAcc cmp inf c v n).1 = v i := by
  induction n with
  | zero => intro h; cases h
  | succ n ih =>
    rw [maxAcc_succ]
    rcases upd_cases cmp (c n) (maxAcc cmp inf c v n) (v n) n with ⟨h1, _, h3⟩ | ⟨_, h3⟩ <;>
      rw [h3] <;> intro h
    · obtain rfl : n = i := Option.some.inj h
      exact ⟨Nat.lt_succ_self _, h1, rfl⟩
    · obtain ⟨a, b, c⟩ := ih h
      exact ⟨Nat.lt_succ_of_lt a, b, c⟩

omit [LinearOrder α] in
/-- with `-inf` below every value: no index recorded means no position took part -/
theorem maxAcc_none (cmp : α → α → Bool) (inf : α) (c : Nat → Bool) (v : Nat → α) (n : Nat)
    (hdom : ∀ k, k < n → cmp (-inf) (v k) = true) :
    (maxAcc cmp inf c v n).2 = none →
      (maxAcc cmp inf c v n).1 = -inf ∧ ∀ k, k < n → c k = false := by
  induction n with
  | zero => intro _; exact ⟨rfl, fun k hk => absurd hk (Nat.not_lt_zero k)⟩
  | succ n ih =>
    rw [maxAcc_succ]
    rcases upd_cases cmp (c n) (maxAcc cmp inf c v n) (v n) n with ⟨_, _, h3⟩ | ⟨h1, h3⟩ <;>
      rw [h3] <;> intro h
    · cases h
    · obtain ⟨a, b⟩ := ih (fun k hk => hdom k (Nat.lt_succ_of_lt hk)) h
      refine ⟨a, fun k hk => ?_⟩
      rcases lt_succ_cases hk with hlt | heq
      · exact b k hlt
      · subst heq
        cases hc : c k
        · rfl
        · have := h1 hc
          rw [a, hdom k (Nat.lt_succ_self k)] at this
          cases this

/-- `gmax` is the maximum of `-y G` over `I_up`, `gmax2` the maximum of `y G` over `I_low` -/
theorem maxViolatingPair_eq (e : Env α) (s : St α) :
    maxViolatingPair e s =
      (maxAcc leB e.inf (inUp s) (fun k => -yG s k) s.nactive,
       maxAcc leB e.inf (inLow s) (yG s) s.nactive) := by
  unfold maxViolatingPair
  generalize s.nactive = n
  induction n with
  | zero => rfl
  | succ n ih =>
    rw [foldl_range_succ, ih, maxAcc_succ, maxAcc_succ]
    unfold inUp inLow
    cases h : gb s.y n
    · simp only [Bool.false_eq_true, if_false, yG_neg s n h, neg_neg]; rfl
    · simp only [if_true, yG_pos s n h]; rfl

theorem ite_bool {β : Type} (f : Bool → β) (b : Bool) : (if b then f true else f false) = f b := by
  cases b <;> rfl

/-- the maximum of `-y G` over `I_up` inside the class `c` (`gmaxp1`, `gmaxn1`) -/
def nuUp (e : Env α) (s : St α) (c : Bool) : α × Option Nat :=
  maxAcc ltB e.inf (fun k => (gb s.y k == c) && inUp s k) (fun k => -yG s k) s.nactive
/-- the maximum of `y G` over `I_low` inside the class `c` (`gmaxp2`, `gmaxn2`) -/
def nuLow (e : Env α) (s : St α) (c : Bool) : α × Option Nat :=
  maxAcc ltB e.inf (fun k => (gb s.y k == c) && inLow s k) (yG s) s.nactive

theorem nuUp_ge (e : Env α) (s : St α) (c : Bool) (i : Nat) (hi : i < s.nactive) (hc : gb s.y i = c)
    (hu : inUp s i = true) : -yG s i ≤ (nuUp e s c).1 :=
  maxAcc_ge isCmp_ltB e.inf (fun k => (gb s.y k == c) && inUp s k) (fun k => -yG s k) _ i hi
    (by simp [hc, hu])

/-- `(gmaxp1, gmaxn1, gmaxp2, gmaxn2)` are the plain maxima taken class by class -/
theorem maxViolatingPairNu_eq (e : Env α) (s : St α) :
    maxViolatingPairNu e s = (nuUp e s true, nuUp e s false, nuLow e s true, nuLow e s false) := by
  unfold maxViolatingPairNu nuUp nuLow
  generalize s.nactive = n
  induction n with
  | zero => rfl
  | succ n ih =>
    rw [foldl_range_succ, ih, maxAcc_succ, maxAcc_succ, maxAcc_succ, maxAcc_succ]
    unfold inUp inLow
    cases h : gb s.y n
    · simp only [Bool.false_eq_true, if_false, yG_neg s n h, neg_neg]; rfl
    · simp only [if_true, yG_pos s n h]; rfl

/-- the objective decrease `-gd² / q` of a candidate, with the `1e-10` guard for `q ≤ 0` -/
def objDec (e : Env α) (gd q : α) : α :=
  if 0 < q then (-(gd * gd)) / q else (-(gd * gd)) / e.tiny

def cand (e : Env α) (gd q : α) (m : α × Option Nat) (j : Nat) : α × Option Nat :=
  if 0 < gd then
    if objDec e gd q ≤ m.1 then (objDec e gd q, some j) else m
  else m

theorem cand_cases (e : Env α) (gd q : α) (m : α × Option Nat) (j : Nat) :
    (0 < gd ∧ (cand e gd q m j).2 = some j) ∨ cand e gd q m j = m := by
  unfold cand
  split_ifs with h1 h2
  · exact Or.inl ⟨h1, rfl⟩
  · exact Or.inr rfl
  · exact Or.inr rfl

/-- one step of a second-order scan: position `j` offers `off j = some (gd, q)` or nothing -/
def scanStep (e : Env α) (off : Nat → Option (α × α)) (m : α × Option Nat) (j : Nat) : α × Option Nat :=
  match off j with
  | some gq => cand e gq.1 gq.2 m j
  | none => m

def scanAcc (e : Env α) (off : Nat → Option (α × α)) (n : Nat) : α × Option Nat :=
  (List.range n).foldl (scanStep e off) (e.inf, none)

theorem scanAcc_succ (e : Env α) (off : Nat → Option (α × α)) (n : Nat) :
    scanAcc e off (n + 1) = scanStep e off (scanAcc e off n) n := foldl_range_succ _ _ n

theorem scanAcc_some (e : Env α) (off : Nat → Option (α × α)) (n j : Nat) :
    (scanAcc e off n).2 = some j → j < n ∧ ∃ gq, off j = some gq ∧ 0 < gq.1 := by
  induction n with
  | zero => intro h; cases h
  | succ n ih =>
    have keep : (scanAcc e off n).2 = some j → j < n + 1 ∧ ∃ gq, off j = some gq ∧ 0 < gq.1 :=
      fun h => ⟨Nat.lt_succ_of_lt (ih h).1, (ih h).2⟩
    rw [scanAcc_succ, scanStep]
    cases ho : off n with
    | none => exact keep
    | some gq =>
      dsimp only
      rcases cand_cases e gq.1 gq.2 (scanAcc e off n) n with ⟨hp, hs⟩ | heq
      · intro h
        obtain rfl : n = j := Option.some.inj (hs ▸ h)
        exact ⟨Nat.lt_succ_self _, gq, ho, hp⟩
      · rw [heq]; exact keep

/-- what position `j` offers to the scan of `select_working_set` for the violator `i` with value `gm` -/
def offC (e : Env α) (s : St α) (gm : α) (i j : Nat) : Option (α × α) :=
  if gb s.y j then
    if !reachedLower s j then
      some (gm + gf s.grad j,
        selfDist e s i + selfDist e s j - (1 + 1) * tgt s i * gf (dist e s i (ntotal s)) j)
    else none
  else if !reachedUpper s j then
    some (gm - gf s.grad j,
      selfDist e s i + selfDist e s j + (1 + 1) * tgt s i * gf (dist e s i (ntotal s)) j)
  else none

theorem selectObjMin_eq (e : Env α) (s : St α) (gm : α) (i : Nat) :
    selectObjMin e s gm i = scanAcc e (offC e s gm i) s.nactive := by
  unfold selectObjMin scanAcc
  dsimp only
  congr 1
  funext m j
  unfold scanStep offC
  cases gb s.y j
  · cases reachedUpper s j <;> rfl
  · cases reachedLower s j <;> rfl

theorem offC_eq (e : Env α) (s : St α) (gm : α) (i j : Nat) :
    ∃ q, offC e s gm i j = if inLow s j then some (gm + yG s j, q) else none := by
  unfold offC inLow
  cases h : gb s.y j
  · rw [yG_neg s j h, ← sub_eq_add_neg]; exact ⟨_, rfl⟩
  · rw [yG_pos s j h]; exact ⟨_, rfl⟩

/-- the offers of the nu form: the partner is sought inside the class of `j`, against the
violator `gp1` / `gn1` of that class, if there is one -/
def offNu (e : Env α) (s : St α) (gp1 gn1 : α × Option Nat) (j : Nat) : Option (α × α) :=
  if gb s.y j then
    if !reachedLower s j then
      gp1.2.map fun i => (gp1.1 + gf s.grad j,
        selfDist e s i + selfDist e s j - (1 + 1) * gf (dist e s i (ntotal s)) j)
    else none
  else if !reachedUpper s j then
    gn1.2.map fun i => (gn1.1 - gf s.grad j,
      selfDist e s i + selfDist e s j - (1 + 1) * gf (dist e s i (ntotal s)) j)
  else none

theorem selectNuObjMin_eq (e : Env α) (s : St α) (gp1 gn1 : α × Option Nat) :
    selectNuObjMin e s gp1 gn1 = scanAcc e (offNu e s gp1 gn1) s.nactive := by
  unfold selectNuObjMin scanAcc
  dsimp only
  congr 1
  funext m j
  unfold scanStep offNu cand objDec
  -- the model tests `0 < gd` before it looks for the class violator
  cases gb s.y j
  · cases reachedUpper s j
    · cases gn1.2 <;> [exact ite_self m; rfl]
    · rfl
  · cases reachedLower s j
    · cases gp1.2 <;> [exact ite_self m; rfl]
    · rfl

theorem offNu_eq (e : Env α) (s : St α) (gp1 gn1 : α × Option Nat) (j : Nat) :
    ∃ q : Nat → α, offNu e s gp1 gn1 j =
      if inLow s j then
        (if gb s.y j then gp1 else gn1).2.map fun i => ((if gb s.y j then gp1 else gn1).1 + yG s j, q i)
      else none := by
  unfold offNu inLow
  cases h : gb s.y j
  · simp only [yG_neg s j h, ← sub_eq_add_neg]; exact ⟨_, rfl⟩
  · simp only [yG_pos s j h]; exact ⟨_, rfl⟩

/-- **`select_working_set` (plain form) returns a legal working pair**: two distinct active positions -/
theorem selectWorkingSetC_valid (e : Env α) (s : St α) (i j : Nat)
    (h : selectWorkingSetC e s = (i, j, false)) : i ≠ j ∧ i < s.nactive ∧ j < s.nactive := by
  unfold selectWorkingSetC at h
  dsimp only at h
  cases hg : (maxViolatingPair e s).1.2 with
  | none => rw [hg] at h; simp at h
  | some i0 =>
    rw [hg] at h
    dsimp only at h
    cases ho : (selectObjMin e s (maxViolatingPair e s).1.1 i0).2 with
    | none => rw [ho] at h; simp at h
    | some j0 =>
      rw [ho] at h
      dsimp only at h
      split_ifs at h
      · simp at h
      · obtain ⟨rfl, rfl⟩ : i0 = i ∧ j0 = j := by simpa using h
        rw [maxViolatingPair_eq] at hg ho
        rw [selectObjMin_eq] at ho
        obtain ⟨hi, _, hv⟩ := maxAcc_some _ _ _ _ _ _ hg
        obtain ⟨hj, gq, hoff, hpos⟩ := scanAcc_some _ _ _ _ ho
        obtain ⟨q, hq⟩ := offC_eq e s (maxAcc leB e.inf (inUp s) (fun k => -yG s k) s.nactive).1 i0 j0
        rw [hq] at hoff
        split_ifs at hoff
        obtain rfl := Option.some.inj hoff
        refine ⟨?_, hi, hj⟩
        -- the violator has value `-y_i G_i`, its partner has `0 < gmax + y_j G_j`
        rintro rfl
        dsimp only at hv hpos
        rw [hv, neg_add_cancel] at hpos
        exact lt_irrefl _ hpos

/-- **`select_working_set_nu` returns a legal working pair of one class**: two distinct active
positions with the same label (so that each class keeps its own sum `e'α`) -/
theorem selectWorkingSetNu_valid (e : Env α) (s : St α) (i j : Nat)
    (h : selectWorkingSetNu e s = (i, j, false)) :
    i ≠ j ∧ i < s.nactive ∧ j < s.nactive ∧ gb s.y i = gb s.y j := by
  unfold selectWorkingSetNu at h
  dsimp only at h
  cases ho : (selectNuObjMin e s (maxViolatingPairNu e s).1 (maxViolatingPairNu e s).2.1).2 with
  | none => rw [ho] at h; simp at h
  | some j0 =>
    rw [ho] at h
    dsimp only at h
    by_cases hstop : maxS ((maxViolatingPairNu e s).1.1 + (maxViolatingPairNu e s).2.2.1.1)
        ((maxViolatingPairNu e s).2.1.1 + (maxViolatingPairNu e s).2.2.2.1) < e.eps
    · rw [if_pos hstop] at h; simp at h
    · rw [if_neg hstop, maxViolatingPairNu_eq] at h
      rw [selectNuObjMin_eq, maxViolatingPairNu_eq] at ho
      dsimp only at h ho
      obtain ⟨hi0, rfl⟩ : _ = i ∧ j0 = j := by simpa using h
      rw [ite_bool (fun c => (nuUp e s c).2.getD 0)] at hi0
      obtain ⟨hj, gq, hoff, hpos⟩ := scanAcc_some _ _ _ _ ho
      obtain ⟨q, hq⟩ := offNu_eq e s (nuUp e s true) (nuUp e s false) j0
      rw [hq, ite_bool (nuUp e s)] at hoff
      split_ifs at hoff
      -- the offer names the violator `i0` of the class of `j`: it has that label and the value `-y G`
      obtain ⟨i0, hg, rfl⟩ := Option.map_eq_some_iff.mp hoff
      obtain ⟨hi, hc, hv⟩ := maxAcc_some _ _ _ _ _ _ hg
      rw [show (nuUp e s (gb s.y j0)).2 = some i0 from hg, Option.getD_some] at hi0
      subst hi0
      rw [Bool.and_eq_true, beq_iff_eq] at hc
      refine ⟨?_, hi, hj, hc.1⟩
      rintro rfl
      dsimp only at hpos
      rw [show (nuUp e s (gb s.y i0)).1 = -yG s i0 from hv, neg_add_cancel] at hpos
      exact lt_irrefl _ hpos

theorem selectWorkingSet_valid (e : Env α) (s : St α) (i j : Nat)
    (h : selectWorkingSet e s = (i, j, false)) : i ≠ j ∧ i < s.nactive ∧ j < s.nactive := by
  unfold selectWorkingSet at h
  split_ifs at h
  · obtain ⟨a, b, c, _⟩ := selectWorkingSetNu_valid e s i j h
    exact ⟨a, b, c⟩
  · exact selectWorkingSetC_valid e s i j h

def rhoStep (s : St α) (acc : Nat × α × α × α) (i : Nat) : Nat × α × α × α :=
  if reachedUpper s i then
    if gb s.y i then (acc.1, acc.2.1, acc.2.2.1, maxS acc.2.2.2 (yG s i))
    else (acc.1, acc.2.1, minS acc.2.2.1 (yG s i), acc.2.2.2)
  else if reachedLower s i then
    if gb s.y i then (acc.1, acc.2.1, minS acc.2.2.1 (yG s i), acc.2.2.2)
    else (acc.1, acc.2.1, acc.2.2.1, maxS acc.2.2.2 (yG s i))
  else (acc.1 + 1, acc.2.1 + yG s i, acc.2.2.1, acc.2.2.2)

def rhoAcc (e : Env α) (s : St α) (n : Nat) : Nat × α × α × α :=
  (List.range n).foldl (rhoStep s) (0, 0, e.inf, -e.inf)

theorem rhoAcc_succ (e : Env α) (s : St α) (n : Nat) :
    rhoAcc e s (n + 1) = rhoStep s (rhoAcc e s n) n := foldl_range_succ _ _ n

def isFree (s : St α) (k : Nat) : Prop := reachedUpper s k = false ∧ reachedLower s k = false
/-- contributes to `ub`: a negative variable at its upper bound or a positive one at zero -/
def inU (s : St α) (k : Nat) : Prop :=
  (reachedUpper s k = true ∧ gb s.y k = false) ∨
  (reachedUpper s k = false ∧ reachedLower s k = true ∧ gb s.y k = true)
/-- contributes to `lb` -/
def inL (s : St α) (k : Nat) : Prop :=
  (reachedUpper s k = true ∧ gb s.y k = true) ∨
  (reachedUpper s k = false ∧ reachedLower s k = true ∧ gb s.y k = false)

/-- `sum` is the sum and `cnt` the number of the values `val k` with `k < n` and `F k`, as far as
the mean `sum / cnt` is concerned -/
def IsSum (val : Nat → α) (F : Nat → Prop) (n cnt : Nat) (sum : α) : Prop :=
  (∀ c, (∀ k, k < n → F k → val k ≤ c) → sum ≤ (cnt : α) * c) ∧
  (∀ c, (∀ k, k < n → F k → c ≤ val k) → (cnt : α) * c ≤ sum) ∧
  (cnt = 0 → ∀ k, k < n → ¬ F k)

theorem isSum_skip {val : Nat → α} {F : Nat → Prop} {n cnt : Nat} {sum : α}
    (h : IsSum val F n cnt sum) (hn : ¬ F n) : IsSum val F (n + 1) cnt sum := by
  refine ⟨fun c hall => h.1 c fun k hk => hall k (Nat.lt_succ_of_lt hk),
    fun c hall => h.2.1 c fun k hk => hall k (Nat.lt_succ_of_lt hk), fun h0 k hk => ?_⟩
  rcases lt_succ_cases hk with hlt | heq
  · exact h.2.2 h0 k hlt
  · subst heq; exact hn

/-- what a `(nfree, sum_free, ub, lb)` scan over positions `< n` has accumulated: `val` is the scanned
value, `U` / `L` / `F` the positions feeding `ub` / `lb` / the free sum -/
structure RhoInvG (inf : α) (val : Nat → α) (U L F : Nat → Prop) (n : Nat) (r : Nat × α × α × α) : Prop where
  ub : IsBound (· ≤ ·) inf val U n r.2.2.1
  lb : IsBound (· ≥ ·) (-inf) val L n r.2.2.2
  free : IsSum val F n r.1 r.2.1

theorem rhoInv_zero (inf : α) (val : Nat → α) (U L F : Nat → Prop) :
    RhoInvG inf val U L F 0 (0, 0, inf, -inf) :=
  ⟨⟨fun k hk => absurd hk (Nat.not_lt_zero k), fun _ hc _ => hc⟩,
   ⟨fun k hk => absurd hk (Nat.not_lt_zero k), fun _ hc _ => hc⟩,
   ⟨fun c _ => by simp, fun c _ => by simp, fun _ k hk => absurd hk (Nat.not_lt_zero k)⟩⟩

def rhoNuStep (s : St α) (cls : Bool) (acc : Nat × α × α × α) (i : Nat) : Nat × α × α × α :=
  if gb s.y i == cls then
    if reachedUpper s i then (acc.1, acc.2.1, acc.2.2.1, maxS acc.2.2.2 (gf s.grad i))
    else if reachedLower s i then (acc.1, acc.2.1, minS acc.2.2.1 (gf s.grad i), acc.2.2.2)
    else (acc.1 + 1, acc.2.1 + gf s.grad i, acc.2.2.1, acc.2.2.2)
  else acc

def rhoNuAcc (e : Env α) (s : St α) (cls : Bool) (n : Nat) : Nat × α × α × α :=
  (List.range n).foldl (rhoNuStep s cls) (0, 0, e.inf, -e.inf)

theorem rhoNuAcc_succ (e : Env α) (s : St α) (cls : Bool) (n : Nat) :
    rhoNuAcc e s cls (n + 1) = rhoNuStep s cls (rhoNuAcc e s cls n) n := foldl_range_succ _ _ n

def nuU (s : St α) (cls : Bool) (k : Nat) : Prop :=
  gb s.y k = cls ∧ reachedUpper s k = false ∧ reachedLower s k = true
def nuL (s : St α) (cls : Bool) (k : Nat) : Prop := gb s.y k = cls ∧ reachedUpper s k = true
def nuF (s : St α) (cls : Bool) (k : Nat) : Prop :=
  gb s.y k = cls ∧ reachedUpper s k = false ∧ reachedLower s k = false

/-- the value `calculate_rho(_nu)` computes from the result of its scan -/
def rhoOf (r : Nat × α × α × α) : α :=
  if 0 < r.1 then r.2.1 / ((r.1 : Nat) : α) else (r.2.2.1 + r.2.2.2) / (1 + 1)

theorem calculateRhoC_eq (e : Env α) (s : St α) :
    calculateRhoC e s = rhoOf (rhoAcc e s s.nactive) := rfl

theorem rhoNuClass_eq (e : Env α) (s : St α) (cls : Bool) :
    rhoNuClass e s cls = rhoOf (rhoNuAcc e s cls s.nactive) := rfl

/-- the clause set of the oracle clause `kkt` (and `kkt_margin` of C-classification fits, where
`p = -1`): with `v_i = -y_i G_i + rho`, every `i ∈ I_up` has `v_i ≤ eps` and every `i ∈ I_low` has
`v_i ≥ -eps` (so a free variable has `|v_i| ≤ eps`) -/
def KktEps (s : St α) (rho eps : α) : Prop :=
  ∀ i, i < s.nactive →
    (inUp s i = true → -(tgt s i * gf s.grad i) + rho ≤ eps) ∧
    (inLow s i = true → -eps ≤ -(tgt s i * gf s.grad i) + rho)

/-- `I_up` is what feeds the free sum or `ub`, provided "at the upper bound" excludes "at zero" -/
theorem inUp_iff (s : St α) (i : Nat) (hul : reachedUpper s i = true → reachedLower s i = false) :
    inUp s i = true ↔ isFree s i ∨ inU s i := by
  unfold inUp isFree inU
  cases hu : reachedUpper s i <;> cases hl : reachedLower s i <;> cases hy : gb s.y i <;> simp_all

theorem inLow_iff (s : St α) (i : Nat) (hul : reachedUpper s i = true → reachedLower s i = false) :
    inLow s i = true ↔ isFree s i ∨ inL s i := by
  unfold inLow isFree inL
  cases hu : reachedUpper s i <;> cases hl : reachedLower s i <;> cases hy : gb s.y i <;> simp_all

/-- the clause set of the oracle clause `kkt_nu`: with `r_c` the multiplier of the class of `i`,
a variable below its bound has `G_i ≥ r_c - eps`, a variable above zero has `G_i ≤ r_c + eps` -/
def KktNuEps (s : St α) (rpos rneg eps : α) : Prop :=
  ∀ i, i < s.nactive →
    (reachedUpper s i = false → (if gb s.y i then rpos else rneg) - eps ≤ gf s.grad i) ∧
    (reachedLower s i = false → gf s.grad i ≤ (if gb s.y i then rpos else rneg) + eps)

theorem belowUpper_iff_nuF_or_nuU (s : St α) (cls : Bool) (i : Nat) :
    gb s.y i = cls ∧ reachedUpper s i = false ↔ nuF s cls i ∨ nuU s cls i := by
  unfold nuF nuU
  cases reachedLower s i <;> simp

theorem aboveZero_iff_nuF_or_nuL (s : St α) (cls : Bool) (i : Nat)
    (hul : reachedUpper s i = true → reachedLower s i = false) :
    gb s.y i = cls ∧ reachedLower s i = false ↔ nuF s cls i ∨ nuL s cls i := by
  unfold nuF nuL
  cases hu : reachedUpper s i <;> simp_all

/-- inside the negative class `I_up` and `I_low` trade places when read on `G` instead of `y G` -/
theorem nuGap_grad (s : St α) (c : Bool) (eps : α)
    (hgap : ∀ i j, i < s.nactive → j < s.nactive → gb s.y i = c → gb s.y j = c →
      inUp s i = true → inLow s j = true → -yG s i + yG s j ≤ eps) :
    ∀ i j, i < s.nactive → j < s.nactive → gb s.y i = c → gb s.y j = c →
      reachedUpper s i = false → reachedLower s j = false → gf s.grad j - gf s.grad i ≤ eps := by
  intro i j hi hj hci hcj hu hl
  cases c
  · have := hgap j i hj hi hcj hci (by simp [inUp, hcj, hl]) (by simp [inLow, hci, hu])
    rwa [yG_neg s j hcj, yG_neg s i hci, neg_neg, ← sub_eq_add_neg] at this
  · have := hgap i j hi hj hci hcj (by simp [inUp, hci, hu]) (by simp [inLow, hcj, hl])
    rwa [yG_pos s i hci, yG_pos s j hcj, neg_add_eq_sub] at this

theorem upper_not_lower (s : St α) (k : Nat) (hpos : 0 < gf s.ub k) :
    reachedUpper s k = true → reachedLower s k = false := by
  unfold reachedUpper reachedLower
  intro h
  have h1 : gf s.ub k ≤ gf s.alpha k := by simpa using h
  have h2 : 0 < gf s.alpha k := lt_of_lt_of_le hpos h1
  simp [h2]

end scan

section kkt
variable {α : Type} [Field α] [LinearOrder α] [IsStrictOrderedRing α]

theorem objDec_nonpos (e : Env α) (gd q : α) (htiny : 0 < e.tiny) : objDec e gd q ≤ 0 := by
  have hsq : -(gd * gd) ≤ 0 := neg_nonpos.mpr (mul_self_nonneg gd)
  unfold objDec
  split_ifs with hq
  · exact div_nonpos_of_nonpos_of_nonneg hsq (le_of_lt hq)
  · exact div_nonpos_of_nonpos_of_nonneg hsq (le_of_lt htiny)

/-- an accumulator still at `inf` accepts every candidate with `0 < gd` -/
theorem cand_spec (e : Env α) (gd q : α) (m : α × Option Nat) (j : Nat)
    (htiny : 0 < e.tiny) (hinf : 0 ≤ e.inf) (h : (cand e gd q m j).2 = none) :
    cand e gd q m j = m ∧ (m.1 = e.inf → ¬ 0 < gd) := by
  unfold cand at h ⊢
  by_cases h1 : 0 < gd
  · rw [if_pos h1] at h ⊢
    by_cases h2 : objDec e gd q ≤ m.1
    · rw [if_pos h2] at h; cases h
    · exact ⟨if_neg h2, fun hm => absurd (hm ▸ le_trans (objDec_nonpos e gd q htiny) hinf) h2⟩
  · exact ⟨if_neg h1, fun _ => h1⟩

theorem scanAcc_none (e : Env α) (off : Nat → Option (α × α)) (n : Nat) (htiny : 0 < e.tiny)
    (hinf : 0 ≤ e.inf) :
    (scanAcc e off n).2 = none →
      (scanAcc e off n).1 = e.inf ∧ ∀ j, j < n → ∀ gq, off j = some gq → gq.1 ≤ 0 := by
  induction n with
  | zero => intro _; exact ⟨rfl, fun j hj => absurd hj (Nat.not_lt_zero j)⟩
  | succ n ih =>
    rw [scanAcc_succ, scanStep]
    cases ho : off n with
    | none =>
      intro h
      refine ⟨(ih h).1, fun j hj gq hgq => ?_⟩
      rcases lt_succ_cases hj with hlt | heq
      · exact (ih h).2 j hlt gq hgq
      · rw [heq, ho] at hgq; cases hgq
    | some gq =>
      dsimp only
      intro h
      obtain ⟨c1, c2⟩ := cand_spec e gq.1 gq.2 (scanAcc e off n) n htiny hinf h
      rw [c1] at h ⊢
      refine ⟨(ih h).1, fun j hj gq' hgq => ?_⟩
      rcases lt_succ_cases hj with hlt | heq
      · exact (ih h).2 j hlt gq' hgq
      · rw [heq, ho] at hgq
        obtain rfl := Option.some.inj hgq
        exact not_lt.mp (c2 (ih h).1)

theorem exit_test_gap (e : Env α) (s : St α)
    (hstop : (maxViolatingPair e s).1.1 + (maxViolatingPair e s).2.1 < e.eps) :
    ∀ i j, i < s.nactive → j < s.nactive → inUp s i = true → inLow s j = true →
      -yG s i + yG s j ≤ e.eps := by
  intro i j hi hj hiu hjl
  rw [maxViolatingPair_eq] at hstop
  have a := maxAcc_ge isCmp_leB e.inf (inUp s) (fun k => -yG s k) _ i hi hiu
  have b := maxAcc_ge isCmp_leB e.inf (inLow s) (yG s) _ j hj hjl
  dsimp only at hstop a
  linarith

/-- **the optimality flag of `select_working_set` (plain form) bounds every pair**: whichever of
its three reasons made it answer `is_optimal` (no candidate in `I_up`, no partner with a positive
gradient difference, or `gmax + gmax2 < eps`) -/
theorem optimal_flag_gap (e : Env α) (s : St α) (heps : 0 ≤ e.eps) (htiny : 0 < e.tiny)
    (hinf : 0 ≤ e.inf) (hdom : ∀ k, k < s.nactive → -e.inf ≤ yG s k ∧ yG s k ≤ e.inf)
    (hopt : (selectWorkingSetC e s).2.2 = true) :
    ∀ i j, i < s.nactive → j < s.nactive → inUp s i = true → inLow s j = true →
      -yG s i + yG s j ≤ e.eps := by
  intro i j hi hj hiu hjl
  unfold selectWorkingSetC at hopt
  dsimp only at hopt
  have hmv := maxViolatingPair_eq e s
  cases hg : (maxViolatingPair e s).1.2 with
  | none =>
    rw [hmv] at hg
    have := (maxAcc_none leB e.inf (inUp s) (fun k => -yG s k) s.nactive
      (fun k hk => decide_eq_true (by linarith [(hdom k hk).2])) hg).2 i hi
    rw [this] at hiu
    cases hiu
  | some i0 =>
    rw [hg] at hopt
    dsimp only at hopt
    cases ho : (selectObjMin e s (maxViolatingPair e s).1.1 i0).2 with
    | none =>
      rw [selectObjMin_eq] at ho
      obtain ⟨q, hq⟩ := offC_eq e s (maxViolatingPair e s).1.1 i0 j
      rw [if_pos hjl] at hq
      have h1 := (scanAcc_none e _ s.nactive htiny hinf ho).2 j hj _ hq
      have h2 := maxAcc_ge isCmp_leB e.inf (inUp s) (fun k => -yG s k) _ i hi hiu
      rw [hmv] at h1
      dsimp only at h1 h2
      linarith
    | some j0 =>
      rw [ho] at hopt
      dsimp only at hopt
      by_cases hstop : (maxViolatingPair e s).1.1 + (maxViolatingPair e s).2.1 < e.eps
      · exact exit_test_gap e s hstop i j hi hj hiu hjl
      · simp [hstop] at hopt

set_option linter.unusedSectionVars false in
theorem le_maxS_left (a b : α) : a ≤ maxS a b := maxS_eq_max a b ▸ le_max_left a b

theorem exit_test_gap_nu (e : Env α) (s : St α)
    (hstop : maxS ((maxViolatingPairNu e s).1.1 + (maxViolatingPairNu e s).2.2.1.1)
      ((maxViolatingPairNu e s).2.1.1 + (maxViolatingPairNu e s).2.2.2.1) < e.eps) (c : Bool) :
    ∀ i j, i < s.nactive → j < s.nactive → gb s.y i = c → gb s.y j = c →
      inUp s i = true → inLow s j = true → -yG s i + yG s j ≤ e.eps := by
  intro i j hi hj hci hcj hiu hjl
  have a := nuUp_ge e s c i hi hci hiu
  have b : yG s j ≤ (nuLow e s c).1 :=
    maxAcc_ge isCmp_ltB e.inf (fun k => (gb s.y k == c) && inLow s k) (yG s) _ j hj (by simp [hcj, hjl])
  rw [maxViolatingPairNu_eq, maxS_eq_max, max_lt_iff] at hstop
  dsimp only at hstop
  cases c
  · linarith [hstop.2]
  · linarith [hstop.1]

/-- **the optimality flag of `select_working_set_nu` bounds every pair of one class** (either reason:
an empty second-order scan or the stopping test) -/
theorem optimal_flag_gap_nu (e : Env α) (s : St α) (heps : 0 ≤ e.eps) (htiny : 0 < e.tiny)
    (hinf : 0 ≤ e.inf) (hdom : ∀ k, k < s.nactive → -e.inf < yG s k ∧ yG s k < e.inf)
    (hopt : (selectWorkingSetNu e s).2.2 = true) (c : Bool) :
    ∀ i j, i < s.nactive → j < s.nactive → gb s.y i = c → gb s.y j = c →
      inUp s i = true → inLow s j = true → -yG s i + yG s j ≤ e.eps := by
  intro i j hi hj hci hcj hiu hjl
  unfold selectWorkingSetNu at hopt
  dsimp only at hopt
  cases ho : (selectNuObjMin e s (maxViolatingPairNu e s).1 (maxViolatingPairNu e s).2.1).2 with
  | none =>
    -- the scan offered `j` against the violator of its class, whose value dominates `-y_i G_i`
    rw [selectNuObjMin_eq, maxViolatingPairNu_eq] at ho
    obtain ⟨_, hscan⟩ := scanAcc_none e _ s.nactive htiny hinf ho
    obtain ⟨q, hq⟩ := offNu_eq e s (nuUp e s true) (nuUp e s false) j
    rw [if_pos hjl, ite_bool (nuUp e s), hcj] at hq
    cases hg : (nuUp e s c).2 with
    | none =>
      have := (maxAcc_none ltB e.inf (fun k => (gb s.y k == c) && inUp s k) _ s.nactive
        (fun k hk => decide_eq_true (neg_lt_neg (hdom k hk).2)) hg).2 i hi
      simp [hci, hiu] at this
    | some i0 =>
      rw [hg] at hq
      have h1 := hscan j hj _ hq
      have h2 := nuUp_ge e s c i hi hci hiu
      dsimp only at h1
      linarith
  | some j0 =>
    rw [ho] at hopt
    dsimp only at hopt
    by_cases hstop : maxS ((maxViolatingPairNu e s).1.1 + (maxViolatingPairNu e s).2.2.1.1)
        ((maxViolatingPairNu e s).2.1.1 + (maxViolatingPairNu e s).2.2.2.1) < e.eps
    · exact exit_test_gap_nu e s hstop c i j hi hj hci hcj hiu hjl
    · simp [hstop] at hopt

theorem isSum_add {val : Nat → α} {F : Nat → Prop} {n cnt : Nat} {sum : α}
    (h : IsSum val F n cnt sum) (hf : F n) : IsSum val F (n + 1) (cnt + 1) (sum + val n) := by
  refine ⟨fun c hall => ?_, fun c hall => ?_, fun h0 => absurd h0 (Nat.succ_ne_zero cnt)⟩
  · have h1 := h.1 c fun k hk => hall k (Nat.lt_succ_of_lt hk)
    have h2 := hall n (Nat.lt_succ_self n) hf
    push_cast
    linarith
  · have h1 := h.2.1 c fun k hk => hall k (Nat.lt_succ_of_lt hk)
    have h2 := hall n (Nat.lt_succ_self n) hf
    push_cast
    linarith

theorem rhoAcc_inv (e : Env α) (s : St α) (n : Nat) :
    RhoInvG e.inf (yG s) (inU s) (inL s) (isFree s) n (rhoAcc e s n) := by
  induction n with
  | zero => exact rhoInv_zero _ _ _ _ _
  | succ n ih =>
    rw [rhoAcc_succ]
    unfold rhoStep
    cases hu : reachedUpper s n
    · cases hl : reachedLower s n
      · -- free
        exact ⟨isBound_skip ih.ub (by simp [inU, hu, hl]), isBound_skip ih.lb (by simp [inL, hu, hl]),
          isSum_add ih.free ⟨hu, hl⟩⟩
      · cases hy : gb s.y n
        · -- negative, at zero: feeds `lb`
          exact ⟨isBound_skip ih.ub (by simp [inU, hu, hy]), isBound_addMax ih.lb (by simp [inL, hu, hl, hy]),
            isSum_skip ih.free (by simp [isFree, hl])⟩
        · -- positive, at zero: feeds `ub`
          exact ⟨isBound_addMin ih.ub (by simp [inU, hu, hl, hy]), isBound_skip ih.lb (by simp [inL, hu, hy]),
            isSum_skip ih.free (by simp [isFree, hl])⟩
    · cases hy : gb s.y n
      · -- negative, at the upper bound: feeds `ub`
        exact ⟨isBound_addMin ih.ub (by simp [inU, hu, hy]), isBound_skip ih.lb (by simp [inL, hu, hy]),
          isSum_skip ih.free (by simp [isFree, hu])⟩
      · -- positive, at the upper bound: feeds `lb`
        exact ⟨isBound_skip ih.ub (by simp [inU, hu, hy]), isBound_addMax ih.lb (by simp [inL, hu, hy]),
          isSum_skip ih.free (by simp [isFree, hu])⟩

theorem rhoNuAcc_inv (e : Env α) (s : St α) (cls : Bool) (n : Nat) :
    RhoInvG e.inf (gf s.grad) (nuU s cls) (nuL s cls) (nuF s cls) n (rhoNuAcc e s cls n) := by
  induction n with
  | zero => exact rhoInv_zero _ _ _ _ _
  | succ n ih =>
    rw [rhoNuAcc_succ]
    unfold rhoNuStep
    by_cases hc : gb s.y n = cls
    · rw [if_pos (beq_iff_eq.mpr hc)]
      cases hu : reachedUpper s n
      · cases hl : reachedLower s n
        · -- free
          exact ⟨isBound_skip ih.ub (by simp [nuU, hl]), isBound_skip ih.lb (by simp [nuL, hu]),
            isSum_add ih.free ⟨hc, hu, hl⟩⟩
        · -- at zero: feeds `ub`
          exact ⟨isBound_addMin ih.ub ⟨hc, hu, hl⟩, isBound_skip ih.lb (by simp [nuL, hu]),
            isSum_skip ih.free (by simp [nuF, hl])⟩
      · -- at the upper bound: feeds `lb`
        exact ⟨isBound_skip ih.ub (by simp [nuU, hu]), isBound_addMax ih.lb ⟨hc, hu⟩,
          isSum_skip ih.free (by simp [nuF, hu])⟩
    · -- the other class
      rw [if_neg (fun h => hc (beq_iff_eq.mp h))]
      exact ⟨isBound_skip ih.ub (by simp [nuU, hc]), isBound_skip ih.lb (by simp [nuL, hc]),
        isSum_skip ih.free (by simp [nuF, hc])⟩

/-- if `val j - val i ≤ eps` whenever `i` feeds the free sum or `ub` and `j` the free sum or `lb`,
then `rho` is within `eps` below the former values and within `eps` above the latter: `rho` is the
mean of the free values, or without any the midpoint of `ub` and `lb` -/
theorem rhoInv_kkt {inf eps : α} {val : Nat → α} {U L F : Nat → Prop} {n : Nat} {r : Nat × α × α × α}
    (inv : RhoInvG inf val U L F n r) (heps : 0 ≤ eps)
    (hdom : ∀ k, k < n → -inf ≤ val k ∧ val k ≤ inf)
    (hgap : ∀ i j, i < n → j < n → F i ∨ U i → F j ∨ L j → val j - val i ≤ eps)
    (i : Nat) (hi : i < n) :
    (F i ∨ U i → rhoOf r - eps ≤ val i) ∧ (F i ∨ L i → val i ≤ rhoOf r + eps) := by
  have h2 : (0 : α) < 1 + 1 := by norm_num
  unfold rhoOf
  by_cases hn : 0 < r.1
  · rw [if_pos hn]
    have hnf : (0 : α) < ((r.1 : Nat) : α) := Nat.cast_pos.mpr hn
    constructor
    · intro hin
      have h := inv.free.1 (val i + eps) fun k hk hF =>
        sub_le_iff_le_add'.mp (hgap i k hi hk hin (Or.inl hF))
      exact sub_le_iff_le_add.mpr ((div_le_iff₀ hnf).mpr (by rw [mul_comm]; exact h))
    · intro hin
      have h := inv.free.2.1 (val i - eps) fun k hk hF =>
        sub_le_comm.mp (hgap k i hk hi (Or.inl hF) hin)
      exact sub_le_iff_le_add.mp ((le_div_iff₀ hnf).mpr (by rw [mul_comm]; exact h))
  · rw [if_neg hn]
    have hnofree := inv.free.2.2 (Nat.eq_zero_of_not_pos hn)
    constructor
    · intro hin
      have h1 := inv.ub.1 i hi (hin.resolve_left (hnofree i hi))
      have h3 := inv.lb.2 (val i + eps) (le_trans (hdom i hi).1 (le_add_of_nonneg_right heps))
        fun k hk hL => sub_le_iff_le_add'.mp (hgap i k hi hk hin (Or.inr hL))
      exact sub_le_iff_le_add.mpr ((div_le_iff₀ h2).mpr (by linarith))
    · intro hin
      have h1 := inv.lb.1 i hi (hin.resolve_left (hnofree i hi))
      have h3 := inv.ub.2 (val i - eps) (le_trans (sub_le_self _ heps) (hdom i hi).2)
        fun k hk hU => sub_le_comm.mp (hgap k i hk hi (Or.inr hU) hin)
      exact sub_le_iff_le_add.mp ((le_div_iff₀ h2).mpr (by linarith))

theorem gap_implies_kkt (e : Env α) (s : St α) (heps : 0 ≤ e.eps)
    (hul : ∀ k, k < s.nactive → reachedUpper s k = true → reachedLower s k = false)
    (hdom : ∀ k, k < s.nactive → -e.inf ≤ yG s k ∧ yG s k ≤ e.inf)
    (hgap : ∀ i j, i < s.nactive → j < s.nactive → inUp s i = true → inLow s j = true →
      -yG s i + yG s j ≤ e.eps) :
    KktEps s (calculateRhoC e s) e.eps := by
  intro i hi
  obtain ⟨h1, h2⟩ := rhoInv_kkt (rhoAcc_inv e s s.nactive) heps hdom
    (fun i j hi hj hiu hjl => by
      rw [sub_eq_neg_add]
      exact hgap i j hi hj ((inUp_iff s i (hul i hi)).mpr hiu) ((inLow_iff s j (hul j hj)).mpr hjl))
    i hi
  rw [calculateRhoC_eq]
  refine ⟨fun h => ?_, fun h => ?_⟩
  · have := h1 ((inUp_iff s i (hul i hi)).mp h)
    show -yG s i + _ ≤ _
    linarith
  · have := h2 ((inLow_iff s i (hul i hi)).mp h)
    show _ ≤ -yG s i + _
    linarith

theorem nu_gap_class (e : Env α) (s : St α) (cls : Bool) (heps : 0 ≤ e.eps)
    (hul : ∀ k, k < s.nactive → reachedUpper s k = true → reachedLower s k = false)
    (hdom : ∀ k, k < s.nactive → -e.inf ≤ gf s.grad k ∧ gf s.grad k ≤ e.inf)
    (hgap : ∀ i j, i < s.nactive → j < s.nactive → gb s.y i = cls → gb s.y j = cls →
      inUp s i = true → inLow s j = true → -yG s i + yG s j ≤ e.eps) :
    ∀ i, i < s.nactive → gb s.y i = cls →
      (reachedUpper s i = false → rhoNuClass e s cls - e.eps ≤ gf s.grad i) ∧
      (reachedLower s i = false → gf s.grad i ≤ rhoNuClass e s cls + e.eps) := by
  intro i hi hci
  obtain ⟨h1, h2⟩ := rhoInv_kkt (rhoNuAcc_inv e s cls s.nactive) heps hdom
    (fun i j hi hj hiu hjl => by
      obtain ⟨a, b⟩ := (belowUpper_iff_nuF_or_nuU s cls i).mpr hiu
      obtain ⟨c, d⟩ := (aboveZero_iff_nuF_or_nuL s cls j (hul j hj)).mpr hjl
      exact nuGap_grad s cls e.eps hgap i j hi hj a c b d)
    i hi
  rw [rhoNuClass_eq]
  exact ⟨fun h => h1 ((belowUpper_iff_nuF_or_nuU s cls i).mp ⟨hci, h⟩),
    fun h => h2 ((aboveZero_iff_nuF_or_nuL s cls i (hul i hi)).mp ⟨hci, h⟩)⟩

theorem gap_implies_kkt_nu (e : Env α) (s : St α) (heps : 0 ≤ e.eps)
    (hul : ∀ k, k < s.nactive → reachedUpper s k = true → reachedLower s k = false)
    (hdom : ∀ k, k < s.nactive → -e.inf ≤ gf s.grad k ∧ gf s.grad k ≤ e.inf)
    (hgap : ∀ c i j, i < s.nactive → j < s.nactive → gb s.y i = c → gb s.y j = c →
      inUp s i = true → inLow s j = true → -yG s i + yG s j ≤ e.eps) :
    KktNuEps s (rhoNuClass e s true) (rhoNuClass e s false) e.eps := by
  intro i hi
  have h := nu_gap_class e s (gb s.y i) heps hul hdom (hgap _) i hi rfl
  cases hy : gb s.y i <;> rw [hy] at h <;> exact h

theorem dom_yG (e : Env α) (s : St α) (k : Nat)
    (h : -e.inf ≤ gf s.grad k ∧ gf s.grad k ≤ e.inf) : -e.inf ≤ yG s k ∧ yG s k ≤ e.inf := by
  cases hy : gb s.y k
  · rw [yG_neg s k hy]; exact ⟨neg_le_neg h.2, neg_le.mp h.1⟩
  · rw [yG_pos s k hy]; exact h

theorem dom_yG_lt (e : Env α) (s : St α) (k : Nat)
    (h : -e.inf < gf s.grad k ∧ gf s.grad k < e.inf) : -e.inf < yG s k ∧ yG s k < e.inf := by
  cases hy : gb s.y k
  · rw [yG_neg s k hy]; exact ⟨neg_lt_neg h.2, neg_lt.mp h.1⟩
  · rw [yG_pos s k hy]; exact h

end kkt
end LinfaSpec.Smo
