import LinfaSpec.Proofs.Serde
import LinfaSpec.Props.C19
import LinfaSpec.Gen.C19Types

/-!
# C19 — obligations about the schema table generated from the Rust sources

`LinfaSpec.Gen.C19Types.types` is rewritten by `tools/serde2lean.py` on every check from the current
linfa sources (every `struct` / `enum` deriving serde, its fields / variants and their serde
attributes).  The statements below are the hypotheses of the glue theorems of `Props/C19.lean`
(`struct_named_roundtrip`, `no_skip_roundtrip_identity`, `variant_index_roundtrip`) instantiated on that
table, and the check that the table carries no attribute the glue model does not interpret.  They are closed facts about
the generated text, checked by kernel evaluation: a new `serde(skip)`, a skipped variant moved in front
of a live one, a `skip_serializing_if` / `default` / `with` attribute or a duplicated field name in the
sources makes the corresponding obligation fail to build.
-/
namespace LinfaSpec.Props.GenC19
open LinfaSpec.Wire LinfaSpec.Serde LinfaSpec.Gen.C19Types

/-- **the members excluded from serialisation are exactly the two reviewed ones** (`skip_reviewed`):
`linfa::Error::NdShape` (a foreign error type, never produced by a round trip) and the tokenizer
function pointer of the count vectoriser (guarded by `tokenizer_deserialization_guard`).  For every
other type `no_skip_roundtrip_identity` applies: the restored fields are the original fields. -/
theorem skips_are_the_reviewed_ones :
    skipTable types = [("linfa::Error", ["NdShape"]),
      ("linfa-preprocessing::CountVectorizerValidParams", ["tokenizer_function"])] := by
  decide +kernel

/-- **no enum declares a skipped variant before a live one**: hypothesis of `variant_index_roundtrip`
for every enum of the workspace (the `linfa::Error` defect cannot come back unnoticed) -/
theorem enums_skipped_last : types.all (fun t => skippedLast t.variants) = true := by
  decide +kernel

/-- **the table carries none of the serde attributes the glue model does not interpret** (`skip_serializing_if`,
one-sided skips, `default`, `with`, `rename`, `flatten`, tagging options, …: `conditionalFlags`), i.e. the model
applies to today's sources: no member's presence or key on the wire depends on its value or on the direction -/
theorem no_conditional_members : flagTable types = [] :=
  flagTable_eq_nil types (by decide +kernel)

/-- the live field names of every struct (and struct variant) are distinct as wire keys: hypothesis of
`struct_named_roundtrip` -/
theorem struct_keys_distinct :
    types.all (fun t => nodupStrings (liveKeys t.fields) &&
      t.variants.all fun w => nodupStrings (liveKeys w.fields)) = true := by
  simp only [nodupStrings_liveKeys]
  decide +kernel

/-- the live variant names of every enum are distinct: hypothesis of `variant_index_shifted_by_leading_skip`
(which would apply to any enum that came to violate `enums_skipped_last`) -/
theorem variant_names_distinct : types.all (fun t => nodupStrings (liveNames t.variants)) = true := by
  decide +kernel

/-- **witness of the open finding `C19-error-ndshape-unserialisable`**: today's `linfa::Error` has a variant the
serialiser refuses (`serIndex` = `none`; general form: `Props.C19.skipped_variant_not_serialisable`) — a value of a
serde type that does not survive a round trip because it cannot even be written.  Replayed on the real code by the
harness (`#serialise type=linfa::Error variant=NdShape`, `varidx … ser=-`). -/
theorem error_ndshape_not_serialisable :
    (types.find? fun t => t.id == "linfa::Error").map (fun t => serIndex "NdShape" t.variants) = some none := by
  decide +kernel

/-- bridging lemma: a type without excluded members has no skipped field -/
theorem fields_live_of_skipsOf_nil (t : TypeInfo) (h : skipsOf t = []) :
    t.fields.all (fun f => !f.skip) = true := by
  rw [skipsOf, List.append_eq_nil_iff, List.map_eq_nil_iff, List.filter_eq_nil_iff] at h
  exact List.all_eq_true.mpr fun f hf => by simpa using h.1 f hf

/-- **every entry of today's table other than the count-vectoriser parameters restores all its fields
unchanged**, whatever the values and whatever a skipped field's default would be: the glue theorem
`no_skip_roundtrip_identity` applied to the generated table through `skips_are_the_reviewed_ones`.  `linfa::Error`
is excluded too only because `skipsOf` also lists its skipped variant; it has no fields, like every enum. -/
theorem all_other_structs_restore_identically (t : TypeInfo) (ht : t ∈ types)
    (hid : t.id ≠ "linfa::Error" ∧ t.id ≠ "linfa-preprocessing::CountVectorizerValidParams")
    (dflt : FieldInfo → Val) (vs : List Val) (hl : t.fields.length = vs.length) :
    restore dflt t.fields vs = vs := by
  refine LinfaSpec.Props.C19.no_skip_roundtrip_identity dflt t.fields vs hl (fields_live_of_skipsOf_nil t ?_)
  false_or_by_contra; rename_i hnil
  have hmem : (t.id, skipsOf t) ∈ skipTable types :=
    List.mem_filter.mpr ⟨List.mem_map_of_mem (f := fun t => (t.id, skipsOf t)) ht, by simpa using hnil⟩
  rw [skips_are_the_reviewed_ones] at hmem
  simp only [List.mem_cons, Prod.mk.injEq, List.not_mem_nil, or_false] at hmem
  exact hmem.elim (fun h => hid.1 h.1) (fun h => hid.2 h.1)

example : ∃ t, t ∈ types ∧ t.id = "linfa-clustering::Sample" := by decide +kernel

end LinfaSpec.Props.GenC19
