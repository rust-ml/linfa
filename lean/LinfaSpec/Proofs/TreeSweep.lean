import LinfaSpec.Proofs.Tree
import Mathlib.Algebra.Order.Field.Basic
import Mathlib.Tactic.Linarith
import Mathlib.Tactic.Ring
import Mathlib.Algebra.BigOperators.Group.List.Basic
import Mathlib.Algebra.Order.BigOperators.Group.List

/-!
C14 over ordered fields: every split the presorted sweep of `TreeNode::fit` evaluates is scored on the
partition that `fit` then applies (`mem_sweepGo` → `sweepGo_candAt` → `moved_perm_left` →
`candidates_spec`), and what follows for `fit`: both sides of a split receive rows, the call returns,
leaves predict modes, the hash maps' iteration order does not matter.
-/
namespace LinfaSpec.Tree
open LinfaSpec

section loop
variable {α β : Type}
variable [Add α] [Sub α] [Div α] [Neg α] [LT α] [DecidableLT α] [LE α] [DecidableLE α]
  [OfNat α 0] [NatCast α]
variable [Add β] [Sub β] [Mul β] [Div β] [Neg β] [LT β] [DecidableLT β]
  [OfNat β 0] [OfNat β 1]

/-! ### the loop of the sweep -/

/-- the locals of the loop: running class weights and total weights of the two sides -/
structure Locals (β : Type) where
  fL : List β
  fR : List β
  wL : β
  wR : β

namespace Locals

/-- the bookkeeping of the loop body when row `i` changes sides -/
def move (D : Data α β) (st : Locals β) (i : Nat) : Locals β :=
  ⟨addAt st.fL (D.y i) (D.w i), subAt st.fR (D.y i) (D.w i), st.wL + D.w i, st.wR - D.w i⟩

/-- the locals once the loop has passed the sorted positions `pre` -/
def after (D : Data α β) (mask : List Bool) (st : Locals β) (pre : List (Nat × α)) : Locals β :=
  pre.foldl (fun st x => if mask.getD x.1 false then st.move D x.1 else st) st

/-- the candidate the loop emits between the consecutive sorted values `v`, `v'` -/
def cand (P : Params α β) (D : Data α β) (f : Nat) (total : β) (v v' : α) (st : Locals β) : Cand α β :=
  { feat := f
    split := if v ≤ (v + v') / ((2 : Nat) : α) ∧ (v + v') / ((2 : Nat) : α) < v' then (v + v') / ((2 : Nat) : α) else v
    score := st.wR / total * impurity P (inLabelOrder D st.fR) +
      (1 - st.wR / total) * impurity P (inLabelOrder D st.fL)
    wL := st.wL, wR := st.wR, fL := st.fL, fR := st.fR
    ok := impOk (inLabelOrder D st.fR) && impOk (inLabelOrder D st.fL) }

end Locals

theorem mem_sweepGo_cons (P : Params α β) (D : Data α β) (mask : List Bool) (f : Nat) (total : β)
    (c : Cand α β) (st : Locals β) (i j : Nat) (v v' : α) (rest : List (Nat × α))
    (h : c ∈ sweepGo P D mask f total st.fL st.fR st.wL st.wR ((i, v) :: (j, v') :: rest)) :
    (mask.getD i false = true ∧ ¬ ((v ≤ v' ∧ v' ≤ v) ∨ absS (v - v') < P.eps) ∧
      ¬ ((st.move D i).wR < P.minLeaf ∨ (st.move D i).wL < P.minLeaf) ∧
      c = (st.move D i).cand P D f total v v') ∨
    c ∈ sweepGo P D mask f total (if mask.getD i false then st.move D i else st).fL
      (if mask.getD i false then st.move D i else st).fR (if mask.getD i false then st.move D i else st).wL
      (if mask.getD i false then st.move D i else st).wR ((j, v') :: rest) := by
  rw [sweepGo] at h
  by_cases hm : mask.getD i false = true
  · simp only [if_pos hm] at h ⊢
    by_cases hskip : (v ≤ v' ∧ v' ≤ v) ∨ absS (v - v') < P.eps
    · rw [if_pos hskip] at h; exact Or.inr h
    rw [if_neg hskip] at h
    by_cases hml : st.wR - D.w i < P.minLeaf ∨ st.wL + D.w i < P.minLeaf
    · rw [if_pos hml] at h; exact Or.inr h
    rw [if_neg hml] at h
    exact (List.mem_cons.mp h).imp (fun h => ⟨hm, hskip, hml, h⟩) id
  · simp only [if_neg hm] at h ⊢
    exact Or.inr h

/-- `c` is what the loop, started with the locals `st` on the sorted list `s`, emits at position `k`:
the row there is in the node, the skip separates its value `v` from the next one `v'`, and `c` is built
from the locals after positions `0..k`, which pass the `min_weight_leaf` test -/
structure EmittedAt (P : Params α β) (D : Data α β) (mask : List Bool) (f : Nat) (total : β)
    (st : Locals β) (s : List (Nat × α)) (c : Cand α β) (k i j : Nat) (v v' : α) : Prop where
  pos : s[k]? = some (i, v)
  next : s[k + 1]? = some (j, v')
  inNode : mask.getD i false = true
  noSkip : ¬ ((v ≤ v' ∧ v' ≤ v) ∨ absS (v - v') < P.eps)
  minLeaf : ¬ (c.wR < P.minLeaf ∨ c.wL < P.minLeaf)
  eq : c = (st.after D mask (s.take (k + 1))).cand P D f total v v'

/-- **what the sweep emits**: every candidate is emitted at some sorted position -/
theorem mem_sweepGo (P : Params α β) (D : Data α β) (mask : List Bool) (f : Nat) (total : β) (c : Cand α β) :
    ∀ (s : List (Nat × α)) (st : Locals β), c ∈ sweepGo P D mask f total st.fL st.fR st.wL st.wR s →
      ∃ k i j v v', EmittedAt P D mask f total st s c k i j v v'
  | [], _, h | [_], _, h => by simp [sweepGo] at h
  | (i, v) :: (j, v') :: rest, st, h => by
    rcases mem_sweepGo_cons P D mask f total c st i j v v' rest h with ⟨hm, hskip, hml, hc⟩ | h
    · refine ⟨0, i, j, v, v', rfl, rfl, hm, hskip, hc ▸ hml, ?_⟩
      rw [hc, List.take_succ_cons, List.take_zero, Locals.after, List.foldl_cons, if_pos hm]
      rfl
    · -- positions shift by one; the locals after position 0 are those the remaining sweep starts from
      obtain ⟨k, i', j', u, u', h⟩ := mem_sweepGo P D mask f total c _ _ h
      exact ⟨k + 1, i', j', u, u', h.pos, h.next, h.inNode, h.noSkip, h.minLeaf, h.eq⟩

theorem mem_candidates (P : Params α β) (D : Data α β) (sorted : List (List (Nat × α)))
    (mask : List Bool) (pf : List β) (c : Cand α β) :
    c ∈ candidates P D sorted mask pf ↔ ∃ f s, sorted[f]? = some s ∧
      c ∈ sweepGo P D mask f (sumS (inLabelOrder D pf)) (pf.map fun _ => 0) pf 0 (sumS (inLabelOrder D pf)) s := by
  simp only [candidates, List.mem_flatMap, List.mem_zipIdx_iff_getElem?, Prod.exists]
  exact ⟨fun ⟨s, f, h⟩ => ⟨f, s, h⟩, fun ⟨f, s, h⟩ => ⟨s, f, h⟩⟩

variable [NatCast β]
set_option linter.unusedSectionVars false

/-- the `ok` flag of a candidate records the two `assert!(n_samples > 0.0)` on its own running
class weights -/
theorem sweepGo_ok (P : Params α β) (D : Data α β) (mask : List Bool) (f : Nat) (total : β) :
    ∀ (s : List (Nat × α)) (fL fR : List β) (wL wR : β) (c : Cand α β),
      c ∈ sweepGo P D mask f total fL fR wL wR s →
      c.ok = (impOk (inLabelOrder D c.fR) && impOk (inLabelOrder D c.fL)) := by
  intro s fL fR wL wR c hc
  obtain ⟨k, i, j, v, v', h⟩ := mem_sweepGo P D mask f total c s ⟨fL, fR, wL, wR⟩ hc
  rw [h.eq]
  rfl

theorem candidates_ok (P : Params α β) (D : Data α β) (sorted : List (List (Nat × α)))
    (mask : List Bool) (pf : List β) (c : Cand α β) (hc : c ∈ candidates P D sorted mask pf) :
    c.ok = (impOk (inLabelOrder D c.fR) && impOk (inLabelOrder D c.fL)) := by
  obtain ⟨f, s, _, hc⟩ := (mem_candidates P D sorted mask pf c).mp hc
  exact sweepGo_ok P D mask f _ s _ _ _ _ c hc

end loop

section best
variable {α β : Type}

theorem pickBest_mem [LT β] [DecidableLT β] (cs : List (Cand α β)) (b : Cand α β) (h : pickBest cs = some b) : b ∈ cs := by
  have : ∀ (l : List (Cand α β)) (acc : Option (Cand α β)),
      l.foldl (fun best c => match best with
        | none => some c
        | some b => if c.score < b.score then some c else some b) acc = some b →
      b ∈ l ∨ acc = some b := by
    intro l
    induction l with
    | nil => exact fun acc h => Or.inr h
    | cons x xs ih =>
      intro acc h
      rcases ih _ h with h' | h'
      · exact Or.inl (List.mem_cons_of_mem _ h')
      · cases acc with
        | none => cases h'; exact Or.inl List.mem_cons_self
        | some a =>
          dsimp only at h'
          split at h'
          · cases h'; exact Or.inl List.mem_cons_self
          · exact Or.inr h'
  exact (this cs none h).resolve_right nofun

theorem getElem?_sortedAll [LT α] [DecidableLT α] [OfNat α 0] (D : Data α β) (p f : Nat) (s : List (Nat × α)) :
    (sortedAll D p)[f]? = some s ↔ f < p ∧ s = sortedIndex D f := by
  rw [sortedAll, List.getElem?_map]
  by_cases h : f < p <;> simp [h, eq_comm]

end best

/-! ### the presorted index; sums over a filtered list and over the class indices -/
section sorted
variable {α : Type} [LinearOrder α]

theorem insSorted_perm (x : Nat × α) : ∀ l : List (Nat × α), (insSorted x l).Perm (x :: l)
  | [] => .refl _
  | y :: ys => by
    rw [insSorted]
    split
    · exact .refl _
    · exact ((insSorted_perm x ys).cons y).trans (.swap x y ys)

theorem sortPairs_perm (l : List (Nat × α)) : (sortPairs l).Perm l := by
  have : ∀ (l acc : List (Nat × α)), (l.foldl (fun acc x => insSorted x acc) acc).Perm (l ++ acc) := by
    intro l
    induction l with
    | nil => exact fun acc => .refl _
    | cons x xs ih =>
      exact fun acc => (ih _).trans (((insSorted_perm x acc).append_left xs).trans List.perm_middle)
  simpa [sortPairs] using this l []

/-- non-decreasing in the value -/
def SortedV (l : List (Nat × α)) : Prop := l.Pairwise fun a b => a.2 ≤ b.2

theorem insSorted_sorted (x : Nat × α) : ∀ l : List (Nat × α), SortedV l → SortedV (insSorted x l)
  | [], _ => List.pairwise_singleton _ _
  | y :: ys, h => by
    obtain ⟨h1, h2⟩ := List.pairwise_cons.mp h
    rw [insSorted]
    split
    · rename_i hlt
      exact List.pairwise_cons.mpr ⟨List.forall_mem_cons.mpr
        ⟨le_of_lt hlt, fun b hb => le_trans (le_of_lt hlt) (h1 b hb)⟩, h⟩
    · rename_i hnlt
      refine List.pairwise_cons.mpr ⟨fun b hb => ?_, insSorted_sorted x ys h2⟩
      rcases List.mem_cons.mp ((insSorted_perm x ys).mem_iff.mp hb) with rfl | hb
      · exact not_lt.mp hnlt
      · exact h1 b hb

theorem sortPairs_sorted (l : List (Nat × α)) : SortedV (sortPairs l) := by
  have : ∀ (l acc : List (Nat × α)), SortedV acc → SortedV (l.foldl (fun acc x => insSorted x acc) acc) := by
    intro l
    induction l with
    | nil => exact fun acc h => h
    | cons x xs ih => exact fun acc h => ih _ (insSorted_sorted x acc h)
  exact this l [] List.Pairwise.nil

theorem sortedV_le_succ {s : List (Nat × α)} (hs : SortedV s) {k : Nat} {a b : Nat × α}
    (hk : s[k]? = some a) (hk1 : s[k + 1]? = some b) : a.2 ≤ b.2 := by
  obtain ⟨h, rfl⟩ := List.getElem?_eq_some_iff.mp hk
  obtain ⟨h', rfl⟩ := List.getElem?_eq_some_iff.mp hk1
  exact List.pairwise_iff_getElem.mp hs k (k + 1) h h' (Nat.lt_succ_self k)

theorem take_eq_filter_of_sorted : ∀ {s : List (Nat × α)}, SortedV s → ∀ {k : Nat} {a b : Nat × α} {t : α},
    s[k]? = some a → s[k + 1]? = some b → a.2 ≤ t → t < b.2 →
    s.take (k + 1) = s.filter fun x => decide (x.2 ≤ t)
  | [], _, _, _, _, _, hk, _, _, _ => nomatch hk
  | x :: tl, hs, k, a, b, t, hk, hk1, h1, h2 => by
    obtain ⟨hx, htl⟩ := List.pairwise_cons.mp hs
    cases k with
    | zero =>
      cases hk
      obtain ⟨tl', rfl⟩ : ∃ tl', tl = b :: tl' := by
        cases tl with
        | nil => nomatch hk1
        | cons _ tl' => cases hk1; exact ⟨tl', rfl⟩
      have : (b :: tl').filter (fun x => decide (x.2 ≤ t)) = [] :=
        List.filter_eq_nil_iff.mpr fun y hy => by
          have : b.2 ≤ y.2 := (List.mem_cons.mp hy).elim (· ▸ le_refl _) ((List.pairwise_cons.mp htl).1 y)
          exact fun hd => not_le.mpr (lt_of_lt_of_le h2 this) (of_decide_eq_true hd)
      rw [List.filter_cons_of_pos (by exact decide_eq_true h1), this]
      rfl
    | succ k =>
      have hxt : x.2 ≤ t := le_trans (hx a (List.mem_of_getElem? hk)) h1
      rw [List.take_succ_cons, List.filter_cons_of_pos (by exact decide_eq_true hxt),
        take_eq_filter_of_sorted htl hk hk1 h1 h2]

end sorted

section sortedIndex
set_option linter.unusedSectionVars false
variable {α β : Type} [Field α] [LinearOrder α] [IsStrictOrderedRing α]
variable [Field β] [LinearOrder β] [IsStrictOrderedRing β]

theorem sortedIndex_perm (D : Data α β) (f : Nat) :
    (sortedIndex D f).Perm ((List.range D.n).map fun i => (i, D.x i f)) := sortPairs_perm _

theorem sortedIndex_sorted (D : Data α β) (f : Nat) : SortedV (sortedIndex D f) := sortPairs_sorted _

end sortedIndex

section sums
variable {β : Type} [AddCommMonoid β]


theorem sum_filter_split (l : List Nat) (w : Nat → β) (q : Nat → Bool) :
    (l.map w).sum = ((l.filter q).map w).sum + ((l.filter fun i => !q i).map w).sum := by
  induction l with
  | nil => simp
  | cons x xs ih =>
    cases hq : q x <;> simp only [List.map_cons, List.sum_cons, List.filter_cons, hq, if_true, Bool.not_true,
      Bool.false_eq_true, if_false, Bool.not_false, ih, add_assoc, add_left_comm]


theorem sum_range_ite (K y : Nat) (w : β) (hy : y < K) :
    ((List.range K).map fun cl => if cl = y then w else 0).sum = w := by
  rw [List.sum_map_eq_nsmul_single y _ fun a h _ => if_neg h,
    List.count_range, if_pos hy, one_nsmul, if_pos rfl]

end sums

/-! ### class weights add over the children; modes -/
section classWeight
variable {α β : Type}

theorem classWeight_absent [Add β] [OfNat β 0] [OfNat β 1] (D : Data α β) (rows : List Nat) (c : Nat)
    (h : ∀ i ∈ rows, D.y i ≠ c) : classWeight D rows c = 0 := by
  have : (rows.filter fun i => D.y i == c) = [] :=
    List.filter_eq_nil_iff.mpr fun i hi => by simpa using h i hi
  rw [classWeight, this]
  rfl

theorem classWeight_nonneg [Field β] [LinearOrder β] [IsStrictOrderedRing β] (D : Data α β) (hw : ∀ i, 0 ≤ D.w i) (rows : List Nat) (c : Nat) :
    0 ≤ classWeight D rows c := by
  rw [classWeight, sumS_eq_sum]
  exact List.sum_nonneg fun x hx => by
    obtain ⟨i, _, rfl⟩ := List.mem_map.mp hx
    exact hw i

end classWeight

section additive
set_option linter.unusedSectionVars false
variable {α β : Type}
variable [Add α] [Sub α] [Div α] [Neg α] [LT α] [DecidableLT α] [LE α] [DecidableLE α]
  [OfNat α 0] [NatCast α]
variable [Field β] [LinearOrder β] [IsStrictOrderedRing β]

/-- **class weights add up over the two children**: the weight of class `c` among the rows of a
node is the sum of its weights among the rows sent left and the rows sent right -/
theorem classWeight_split (D : Data α β) (mask : List Bool) (f : Nat) (s : α) (c : Nat) :
    classWeight D (rowsOf mask) c =
      classWeight D (rowsOf (leftMask D mask f s)) c + classWeight D (rowsOf (rightMask D mask f s)) c := by
  simp only [classWeight, sumS_eq_sum, rowsOf_leftMask, rowsOf_rightMask]
  rw [sum_filter_split ((rowsOf mask).filter fun i => D.y i == c) D.w (fun i => decide (D.x i f ≤ s))]
  simp only [List.filter_filter, Bool.and_comm]

/-- "`pred` is a weighted most frequent label among the rows of `m`, and occurs among them" -/
def IsMode (D : Data α β) (m : List Bool) (pred : Nat) : Prop :=
  (∃ i ∈ rowsOf m, D.y i = pred) ∧ ∀ c, classWeight D (rowsOf m) c ≤ classWeight D (rowsOf m) pred

/-- the modal class of the rows of a node is a mode of them: the classes that do not occur weigh 0,
the modal class at least that -/
theorem isMode_of_modal (D : Data α β) (ord : List Nat → List Nat) (hord : ∀ l c, c ∈ ord l ↔ c ∈ l)
    (hK : ∀ r, D.y r < D.K) (hw : ∀ i, 0 ≤ D.w i) (mask : List Bool) (pred : Nat)
    (hm : nodeModal D ord mask = some pred) : IsMode D mask pred := by
  obtain ⟨hmem, hmax⟩ := modalOf_rows D ord hord _ pred hm
  refine ⟨hmem, fun c => ?_⟩
  by_cases hc : c ∈ presentClasses D (rowsOf mask)
  · exact hmax c hc
  · rw [classWeight_absent D _ c fun r hr hyc =>
      hc ((mem_presentClasses D _ c).mpr ⟨hyc ▸ hK r, r, hr, hyc⟩)]
    exact classWeight_nonneg D hw _ _

theorem isMode_merge (D : Data α β) (mask : List Bool) (f : Nat) (s : α) (x : Nat)
    (hl : IsMode D (leftMask D mask f s) x) (hr : IsMode D (rightMask D mask f s) x) :
    IsMode D mask x := by
  obtain ⟨⟨i, hi, hy⟩, hl2⟩ := hl
  refine ⟨⟨i, ?_, hy⟩, fun c => ?_⟩
  · rw [rowsOf_leftMask] at hi
    exact (List.mem_filter.mp hi).1
  · rw [classWeight_split D mask f s c, classWeight_split D mask f s x]
    exact add_le_add (hl2 c) (hr.2 c)

/-- `prune` keeps "every leaf predicts a mode of its rows": a merged leaf predicts a label that is
a mode on both sides, hence of the union -/
theorem prune_forallLeaves_mode (D : Data α β) :
    ∀ (t : Tree α) (m : List Bool), NoHalf t → ForallLeaves D (IsMode D) m t →
      ForallLeaves D (IsMode D) m (prune t).1 ∧ NoHalf (prune t).1 ∧
      ∀ x, (prune t).2 = some x → ∃ d, (prune t).1 = .leaf x d := by
  intro t
  induction t with
  | leaf p d => exact fun m _ h => ⟨h, trivial, fun x hx => ⟨d, by cases hx; rfl⟩⟩
  | half f s dec p d il c ih => exact fun m hno _ => hno.elim
  | node f s dec p d l r ihl ihr =>
    intro m ⟨hnl, hnr⟩ ⟨h2, h3⟩
    obtain ⟨il1, il2, il3⟩ := ihl _ hnl h2
    obtain ⟨ir1, ir2, ir3⟩ := ihr _ hnr h3
    rcases prune_node f s dec p d l r with ⟨x, hx, hy, e⟩ | e <;> rw [e]
    · obtain ⟨dl, hdl⟩ := il3 x hx
      obtain ⟨dr, hdr⟩ := ir3 x hy
      rw [hdl] at il1
      rw [hdr] at ir1
      exact ⟨isMode_merge D m f s x il1 ir1, trivial, fun z hz => ⟨d, by cases hz; rfl⟩⟩
    · exact ⟨⟨il1, ir1⟩, ⟨il2, ir2⟩, nofun⟩

end additive

/-! ### what the sweep computes -/
section sweep
variable {α β : Type} [Field α] [LinearOrder α] [IsStrictOrderedRing α]
variable [Field β] [LinearOrder β] [IsStrictOrderedRing β]

/-- rows of the node among the visited sorted positions, in sweep order -/
def moved (mask : List Bool) (pre : List (Nat × α)) : List Nat :=
  (pre.map (·.1)).filter fun i => mask.getD i false

/-- class weight as a `List.sum` -/
def cwS (D : Data α β) (rows : List Nat) (cl : Nat) : β :=
  ((rows.filter fun i => D.y i == cl).map D.w).sum

/-- total weight of a list of rows -/
def rwS (D : Data α β) (rows : List Nat) : β := (rows.map D.w).sum

end sweep

section weights
variable {α β : Type} [Field β]

theorem classWeight_eq_cwS (D : Data α β) (rows : List Nat) (cl : Nat) :
    classWeight D rows cl = cwS D rows cl := sumS_eq_sum _

theorem cwS_cons (D : Data α β) (i : Nat) (M : List Nat) (cl : Nat) :
    cwS D (i :: M) cl = (if cl = D.y i then D.w i else 0) + cwS D M cl := by
  unfold cwS
  by_cases h : cl = D.y i
  · simp [h]
  · simp [h, Ne.symm h]

theorem rwS_cons (D : Data α β) (i : Nat) (M : List Nat) : rwS D (i :: M) = D.w i + rwS D M :=
  List.sum_cons

theorem getD_addAt (l : List β) (c cl : Nat) (w : β) (hc : c < l.length) :
    (addAt l c w).getD cl 0 = l.getD cl 0 + (if cl = c then w else 0) := by
  simp only [addAt, List.getD_eq_getElem?_getD, List.getElem?_modify]
  by_cases h : cl = c
  · subst h
    simp [List.getElem?_eq_getElem hc]
  · have h' : ¬ c = cl := fun e => h e.symm
    cases l[cl]? <;> simp [h, h']

theorem getD_subAt (l : List β) (c cl : Nat) (w : β) (hc : c < l.length) :
    (subAt l c w).getD cl 0 = l.getD cl 0 - (if cl = c then w else 0) := by
  simp only [subAt, List.getD_eq_getElem?_getD, List.getElem?_modify]
  by_cases h : cl = c
  · subst h
    simp [List.getElem?_eq_getElem hc]
  · have h' : ¬ c = cl := fun e => h e.symm
    cases l[cl]? <;> simp [h, h']

theorem length_addAt (l : List β) (c : Nat) (w : β) : (addAt l c w).length = l.length :=
  List.length_modify ..
theorem length_subAt (l : List β) (c : Nat) (w : β) : (subAt l c w).length = l.length :=
  List.length_modify ..

theorem cwS_perm (D : Data α β) {r1 r2 : List Nat} (h : r1.Perm r2) (cl : Nat) : cwS D r1 cl = cwS D r2 cl :=
  ((h.filter _).map _).sum_eq

theorem rwS_perm (D : Data α β) {r1 r2 : List Nat} (h : r1.Perm r2) : rwS D r1 = rwS D r2 :=
  (h.map _).sum_eq

theorem after_eq_foldl_moved (D : Data α β) (mask : List Bool) (st : Locals β) (pre : List (Nat × α)) :
    st.after D mask pre = (moved mask pre).foldl (Locals.move D) st := by
  unfold Locals.after moved
  rw [List.foldl_filter, List.foldl_map]

/-- the `+=` / `-=` bookkeeping: once the rows `rows` have changed sides, the locals differ from the
initial ones by the class weights and the total weight of `rows` -/
theorem foldl_move (D : Data α β) : ∀ (rows : List Nat) (st : Locals β),
    (∀ r, D.y r < st.fL.length) → (∀ r, D.y r < st.fR.length) →
    (∀ cl, (rows.foldl (Locals.move D) st).fL.getD cl 0 = st.fL.getD cl 0 + cwS D rows cl) ∧
    (∀ cl, (rows.foldl (Locals.move D) st).fR.getD cl 0 = st.fR.getD cl 0 - cwS D rows cl) ∧
    (rows.foldl (Locals.move D) st).wL = st.wL + rwS D rows ∧
    (rows.foldl (Locals.move D) st).wR = st.wR - rwS D rows
  | [], st, _, _ => by simp [cwS, rwS]
  | i :: M, st, hL, hR => by
    obtain ⟨h1, h2, h3, h4⟩ := foldl_move D M (st.move D i)
      (fun r => (length_addAt st.fL _ _).symm ▸ hL r) (fun r => (length_subAt st.fR _ _).symm ▸ hR r)
    refine ⟨fun cl => ?_, fun cl => ?_, ?_, ?_⟩
    · rw [List.foldl_cons, h1, cwS_cons, Locals.move, getD_addAt _ _ _ _ (hL i), add_assoc]
    · rw [List.foldl_cons, h2, cwS_cons, Locals.move, getD_subAt _ _ _ _ (hR i), sub_sub]
    · rw [List.foldl_cons, h3, rwS_cons, Locals.move, add_assoc]
    · rw [List.foldl_cons, h4, rwS_cons, Locals.move, sub_sub]

theorem sum_cwS (D : Data α β) (hK : ∀ r, D.y r < D.K) (rows : List Nat) :
    ((List.range D.K).map fun cl => cwS D rows cl).sum = rwS D rows := by
  induction rows with
  | nil => simp [cwS, rwS]
  | cons r rs ih =>
    simp only [cwS_cons]
    rw [List.sum_map_add, sum_range_ite _ _ _ (hK r), ih, rwS_cons]

theorem getD_freqOf (D : Data α β) (rows : List Nat) (cl : Nat) :
    (freqOf D rows).getD cl 0 = if cl < D.K then cwS D rows cl else 0 := by
  simp only [freqOf, List.getD_eq_getElem?_getD, List.getElem?_map]
  by_cases h : cl < D.K <;> simp [h, classWeight_eq_cwS]

end weights

section candAt
set_option linter.unusedSectionVars false
variable {α β : Type} [Field α] [LinearOrder α] [IsStrictOrderedRing α]
variable [Field β] [LinearOrder β] [IsStrictOrderedRing β]

/-- what a candidate of the sweep is, relative to the state the sweep was started from -/
def CandAt (P : Params α β) (D : Data α β) (mask : List Bool) (f : Nat) (total : β)
    (fL fR : List β) (wL wR : β) (s : List (Nat × α)) (c : Cand α β) : Prop :=
  ∃ (k i j : Nat) (v v' : α), s[k]? = some (i, v) ∧ s[k + 1]? = some (j, v') ∧
    mask.getD i false = true ∧ ¬ absS (v - v') < P.eps ∧ c.feat = f ∧
    c.split = (if v ≤ (v + v') / ((2 : Nat) : α) ∧ (v + v') / ((2 : Nat) : α) < v' then
      (v + v') / ((2 : Nat) : α) else v) ∧
    (∀ cl, c.fL.getD cl 0 = fL.getD cl 0 + cwS D (moved mask (s.take (k + 1))) cl) ∧
    (∀ cl, c.fR.getD cl 0 = fR.getD cl 0 - cwS D (moved mask (s.take (k + 1))) cl) ∧
    c.wL = wL + rwS D (moved mask (s.take (k + 1))) ∧
    c.wR = wR - rwS D (moved mask (s.take (k + 1))) ∧
    c.score = c.wR / total * impurity P (inLabelOrder D c.fR) +
      (1 - c.wR / total) * impurity P (inLabelOrder D c.fL) ∧
    ¬ c.wR < P.minLeaf ∧ ¬ c.wL < P.minLeaf

/-- every candidate the sweep emits is a `CandAt` of the state it was started from -/
theorem sweepGo_candAt (P : Params α β) (D : Data α β) (mask : List Bool) (f : Nat) (total : β) :
    ∀ (s : List (Nat × α)) (fL fR : List β) (wL wR : β) (c : Cand α β),
      (∀ r, D.y r < fL.length) → (∀ r, D.y r < fR.length) →
      c ∈ sweepGo P D mask f total fL fR wL wR s → CandAt P D mask f total fL fR wL wR s c := by
  intro s fL fR wL wR c hL hR hc
  obtain ⟨k, i, j, v, v', he⟩ := mem_sweepGo P D mask f total c s ⟨fL, fR, wL, wR⟩ hc
  obtain ⟨h1, h2, h3, h4⟩ := foldl_move D (moved mask (s.take (k + 1))) ⟨fL, fR, wL, wR⟩ hL hR
  rw [← after_eq_foldl_moved] at h1 h2 h3 h4
  have hml := he.minLeaf
  rw [he.eq] at hml ⊢
  exact ⟨k, i, j, v, v', he.pos, he.next, he.inNode, fun h => he.noSkip (.inr h), rfl, rfl, h1, h2, h3, h4,
    rfl, fun h => hml (.inl h), fun h => hml (.inr h)⟩

end candAt

/-! ### the sweep's running sets are the sides of the applied split -/
section identify
set_option linter.unusedSectionVars false
variable {α β : Type} [Field α] [LinearOrder α] [IsStrictOrderedRing α]
variable [Field β] [LinearOrder β] [IsStrictOrderedRing β]

/-- two consecutive sorted values that the equal-value skip lets through are strictly increasing,
and the threshold (midpoint, or the lower value) separates them -/
theorem threshold_between (eps v v' : α) (heps : 0 < eps) (hle : v ≤ v') (hskip : ¬ absS (v - v') < eps) :
    v ≤ (if v ≤ (v + v') / ((2 : Nat) : α) ∧ (v + v') / ((2 : Nat) : α) < v' then
      (v + v') / ((2 : Nat) : α) else v) ∧
    (if v ≤ (v + v') / ((2 : Nat) : α) ∧ (v + v') / ((2 : Nat) : α) < v' then
      (v + v') / ((2 : Nat) : α) else v) < v' := by
  split
  · assumption
  · refine ⟨le_refl _, lt_of_le_of_ne hle fun h => hskip ?_⟩
    rw [h, sub_self, absS, if_neg (lt_irrefl _)]
    exact heps

/-- the rows the sweep has moved left when it evaluates the candidate at sorted position `k` are
exactly the rows of the node with `value <= threshold` -/
theorem moved_perm_left (D : Data α β) (mask : List Bool) (f : Nat) (hlen : mask.length = D.n)
    (k i j : Nat) (v v' split : α)
    (hk : (sortedIndex D f)[k]? = some (i, v)) (hk1 : (sortedIndex D f)[k + 1]? = some (j, v'))
    (h1 : v ≤ split) (h2 : split < v') :
    (moved mask ((sortedIndex D f).take (k + 1))).Perm (rowsOf (leftMask D mask f split)) := by
  -- the visited positions are the pairs with `value <= split`; then permute the index into row order
  rw [moved, take_eq_filter_of_sorted (sortedIndex_sorted D f) hk hk1 h1 h2, rowsOf_leftMask, rowsOf, hlen]
  refine ((((sortedIndex_perm D f).filter _).map _).filter _).trans (.of_eq ?_)
  rw [List.filter_map, List.filter_filter, List.filter_map, List.map_map, List.filter_filter]
  exact (List.map_id'' (fun _ => rfl) _).trans (List.filter_congr fun i _ => Bool.and_comm _ _)


theorem cwS_split (D : Data α β) (mask : List Bool) (f : Nat) (s : α) (cl : Nat) :
    cwS D (rowsOf mask) cl =
      cwS D (rowsOf (leftMask D mask f s)) cl + cwS D (rowsOf (rightMask D mask f s)) cl := by
  simpa only [classWeight_eq_cwS] using classWeight_split D mask f s cl

theorem rwS_split (D : Data α β) (mask : List Bool) (f : Nat) (s : α) :
    rwS D (rowsOf mask) = rwS D (rowsOf (leftMask D mask f s)) + rwS D (rowsOf (rightMask D mask f s)) := by
  rw [rowsOf_leftMask, rowsOf_rightMask]
  exact sum_filter_split _ _ _

/-- `total_weight` (sum of the class map in label order) is the weight of the node's rows -/
theorem total_eq_rwS (D : Data α β) (hK : ∀ r, D.y r < D.K) (hlord : D.lord.Perm (List.range D.K))
    (rows : List Nat) : sumS (inLabelOrder D (freqOf D rows)) = rwS D rows := by
  rw [sumS_eq_sum, inLabelOrder, (hlord.map _).sum_eq, ← sum_cwS D hK rows]
  congr 1
  refine List.map_congr_left fun cl hcl => ?_
  rw [getD_freqOf, if_pos (List.mem_range.mp hcl)]

/-- the applied split of a candidate, in terms of the training rows -/
structure CandSpec (P : Params α β) (D : Data α β) (mask : List Bool) (p : Nat) (c : Cand α β) : Prop where
  feat_lt : c.feat < p
  fL : inLabelOrder D c.fL = inLabelOrder D (freqOf D (rowsOf (leftMask D mask c.feat c.split)))
  fR : inLabelOrder D c.fR = inLabelOrder D (freqOf D (rowsOf (rightMask D mask c.feat c.split)))
  wL : c.wL = rwS D (rowsOf (leftMask D mask c.feat c.split))
  wR : c.wR = rwS D (rowsOf (rightMask D mask c.feat c.split))
  score : c.score = c.wR / rwS D (rowsOf mask) * impurity P (inLabelOrder D c.fR) +
      (1 - c.wR / rwS D (rowsOf mask)) * impurity P (inLabelOrder D c.fL)
  minL : ¬ c.wL < P.minLeaf
  minR : ¬ c.wR < P.minLeaf

/-- **every split the sweep evaluates is scored on the partition that `fit` then applies**: the
running left/right class weights and totals of the candidate are those of the rows with
`value <= threshold` / `value > threshold` -/
theorem candidates_spec (P : Params α β) (D : Data α β) (mask : List Bool) (p : Nat)
    (heps : 0 < P.eps) (hK : ∀ r, D.y r < D.K) (hlord : D.lord.Perm (List.range D.K))
    (hlen : mask.length = D.n) (c : Cand α β)
    (hc : c ∈ candidates P D (sortedAll D p) mask (freqOf D (rowsOf mask))) :
    CandSpec P D mask p c := by
  obtain ⟨f, s, hs, hc⟩ := (mem_candidates P D _ mask _ c).mp hc
  obtain ⟨hfp, rfl⟩ := (getElem?_sortedAll D p f s).mp hs
  have hlenf : (freqOf D (rowsOf mask)).length = D.K := by simp [freqOf]
  obtain ⟨k, i, j, v, v', hk, hk1, _, hskip, rfl, hsplit, hfL, hfR, hwL, hwR, hscore, hminR, hminL⟩ :=
    sweepGo_candAt P D mask f _ _ _ _ _ _ c
      (fun r => by rw [List.length_map, hlenf]; exact hK r) (fun r => hlenf ▸ hK r) hc
  -- the threshold lies between the two consecutive sorted values, so the moved rows are the left side
  obtain ⟨hb1, hb2⟩ := threshold_between P.eps v v' heps (sortedV_le_succ (sortedIndex_sorted D _) hk hk1) hskip
  rw [← hsplit] at hb1 hb2
  have hperm := moved_perm_left D mask c.feat hlen k i j v v' c.split hk hk1 hb1 hb2
  have htot := total_eq_rwS D hK hlord (rowsOf mask)
  have hcl : ∀ cl ∈ D.lord, cl < D.K := fun cl h => List.mem_range.mp (hlord.mem_iff.mp h)
  have hz : ∀ cl, ((freqOf D (rowsOf mask)).map fun _ => (0 : β)).getD cl 0 = 0 := fun cl => by
    rw [List.getD_eq_getElem?_getD, List.getElem?_map]
    cases (freqOf D (rowsOf mask))[cl]? <;> rfl
  refine ⟨hfp, List.map_congr_left fun cl h => ?_, List.map_congr_left fun cl h => ?_, ?_, ?_,
    htot ▸ hscore, hminL, hminR⟩
  · rw [hfL, hz, zero_add, cwS_perm D hperm, getD_freqOf, if_pos (hcl cl h)]
  · rw [hfR, cwS_perm D hperm, getD_freqOf, getD_freqOf, if_pos (hcl cl h), if_pos (hcl cl h),
      cwS_split D mask c.feat c.split cl, add_sub_cancel_left]
  · rw [hwL, zero_add, rwS_perm D hperm]
  · rw [hwR, htot, rwS_perm D hperm, rwS_split D mask c.feat c.split, add_sub_cancel_left]

end identify

/-! ### consequences for `fit` -/
section full
set_option linter.unusedSectionVars false
variable {α β : Type} [Field α] [LinearOrder α] [IsStrictOrderedRing α]
variable [Field β] [LinearOrder β] [IsStrictOrderedRing β]

theorem length_rows_split (D : Data α β) (mask : List Bool) (f : Nat) (s : α) :
    (rowsOf (leftMask D mask f s)).length + (rowsOf (rightMask D mask f s)).length = (rowsOf mask).length := by
  rw [rowsOf_leftMask, rowsOf_rightMask]
  exact (List.length_eq_length_filter_add _).symm

theorem sides_ne_nil (P : Params α β) (D : Data α β) (mask : List Bool) (p : Nat) (c : Cand α β)
    (hml : 0 < P.minLeaf) (hs : CandSpec P D mask p c) :
    rowsOf (leftMask D mask c.feat c.split) ≠ [] ∧ rowsOf (rightMask D mask c.feat c.split) ≠ [] := by
  refine ⟨fun e => hs.minL ?_, fun e => hs.minR ?_⟩
  · rw [hs.wL, e]; exact hml
  · rw [hs.wR, e]; exact hml

/-- with a positive `min_weight_leaf` no call of `fit` produces a leaf-flagged node that keeps a
child: the best candidate's sides carry at least `min_weight_leaf > 0`, so both receive rows -/
theorem fitNode_noHalf (P : Params α β) (D : Data α β) (ord : List Nat → List Nat) (p : Nat)
    (heps : 0 < P.eps) (hml : 0 < P.minLeaf) (hK : ∀ r, D.y r < D.K)
    (hlord : D.lord.Perm (List.range D.K)) :
    ∀ fuel mask depth t, mask.length = D.n →
      fitNode P D ord (sortedAll D p) fuel mask depth = some t → NoHalf t :=
  fitNode_noHalf_of_sides P D ord _ fun mask b hlen hb =>
    sides_ne_nil P D mask p b hml (candidates_spec P D mask p heps hK hlord hlen b (pickBest_mem _ _ hb))

/-- **`TreeNode::fit` returns**: with the literal `1e-5` positive, a positive `min_weight_leaf`
(the statement's guard), a positive `min_impurity_decrease` (`ParamGuard`), class indices `< K`,
`lord` a permutation and an iteration order that lists the keys, the call on a non-empty set of
rows returns a tree whenever the recursion budget exceeds the number of rows: no `assert!` /
`unwrap` fires and every recursive call is on strictly fewer rows -/
theorem fitNode_returns (P : Params α β) (D : Data α β) (ord : List Nat → List Nat) (p : Nat)
    (heps : 0 < P.eps) (hml : 0 < P.minLeaf) (hmd : 0 < P.minDec) (hK : ∀ r, D.y r < D.K)
    (hlord : D.lord.Perm (List.range D.K)) (hord : ∀ l c, c ∈ ord l ↔ c ∈ l) :
    ∀ fuel mask depth, mask.length = D.n → rowsOf mask ≠ [] → (rowsOf mask).length < fuel →
      ∃ t, fitNode P D ord (sortedAll D p) fuel mask depth = some t := by
  intro fuel
  induction fuel with
  | zero => intro mask depth _ _ h; omega
  | succ fuel ih =>
    intro mask depth hlen hne hfuel
    have hspec := candidates_spec P D mask p heps hK hlord hlen
    -- the modal class exists: the class of some row of the node is a key of the map
    obtain ⟨pred, hpred⟩ : ∃ pred, nodeModal D ord mask = some pred := modalOf_isSome _ _ _ <| by
        obtain ⟨i, hi⟩ := List.exists_mem_of_ne_nil _ hne
        exact List.ne_nil_of_mem ((hord _ _).mpr ((mem_presentClasses D _ _).mpr ⟨hK i, i, hi, rfl⟩))
    refine fitNode_succ_returns P D ord _ fuel mask depth pred hpred ?_ (fun _ => hmd) fun b hb => ?_
    · -- every candidate passed both asserts: each side weighs at least `min_weight_leaf > 0`
      refine List.any_eq_false.mpr fun c hc => ?_
      have hs := hspec c hc
      have h1 : (0 : β) < rwS D (rowsOf (rightMask D mask c.feat c.split)) :=
        hs.wR ▸ lt_of_lt_of_le hml (not_lt.mp hs.minR)
      have h2 : (0 : β) < rwS D (rowsOf (leftMask D mask c.feat c.split)) :=
        hs.wL ▸ lt_of_lt_of_le hml (not_lt.mp hs.minL)
      rw [candidates_ok P D _ mask _ c hc, hs.fL, hs.fR]
      simp [impOk, total_eq_rwS D hK hlord, h1, h2]
    · -- both sides of the best split are non-empty, hence strictly smaller than the node
      obtain ⟨hl, hr⟩ := sides_ne_nil P D mask p b hml (hspec b (pickBest_mem _ _ hb))
      have hsum := length_rows_split D mask b.feat b.split
      have hlpos := List.length_pos_of_ne_nil hl
      have hrpos := List.length_pos_of_ne_nil hr
      exact ⟨ih _ (depth + 1) ((length_leftMask ..).trans hlen) hl (by omega),
        ih _ (depth + 1) ((length_rightMask ..).trans hlen) hr (by omega)⟩

/-- **the fitted tree does not depend on the iteration order of the hash maps** -/
theorem fitNode_order_irrelevant (P : Params α β) (D : Data α β) (ord1 ord2 : List Nat → List Nat)
    (h1 : ∀ l c, c ∈ ord1 l ↔ c ∈ l) (h2 : ∀ l c, c ∈ ord2 l ↔ c ∈ l)
    (hlord : D.lord.Perm (List.range D.K)) (sorted : List (List (Nat × α))) :
    ∀ fuel mask depth, fitNode P D ord1 sorted fuel mask depth = fitNode P D ord2 sorted fuel mask depth := by
  have hmodal : ∀ mask, nodeModal D ord1 mask = nodeModal D ord2 mask := by
    intro mask
    refine modalOf_order_irrelevant _ _ _ _ (fun c => by rw [h1, h2]) ?_
    intro a ha b hb hab
    rw [h1] at ha hb
    -- `rank` is the position in `lord`, which lists every class index once
    exact (List.idxOf_inj (hlord.mem_iff.mpr (List.mem_range.mpr ((mem_presentClasses D _ a).mp ha).1))).mp hab
  exact fitNode_congr_ord P D ord1 ord2 sorted hmodal

end full
end LinfaSpec.Tree
