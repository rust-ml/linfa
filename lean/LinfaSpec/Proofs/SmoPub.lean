/-
An invariant principle for the main loop of `solve` (`LoopInv`, `solveLoop_inv`), its instances
(`Feas`, `UbPos`, `PermInv`, `AlignedBY`, `ClassInv`), the fields `SolverState::new` sets, and the
vector `solve` writes back.
-/
import LinfaSpec.Proofs.SmoKkt


namespace LinfaSpec.Smo

section loop
variable {α : Type} [Field α] [LinearOrder α]

/-- `I` is kept by every state transformer the main loop of `solve` is built from -/
structure LoopInv (e : Env α) (I : St α → Prop) : Prop where
  bound : ∀ s, I s → s.nactive ≤ s.alpha.length
  swap : ∀ s i j, I s → i < s.alpha.length → j < s.alpha.length → I (swap s i j)
  upd : ∀ s i j, I s → selectWorkingSet e s = (i, j, false) → I (update e s i j)
  recon : ∀ s, I s → I (reconstructGradient e s)
  nact : ∀ s m, I s → m ≤ s.alpha.length → I { s with nactive := m }
  unshr : ∀ s, I s → I { s with unshrink := true }

theorem shrinkInner_inv {e : Env α} {I : St α → Prop} (L : LoopInv e I) (sh : St α → Nat → Bool)
    (i fuel : Nat) (s : St α) (hlt : s.nactive < s.alpha.length) (h : I s) :
    I (shrinkInner sh i fuel s) := by
  induction fuel generalizing s with
  | zero => exact h
  | succ fuel ih =>
    unfold shrinkInner
    split_ifs with h1 h2
    · exact L.swap s i s.nactive h (by omega) hlt
    · apply ih
      · show s.nactive - 1 < s.alpha.length; omega
      · exact L.nact s _ h (by omega)
    · exact h

theorem shrinkOuter_inv {e : Env α} {I : St α → Prop} (L : LoopInv e I) (sh : St α → Nat → Bool)
    (fuel i : Nat) (s : St α) (h : I s) : I (shrinkOuter sh fuel i s) := by
  induction fuel generalizing s i with
  | zero => exact h
  | succ fuel ih =>
    unfold shrinkOuter
    by_cases h1 : i < s.nactive
    · simp only [h1, if_true]
      apply ih
      split_ifs with h2
      · have hn := L.bound s h
        apply shrinkInner_inv L
        · show s.nactive - 1 < s.alpha.length; omega
        · exact L.nact s _ h (by omega)
      · exact h
    · simp only [h1, if_false]; exact h

theorem reactivate_inv {e : Env α} {I : St α → Prop} (L : LoopInv e I) (s : St α) (h : I s) :
    I { reconstructGradient e s with nactive := ntotal (reconstructGradient e s) } :=
  L.nact _ _ (L.recon s h) (Nat.le_refl _)

theorem doShrinking_inv {e : Env α} {I : St α → Prop} (L : LoopInv e I) (s : St α) (h : I s) :
    I (doShrinking e s) := by
  have hrec : I { reconstructGradient e { s with unshrink := true } with
                 nactive := ntotal (reconstructGradient e { s with unshrink := true }) } :=
    reactivate_inv L _ (L.unshr s h)
  unfold doShrinking
  split_ifs
  · unfold doShrinkingNu
    dsimp only
    apply shrinkOuter_inv L
    split_ifs
    · exact hrec
    · exact h
  · unfold doShrinkingC
    dsimp only
    apply shrinkOuter_inv L
    split_ifs
    · exact hrec
    · exact h

theorem selectWorkingSet_eq_of_not_optimal (e : Env α) (s : St α) (h : (selectWorkingSet e s).2.2 = false) :
    selectWorkingSet e s = ((selectWorkingSet e s).1, (selectWorkingSet e s).2.1, false) := by
  rw [← h]

/-- when the main loop ends by `break`, `select_working_set` has just answered `is_optimal` on the
returned state, and all variables are active in it -/
theorem solveLoop_break (e : Env α) (shrinking : Bool) (fuel : Nat) (s : St α) (iter counter : Nat) :
    (solveLoop e shrinking fuel s iter counter).2.2 = true →
      (selectWorkingSet e (solveLoop e shrinking fuel s iter counter).1).2.2 = true ∧
      (solveLoop e shrinking fuel s iter counter).1.nactive =
        (solveLoop e shrinking fuel s iter counter).1.alpha.length := by
  induction fuel generalizing s iter counter with
  | zero => intro hf; cases hf
  | succ fuel ih =>
    unfold solveLoop
    dsimp only
    generalize (if (counter - 1 == 0 && shrinking) = true then doShrinking e s else s) = s1
    generalize (if (counter - 1 == 0) = true then min (ntotal s) 1000 else counter - 1) = c1
    split_ifs with ho ho2
    · exact fun _ => ⟨ho2, rfl⟩
    · exact ih _ _ _
    · exact ih _ _ _

end loop

section pub
variable {α : Type} [Field α] [LinearOrder α] [IsStrictOrderedRing α]

set_option linter.unusedSectionVars false in
/-- **invariant principle for the main loop of `solve`** -/
theorem solveLoop_inv {e : Env α} {I : St α → Prop} (L : LoopInv e I) (shrinking : Bool) (fuel : Nat)
    (s : St α) (iter counter : Nat) (h : I s) : I (solveLoop e shrinking fuel s iter counter).1 := by
  induction fuel generalizing s iter counter with
  | zero => exact h
  | succ fuel ih =>
    unfold solveLoop
    dsimp only
    have h1 : I (if (counter - 1 == 0 && shrinking) = true then doShrinking e s else s) := by
      split_ifs
      · exact doShrinking_inv L s h
      · exact h
    generalize (if (counter - 1 == 0 && shrinking) = true then doShrinking e s else s) = s1 at h1 ⊢
    generalize (if (counter - 1 == 0) = true then min (ntotal s) 1000 else counter - 1) = c1
    split_ifs with ho ho2
    · exact reactivate_inv L s1 h1
    · apply ih
      exact L.upd _ _ _ (reactivate_inv L s1 h1) (selectWorkingSet_eq_of_not_optimal e _ (by simpa using ho2))
    · apply ih
      exact L.upd _ _ _ h1 (selectWorkingSet_eq_of_not_optimal e _ (by simpa using ho))

end pub

section bookkeeping
variable {α : Type} [Field α] [LinearOrder α]

/-- both copies of the bound are positive (the guard `C > 0` of `SvmParams::check`), sizes agree -/
def UbPos (n : Nat) (s : St α) : Prop :=
  s.alpha.length = n ∧ s.ub.length = n ∧ s.bounds.length = n ∧ s.nactive ≤ n ∧
  ∀ k, k < n → 0 < gf s.ub k ∧ 0 < gf s.bounds k

theorem ubPos_loop (e : Env α) (n : Nat) : LoopInv e (UbPos n) where
  bound := fun s h => by rw [h.1]; exact h.2.2.2.1
  swap := fun s i j h hi hj => by
    obtain ⟨l, a, b, c, d⟩ := h
    refine ⟨by simp only [Smo.swap, swapL_length]; exact l, by simp only [Smo.swap, swapL_length]; exact a,
      by simp only [Smo.swap, swapL_length]; exact b, c, ?_⟩
    intro k hk
    simp only [Smo.swap]
    rw [gf_swapL _ i j k (by omega) (by omega), gf_swapL _ i j k (by omega) (by omega)]
    exact d _ (swapIdx_lt i j k n (by omega) (by omega) hk)
  upd := fun s i j h _ => by
    obtain ⟨l, a, b, c, d⟩ := h
    refine ⟨by rw [update_alpha_length]; exact l,
      by rw [update_ub, List.length_set, List.length_set]; exact a, by rw [update_bounds]; exact b,
      by rw [update_nactive]; exact c, ?_⟩
    intro k hk
    rw [update_ub, update_bounds, gf_set, gf_set]
    refine ⟨?_, (d k hk).2⟩
    -- a refreshed `upper_bound` is an entry of `bounds`
    split_ifs with h1 h2
    · rw [h1.1]; exact (d k hk).2
    · rw [h2.1]; exact (d k hk).2
    · exact (d k hk).1
  recon := fun s h => by rw [reconstructGradient_eq]; exact h
  nact := fun s m h hm => ⟨h.1, h.2.1, h.2.2.1, h.1 ▸ hm, h.2.2.2.2⟩
  unshr := fun s h => h

/-- `active_set` is a permutation of `0 .. n-1`; sizes -/
def PermInv (n : Nat) (s : St α) : Prop :=
  s.active.length = n ∧ s.alpha.length = n ∧ s.nactive ≤ n ∧ s.active.Nodup ∧ ∀ a ∈ s.active, a < n

theorem permInv_loop (e : Env α) (n : Nat) : LoopInv e (PermInv (α := α) n) where
  bound := fun s h => by rw [h.2.1]; exact h.2.2.1
  swap := fun s i j h hi hj => by
    obtain ⟨h1, h2, h3, h4, h5⟩ := h
    refine ⟨by simp only [Smo.swap, swapL_length]; exact h1, by simp only [Smo.swap, swapL_length]; exact h2,
      h3, ?_, ?_⟩
    · simp only [Smo.swap]; exact swapL_nodup _ i j (by omega) (by omega) h4
    · intro a ha; simp only [Smo.swap] at ha
      exact h5 a (swapL_mem _ i j (by omega) (by omega) a ha)
  upd := fun s i j h _ => by
    obtain ⟨h1, h2, h3, h4, h5⟩ := h
    exact ⟨by rw [update_active]; exact h1, by rw [update_alpha_length]; exact h2,
      by rw [update_nactive]; exact h3, by rw [update_active]; exact h4, by rw [update_active]; exact h5⟩
  recon := fun s h => by rw [reconstructGradient_eq]; exact h
  nact := fun s m h hm => ⟨h.1, h.2.1, by show m ≤ n; rw [← h.2.1]; exact hm, h.2.2.2.1, h.2.2.2.2⟩
  unshr := fun s h => h

/-- position `k` holds the label and the bound of sample `active_set[k]` (all three kernel wrappers) -/
def AlignedBY (b0 : List α) (y0 : List Bool) (s : St α) : Prop :=
  (s.y.length = s.alpha.length ∧ s.bounds.length = s.alpha.length ∧ s.active.length = s.alpha.length ∧
    s.nactive ≤ s.alpha.length) ∧
  ∀ k, k < s.alpha.length →
    gb s.y k = gb y0 (gn s.active k) ∧ gf s.bounds k = gf b0 (gn s.active k)

theorem alignedBY_loop (e : Env α) (b0 : List α) (y0 : List Bool) : LoopInv e (AlignedBY b0 y0) where
  bound := fun s h => h.1.2.2.2
  swap := fun s i j h hi hj => by
    obtain ⟨⟨l1, l2, l3, l4⟩, hk⟩ := h
    refine ⟨?_, ?_⟩
    · simp only [Smo.swap, swapL_length]; exact ⟨l1, l2, l3, l4⟩
    · intro k hk'
      simp only [Smo.swap, swapL_length] at hk' ⊢
      rw [gb_swapL _ i j k (l1 ▸ hi) (l1 ▸ hj), gf_swapL _ i j k (l2 ▸ hi) (l2 ▸ hj),
        gn_swapL _ i j k (l3 ▸ hi) (l3 ▸ hj)]
      exact hk (swapIdx i j k) (swapIdx_lt i j k _ hi hj hk')
  upd := fun s i j h _ => by
    obtain ⟨⟨l1, l2, l3, l4⟩, hk⟩ := h
    refine ⟨?_, ?_⟩
    · rw [update_y, update_bounds, update_active, update_alpha_length, update_nactive]
      exact ⟨l1, l2, l3, l4⟩
    · intro k hk'
      rw [update_alpha_length] at hk'
      rw [update_y, update_bounds, update_active]
      exact hk k hk'
  recon := fun s h => by rw [reconstructGradient_eq]; exact h
  nact := fun s m h hm => ⟨⟨h.1.1, h.1.2.1, h.1.2.2.1, hm⟩, h.2⟩
  unshr := fun s h => h

theorem init_core (e : Env α) (a p b : List α) (y : List Bool) :
    (init e a p b y).alpha = a ∧ (init e a p b y).bounds = b ∧ (init e a p b y).y = y ∧
    (init e a p b y).active = List.range a.length ∧ (init e a p b y).nactive = a.length ∧
    (init e a p b y).p = p ∧ (init e a p b y).ub = (List.range a.length).map (gf b) := by
  unfold init
  dsimp only
  apply foldl_inv (fun s : St α => s.alpha = a ∧ s.bounds = b ∧ s.y = y ∧
    s.active = List.range a.length ∧ s.nactive = a.length ∧ s.p = p ∧
    s.ub = (List.range a.length).map (gf b))
  · exact ⟨rfl, rfl, rfl, rfl, rfl, rfl, rfl⟩
  · intro acc x _ h
    split_ifs <;> exact h

/-- **the written-back vector of a feasible, aligned state is feasible sample by sample** -/
theorem writeBack_feasible (b0 : List α) (y0 : List Bool) (s : St α) (n : Nat)
    (hP : PermInv n s) (hA : AlignedBY b0 y0 s) (hB : Box s) :
    (writeBack s).length = n ∧
    (∀ a, a < n → 0 ≤ gf (writeBack s) a ∧ gf (writeBack s) a ≤ gf b0 a) ∧
    ∑ a ∈ Finset.range n, (if gb y0 a then (1 : α) else -1) * gf (writeBack s) a = ySum s := by
  obtain ⟨p1, p2, _, p4, p5⟩ := hP
  obtain ⟨hlen, hwb⟩ := writeBack_spec s (by rw [p1, p2]) p4 (by rw [p2]; exact p5)
  refine ⟨by rw [← p2]; exact hlen, ?_, ?_⟩
  · intro a ha
    obtain ⟨k, hk, rfl⟩ := perm_surj n s.active p1 p4 p5 a ha
    have hk' : k < s.alpha.length := by rw [p2]; exact hk
    rw [hwb k hk']
    obtain ⟨h0, h1⟩ := hB.2 k hk'
    exact ⟨h0, by rw [← (hA.2 k hk').2]; exact h1⟩
  · rw [perm_sum n s.active p1 p4 p5]
    unfold ySum tgt
    rw [p2]
    apply Finset.sum_congr rfl
    intro k hk
    have hk' : k < s.alpha.length := by rw [p2]; exact Finset.mem_range.mp hk
    rw [hwb k hk', (hA.2 k hk').1]

end bookkeeping

section feasible
variable {α : Type} [Field α] [LinearOrder α] [IsStrictOrderedRing α]

/-- the point is feasible, the arrays have the size `n` of the problem, `Σ y α = c` -/
def Feas (n : Nat) (c : α) (s : St α) : Prop :=
  Box s ∧ s.y.length = s.alpha.length ∧ s.alpha.length = n ∧ s.nactive ≤ n ∧ ySum s = c

theorem feas_loop (e : Env α) (n : Nat) (c : α) : LoopInv e (Feas n c) where
  bound := fun s h => by rw [h.2.2.1]; exact h.2.2.2.1
  swap := fun s i j h hi hj => by
    obtain ⟨hb, hyl, hal, hna, hsum⟩ := h
    exact ⟨swap_box s i j hi hj hb, by simp only [Smo.swap, swapL_length]; exact hyl,
      by simp only [Smo.swap, swapL_length]; exact hal, hna, by rw [swap_ySum s i j hi hj hyl]; exact hsum⟩
  upd := fun s i j h hsel => by
    obtain ⟨hb, hyl, hal, hna, hsum⟩ := h
    obtain ⟨hij, hi, hj⟩ := selectWorkingSet_valid e s i j hsel
    have hi' : i < s.alpha.length := by omega
    have hj' : j < s.alpha.length := by omega
    exact ⟨update_box e s i j hij hi' hj' hb, by rw [update_y, update_alpha_length]; exact hyl,
      by rw [update_alpha_length]; exact hal, by rw [update_nactive]; exact hna,
      by rw [update_ySum e s i j hij hi' hj' hb]; exact hsum⟩
  recon := fun s h => by rw [reconstructGradient_eq]; exact h
  nact := fun s m h hm => ⟨h.1, h.2.1, h.2.2.1, h.2.2.1 ▸ hm, h.2.2.2.2⟩
  unshr := fun s h => h

/-- what the main loop returns from a feasible start with positive bounds: a feasible state; and when
it ended by `break`, the optimality flag on that state, all variables active, and "at the upper bound"
excludes "at zero" -/
theorem solveLoop_returns (e : Env α) (shrinking : Bool) (fuel : Nat) (s : St α) (iter counter : Nat)
    (hb : Box s) (hy : s.y.length = s.alpha.length) (hn : s.nactive ≤ s.alpha.length)
    (hub : s.ub.length = s.alpha.length)
    (hpos : ∀ k, k < s.alpha.length → 0 < gf s.ub k ∧ 0 < gf s.bounds k) :
    Feas s.alpha.length (ySum s) (solveLoop e shrinking fuel s iter counter).1 ∧
    ((solveLoop e shrinking fuel s iter counter).2.2 = true →
      (selectWorkingSet e (solveLoop e shrinking fuel s iter counter).1).2.2 = true ∧
      (solveLoop e shrinking fuel s iter counter).1.nactive =
        (solveLoop e shrinking fuel s iter counter).1.alpha.length ∧
      ∀ k, k < (solveLoop e shrinking fuel s iter counter).1.nactive →
        reachedUpper (solveLoop e shrinking fuel s iter counter).1 k = true →
        reachedLower (solveLoop e shrinking fuel s iter counter).1 k = false) := by
  have h2 := solveLoop_inv (ubPos_loop e s.alpha.length) shrinking fuel s iter counter
    ⟨rfl, hub, hb.1, hn, hpos⟩
  refine ⟨solveLoop_inv (feas_loop e s.alpha.length (ySum s)) shrinking fuel s iter counter
    ⟨hb, hy, rfl, hn, rfl⟩, fun hfin => ?_⟩
  obtain ⟨hopt, hall⟩ := solveLoop_break e shrinking fuel s iter counter hfin
  exact ⟨hopt, hall, fun k hk =>
    upper_not_lower _ k (h2.2.2.2.2 k (lt_of_lt_of_le hk h2.2.2.2.1)).1⟩

/-- feasible, sizes agree, and the class `c` has the sum `v` -/
def ClassInv (c : Bool) (v : α) (s : St α) : Prop :=
  Box s ∧ s.y.length = s.alpha.length ∧ s.nactive ≤ s.alpha.length ∧ classSum s c = v

theorem classInv_loop (e : Env α) (hnu : e.nu = true) (c : Bool) (v : α) : LoopInv e (ClassInv c v) where
  bound := fun s h => h.2.2.1
  swap := fun s i j h hi hj => by
    obtain ⟨hb, hyl, hn, hs⟩ := h
    exact ⟨swap_box s i j hi hj hb, by simp only [Smo.swap, swapL_length]; exact hyl,
      by simp only [Smo.swap, swapL_length]; exact hn, by rw [swap_classSum s i j hi hj hyl c]; exact hs⟩
  upd := fun s i j h hsel => by
    obtain ⟨hb, hyl, hn, hs⟩ := h
    have hsel' : selectWorkingSetNu e s = (i, j, false) := by
      unfold selectWorkingSet at hsel; rw [if_pos hnu] at hsel; exact hsel
    obtain ⟨hij, hi, hj, hy⟩ := selectWorkingSetNu_valid e s i j hsel'
    have hi' : i < s.alpha.length := by omega
    have hj' : j < s.alpha.length := by omega
    exact ⟨update_box e s i j hij hi' hj' hb, by rw [update_y, update_alpha_length]; exact hyl,
      by rw [update_nactive, update_alpha_length]; exact hn,
      by rw [update_classSum e s i j hij hi' hj' hb hy c]; exact hs⟩
  recon := fun s h => by rw [reconstructGradient_eq]; exact h
  nact := fun s m h hm => ⟨h.1, h.2.1, hm, h.2.2.2⟩
  unshr := fun s h => h

end feasible
end LinfaSpec.Smo

