import LinfaSpec.Proofs.Vectorizer
import Mathlib.Data.Rat.Floor
import Mathlib.Analysis.SpecialFunctions.Log.Basic

/-!
# C17 — Count and tf-idf vectorisers equal a naive count of the tokenised corpus

Theorems about `LinfaSpec.Vectorizer` (model of `NGramList`, `CountVectorizer` fitting /
transforming, `FittedTfIdfVectorizer`).  Tokenisation is the external parameter: a document is
its token list (`List ω`), an entry is what `Joiner` builds from a window of tokens.

* every statement about a fitted vectoriser holds for **every iteration order of the hash map**
  (`order`, any function returning a permutation of its argument);
* the document-frequency window is the pair of *absolute* bounds the code computes
  (`absBounds`, executed on `Float32` by the driver) — the theorems hold for all bounds;
* the word type is any linear order (Rust `String: Ord`), used only by the feature cap;
* the documented *relative* window is tied to the absolute bounds in exact arithmetic: for any ordered field
  with ceiling and floor (`window_is_relative`) and for the exact-rational instance `absBoundsExact` that
  `fitDocs` is run with for every `count` / `tfidf` request (`window_is_relative_exact`);
* the guard of `check_ref` supplies the hypotheses `1 ≤ nmin ≤ nmax`, `0 ≤ lo ≤ hi ≤ 1`; a NaN bound passes the
  guard (`check_params_guard_any`) and is outside the theorems about the window.
-/
namespace LinfaSpec.Props.C17
open LinfaSpec.Vectorizer

/-! ## n-grams -/

/-- **`NGramList` yields exactly the windows of `nmin..nmax` consecutive tokens**: an entry is
produced iff it is the join of `L` consecutive tokens starting at some `i`, `nmin ≤ L ≤ nmax`.
Hypotheses = the parameter guard (`1 ≤ nmin ≤ nmax`). -/
theorem ngrams_spec {ω γ} (J : Joiner ω γ) (ws : List ω) (nmin nmax : Nat)
    (h1 : 1 ≤ nmin) (h2 : nmin ≤ nmax) (g : γ) :
    g ∈ docGrams J nmin nmax ws ↔
      ∃ i L, nmin ≤ L ∧ L ≤ nmax ∧ i + L ≤ ws.length ∧ joinW J ((ws.drop i).take L) = some g :=
  mem_docGrams J ws nmin nmax h1 h2 g

/-- list form (reading order, multiplicities): start index `i` contributes the windows of
length `nmin, nmin+1, …, min nmax (len - i)`, each exactly once; indices with no window of the
minimum length contribute nothing (the iterator stops there). -/
theorem ngrams_list_spec {ω γ} (J : Joiner ω γ) (ws : List ω) (nmin nmax : Nat)
    (h1 : 1 ≤ nmin) (h2 : nmin ≤ nmax) :
    docGrams J nmin nmax ws =
      ((List.range (ws.length + 1 - nmin)).map (itemsAtIdx J ws nmin nmax)).flatten ∧
    ∀ i (h : i < ws.length), itemsAtIdx J ws nmin nmax i =
      (List.range (min (i + nmax) ws.length - (i + nmin) + 1)).map fun k =>
        gram J ws[i] ((ws.drop (i + 1)).take (nmin - 1 + k)) :=
  ⟨docGrams_eq J ws nmin nmax h1 h2, fun i h => itemsAtIdx_of_lt J ws nmin nmax i h⟩

example : docGrams strJoiner 1 2 ["a", "b", "c"] = ["a", "a b", "b", "b c", "c"] := by decide
example : docGrams strJoiner 2 3 ["a", "b", "c"] = ["a b", "a b c", "b c"] := by decide
example : docGrams strJoiner 1 1 ([] : List String) = [] := by decide

/-! ## the sparse row (`CsVec`) -/

/-- **the `CsVec` built from a dense row**: its cells are the non-zero entries of the row, the
columns are strictly increasing (the condition `CsVec::append` needs), and reading a cell back
(`get`) gives the stored count or `None` for a zero / out-of-range cell. -/
theorem sparse_row_spec (row : List Nat) :
    (∀ j c, (j, c) ∈ sparseRow row ↔ 0 < c ∧ row[j]? = some c) ∧
    ((sparseRow row).map (·.1)).Pairwise (· < ·) ∧
    (∀ j, sparseGet (sparseRow row) j = if 0 < row[j]?.getD 0 then some (row[j]?.getD 0) else none) := by
  refine ⟨mem_sparseRow row, sparseRow_sorted row, fun j => Option.ext fun c => ?_⟩
  rw [sparseGet_eq_some_iff (sparseRow_sorted row), mem_sparseRow]
  cases row[j]? with
  | none => simp only [Option.getD_none, Nat.lt_irrefl, if_false, reduceCtorEq, and_false]
  | some r =>
    rw [Option.getD_some, Option.some.injEq]
    by_cases hr : 0 < r
    · rw [if_pos hr, Option.some.injEq]; exact ⟨fun h => h.2, fun h => ⟨h ▸ hr, h⟩⟩
    · rw [if_neg hr]; exact iff_of_false (fun h => hr (h.2 ▸ h.1)) nofun

example : sparseRow [0, 2, 0, 1] = [(1, 2), (3, 1)] := by decide +kernel

/-- `CsMat::nnz` of the count matrix is the number of non-zero cells -/
theorem nnz_counts_nonzero (rows : List (List Nat)) :
    nnz rows = (rows.map fun r => r.countP fun c => decide (0 < c)).sum := by
  unfold nnz
  rw [List.sum_eq_foldl]
  congr 1
  exact List.map_congr_left fun r _ => sparseRow_length r

example : nnz [[0, 2, 0, 1], [], [0, 0, 0, 0]] = 2 := by decide +kernel

/-! ## any consistent vectoriser (fitted or built from a user vocabulary) -/

section
variable {γ : Type} [DecidableEq γ]

/-- **fixed vocabulary**: `fit_vocabulary(words)` lists exactly the given words, each once,
and its state is consistent — so `count_entry_of_consistent` / `tfidf_entry_of_consistent` apply. -/
theorem fixed_vocabulary (order : List (Entry γ) → List (Entry γ)) (horder : ∀ l, (order l).Perm l)
    (words : List γ) :
    Consistent (fitVocabulary order words) ∧ ∀ g, g ∈ (fitVocabulary order words).vec ↔ g ∈ words := by
  obtain ⟨hnd, hmem⟩ := keys_foldl_nil keys_insertWord words
  exact ⟨hashmapToVocabulary_consistent order _ (horder _) hnd,
    fun g => ((horder _).map (·.1)).mem_iff.trans (hmem g)⟩

example : (fitVocabulary (γ := Nat) id [5, 3, 5, 7]).vec = [5, 3, 7] := by decide +kernel

/-- count matrix of any consistent vectoriser -/
theorem count_entry_of_consistent (F : Fitted γ) (hF : Consistent F) (tr : List (List γ)) :
    transform F tr = tr.map fun d => F.vec.map fun w => d.count w :=
  transform_eq F hF tr

/-- tf-idf matrix of any consistent vectoriser -/
theorem tfidf_entry_of_consistent {α : Type} [Add α] [Mul α] [Div α] [OfNat α 0] [OfNat α 1] [NatCast α]
    [Transc α] (m : Method) (F : Fitted γ) (hF : Consistent F) (tr : List (List γ)) :
    transformTfIdf (α := α) m F tr = tr.map fun d => F.vec.map fun w =>
      if d.count w = 0 then (0 : α)
      else (d.count w : α) * computeIdf m tr.length (docFreq tr w) :=
  transformTfIdf_eq m F hF tr

/-- **out-of-vocabulary entries contribute nothing**: inserting an entry that is not in the
vocabulary anywhere in a document leaves its row unchanged. -/
theorem oov_contributes_zero (F : Fitted γ) (hF : Consistent F) (pre post : List γ) (g : γ)
    (hg : g ∉ F.vec) : analyzeDocument F (pre ++ g :: post) = analyzeDocument F (pre ++ post) := by
  rw [analyzeDocument_eq F hF, analyzeDocument_eq F hF]
  refine List.map_congr_left fun w hw => ?_
  rw [List.count_append, List.count_append, List.count_cons_of_ne fun h : g = w => hg (h ▸ hw)]

example : analyzeDocument (fitVocabulary (γ := Nat) id [5, 3]) [5, 9, 3, 5] = [2, 1] := by decide +kernel

/-- the count matrix has one row per document and one column per vocabulary entry -/
theorem matrix_shape (F : Fitted γ) (hF : Consistent F) (tr : List (List γ)) :
    (transform F tr).length = tr.length ∧ ∀ row ∈ transform F tr, row.length = F.vec.length := by
  rw [count_entry_of_consistent F hF tr]
  refine ⟨List.length_map _, fun row hrow => ?_⟩
  obtain ⟨d, _, rfl⟩ := List.mem_map.mp hrow
  exact List.length_map _

/-- **the sparse row stores exactly the non-zero counts**: `(j, c)` is a stored cell of the `CsVec`
that `analyze_document` returns iff `c > 0` is the number of occurrences of `vocabulary()[j]`. -/
theorem sparse_cells_are_nonzero_counts (F : Fitted γ) (hF : Consistent F) (grams : List γ) (j c : Nat) :
    (j, c) ∈ sparseRow (analyzeDocument F grams) ↔
      0 < c ∧ ∃ h : j < F.vec.length, grams.count F.vec[j] = c := by
  rw [mem_sparseRow, analyzeDocument_eq F hF, List.getElem?_eq_some_iff]
  simp only [List.length_map, List.getElem_map]

example : sparseRow (analyzeDocument (fitVocabulary (γ := Nat) id [5, 3, 8]) [5, 9, 8, 5]) = [(0, 2), (2, 1)] := by
  decide +kernel

end

/-! ## the fitted vocabulary -/

section
variable {γ : Type} [LinearOrder γ]

/-- **without a feature cap the vocabulary is exactly the set of admitted corpus entries**:
`g` is listed iff it occurs in some training document, its document frequency (number of
documents containing it) lies in the inclusive window, and it is not a stop entry (stop words are
compared with whole entries).  No entry is listed twice.  For every iteration order. -/
theorem vocab_eq_admitted (order : List (Entry γ) → List (Entry γ)) (horder : ∀ l, (order l).Perm l)
    (docs : List (List γ)) (minAbs maxAbs : Nat) (stop : Option (List γ)) :
    (fit order docs minAbs maxAbs stop none).vec.Nodup ∧
    ∀ g, g ∈ (fit order docs minAbs maxAbs stop none).vec ↔
      (∃ d ∈ docs, g ∈ d) ∧ minAbs ≤ docFreq docs g ∧ docFreq docs g ≤ maxAbs ∧
        ∀ s, stop = some s → g ∉ s := by
  obtain ⟨hnd, _, hmem⟩ := filtered_spec docs minAbs maxAbs stop
  have hp := fit_vec_perm order horder docs minAbs maxAbs stop none
  exact ⟨hp.nodup_iff.mpr hnd, fun g => hp.mem_iff.trans (hmem g)⟩

example : (fit (γ := Nat) id [[1, 2, 2], [2, 3], [2]] 2 3 (some [7]) none).vec = [2] := by decide +kernel

/-- **under a feature cap the vocabulary is the top `min cap |admitted|` of the admitted entries
by (document frequency, word)**: its size is `min m |A|`, every listed entry is admitted, and every
listed entry beats every admitted-but-dropped entry: higher document frequency, or equal frequency
and greater word.  For every iteration order. -/
theorem cap_is_top (order : List (Entry γ) → List (Entry γ)) (horder : ∀ l, (order l).Perm l)
    (docs : List (List γ)) (minAbs maxAbs : Nat) (stop : Option (List γ)) (m : Nat) :
    let A := (fit order docs minAbs maxAbs stop none).vec
    let V := (fit order docs minAbs maxAbs stop (some m)).vec
    V.Nodup ∧ V.length = min m A.length ∧ (∀ g ∈ V, g ∈ A) ∧
    ∀ a ∈ V, ∀ b ∈ A, b ∉ V →
      docFreq docs b < docFreq docs a ∨ (docFreq docs b = docFreq docs a ∧ b < a) := by
  intro A V
  obtain ⟨hnd, hfreq, _⟩ := filtered_spec docs minAbs maxAbs stop
  have pA : A.Perm (keys _) := fit_vec_perm order horder docs minAbs maxAbs stop none
  have pV : V.Perm (keys _) := fit_vec_perm order horder docs minAbs maxAbs stop (some m)
  rw [filterVocab_some] at pV
  obtain ⟨k1, k2, k3, k4⟩ := capTop_keys_spec m _ hnd (docFreq docs) hfreq
  exact ⟨pV.nodup_iff.mpr k1, by rw [pV.length_eq, pA.length_eq, k2],
    fun g hg => pA.mem_iff.mpr (k3 g (pV.mem_iff.mp hg)),
    fun a ha b hb hnb => k4 a (pV.mem_iff.mp ha) b (pA.mem_iff.mp hb) fun h => hnb (pV.mem_iff.mpr h)⟩

/- non-vacuity: the hypotheses are met by the identity enumeration and by the reversed one; the
theorem instantiated on a corpus with a frequency tie at the cut (entries 2 and 3 both have
document frequency 2, cap 1). -/
example : ∃ order : List (Entry Nat) → List (Entry Nat), ∀ l, (order l).Perm l := ⟨id, fun _ => List.Perm.refl _⟩
example := cap_is_top (γ := Nat) id (fun _ => List.Perm.refl _) [[1, 2, 2], [2, 3], [3]] 0 3 none 1
example : ∃ order : List (Entry Nat) → List (Entry Nat), ∀ l, (order l).Perm l :=
  ⟨List.reverse, fun l => List.reverse_perm l⟩

/-- the feature cap does nothing when it is at least the number of admitted entries -/
theorem cap_ge_is_all (order : List (Entry γ) → List (Entry γ)) (horder : ∀ l, (order l).Perm l)
    (docs : List (List γ)) (minAbs maxAbs : Nat) (stop : Option (List γ)) (m : Nat)
    (hm : (fit order docs minAbs maxAbs stop none).vec.length ≤ m) :
    (fit order docs minAbs maxAbs stop (some m)).vec.Perm (fit order docs minAbs maxAbs stop none).vec := by
  obtain ⟨hnd, hlen, hsub, _⟩ := cap_is_top order horder docs minAbs maxAbs stop m
  apply (List.subperm_of_subset hnd hsub).perm_of_length_le
  rw [hlen]; exact Nat.le_min.mpr ⟨hm, Nat.le_refl _⟩

example : (fit (γ := Nat) id [[1, 2, 2], [2, 3], [3]] 0 3 none none).vec.length ≤ 3 := by decide +kernel

/-- **what the feature cap surely keeps and surely drops** (the part of a capped vocabulary the
comparison treats as promised, whatever the choice among equals): an admitted entry with fewer than
`m` other admitted entries of at least its document frequency is kept; an admitted entry with at
least `m` admitted entries of strictly higher document frequency is dropped. -/
theorem cap_sure (order : List (Entry γ) → List (Entry γ)) (horder : ∀ l, (order l).Perm l)
    (docs : List (List γ)) (minAbs maxAbs : Nat) (stop : Option (List γ)) (m : Nat) (a : γ) :
    let A := (fit order docs minAbs maxAbs stop none).vec
    let V := (fit order docs minAbs maxAbs stop (some m)).vec
    a ∈ A →
    (((A.filter fun b => decide (b ≠ a) && decide (docFreq docs a ≤ docFreq docs b)).length < m → a ∈ V) ∧
     (m ≤ (A.filter fun b => decide (docFreq docs a < docFreq docs b)).length → a ∉ V)) := by
  intro A V ha
  obtain ⟨hnd, hlen, hsub, htop⟩ := cap_is_top order horder docs minAbs maxAbs stop m
  exact top_sure hnd (vocab_eq_admitted order horder docs minAbs maxAbs stop).1 hlen hsub
    (fun v hv b hb hnb => (htop v hv b hb hnb).elim Nat.le_of_lt fun h => Nat.le_of_eq h.1) a ha

example := cap_sure (γ := Nat) id (fun _ => List.Perm.refl _) [[1, 2, 2], [2, 3], [3]] 0 3 none 1 2

/-- the state a fit leaves behind is consistent, with or without cap, for every iteration order -/
theorem fit_consistent (order : List (Entry γ) → List (Entry γ)) (horder : ∀ l, (order l).Perm l)
    (docs : List (List γ)) (minAbs maxAbs : Nat) (stop : Option (List γ)) (cap : Option Nat) :
    Consistent (fit order docs minAbs maxAbs stop cap) := by
  obtain ⟨hnd, _, _⟩ := filtered_spec docs minAbs maxAbs stop
  unfold fit
  apply hashmapToVocabulary_consistent order _ (horder _)
  cases cap with
  | none => exact hnd
  | some m => rw [filterVocab_some]; exact capTop_keys_nodup m _ hnd

/-- **column `j` always refers to `vocabulary()[j]`**: the map and the vector have the same size,
the vector has no duplicates, the index stored in the map for `vocabulary()[j]` is `j`, and
every index stored in the map is in range and points back at its word (so the `unwrap()` in
`analyze_document` cannot fail). -/
theorem column_is_vocab_index (order : List (Entry γ) → List (Entry γ)) (horder : ∀ l, (order l).Perm l)
    (docs : List (List γ)) (minAbs maxAbs : Nat) (stop : Option (List γ)) (cap : Option Nat) :
    let F := fit order docs minAbs maxAbs stop cap
    F.vocabulary.length = F.vec.length ∧ F.vec.Nodup ∧
    (∀ j (h : j < F.vec.length), lookupIdx F.vocabulary F.vec[j] = some j) ∧
    (∀ g j, lookupIdx F.vocabulary g = some j → ∃ h : j < F.vec.length, F.vec[j] = g) := by
  intro F
  have hF := fit_consistent order horder docs minAbs maxAbs stop cap
  exact ⟨hF.len, hF.nodup, (consistent_index F hF).1, (consistent_index F hF).2⟩

/-- **entry `(d, j)` of the count matrix is the number of occurrences of `vocabulary()[j]` among
the entries of document `d`**, for any documents (training or unseen). -/
theorem count_entry (order : List (Entry γ) → List (Entry γ)) (horder : ∀ l, (order l).Perm l)
    (docs : List (List γ)) (minAbs maxAbs : Nat) (stop : Option (List γ)) (cap : Option Nat)
    (tr : List (List γ)) :
    let F := fit order docs minAbs maxAbs stop cap
    transform F tr = tr.map fun d => F.vec.map fun w => d.count w := by
  intro F
  exact count_entry_of_consistent F (fit_consistent order horder docs minAbs maxAbs stop cap) tr

example : transform (fit (γ := Nat) id [[1, 2, 2], [2, 3]] 0 2 none none) [[2, 9, 2, 1], []] =
    [[1, 2, 0], [0, 0, 0]] := by decide +kernel

/-- **each tf-idf entry is the count times the idf of its column over the transformed corpus**:
`n` = number of transformed documents, `df_j` = number of transformed documents containing
`vocabulary()[j]`; cells with count 0 are not stored and read as 0.  Any scalar type. -/
theorem tfidf_entry {α : Type} [Add α] [Mul α] [Div α] [OfNat α 0] [OfNat α 1] [NatCast α] [Transc α]
    (order : List (Entry γ) → List (Entry γ)) (horder : ∀ l, (order l).Perm l)
    (docs : List (List γ)) (minAbs maxAbs : Nat) (stop : Option (List γ)) (cap : Option Nat)
    (m : Method) (tr : List (List γ)) :
    let F := fit order docs minAbs maxAbs stop cap
    transformTfIdf (α := α) m F tr = tr.map fun d => F.vec.map fun w =>
      if d.count w = 0 then (0 : α)
      else (d.count w : α) * computeIdf m tr.length (docFreq tr w) := by
  intro F
  exact tfidf_entry_of_consistent m F (fit_consistent order horder docs minAbs maxAbs stop cap) tr

/-- **the column of a word does not depend on the iteration order of the hash map**: whatever column
`w` was given, that column of the count matrix lists the occurrences of `w` per document (this is
what the comparison "sort the words, permute the columns" relies on). -/
theorem column_of_word (order : List (Entry γ) → List (Entry γ)) (horder : ∀ l, (order l).Perm l)
    (docs : List (List γ)) (minAbs maxAbs : Nat) (stop : Option (List γ)) (cap : Option Nat)
    (tr : List (List γ)) (w : γ) :
    let F := fit order docs minAbs maxAbs stop cap
    w ∈ F.vec →
      (transform F tr).map (fun row => row[F.vec.idxOf w]?) = tr.map fun d => some (d.count w) := by
  intro F hw
  rw [count_entry order horder docs minAbs maxAbs stop cap tr]
  rw [List.map_map]
  refine List.map_congr_left fun d _ => ?_
  have hj := List.idxOf_lt_length_iff.mpr hw
  rw [Function.comp_apply, List.getElem?_map, List.getElem?_eq_getElem hj, Option.map_some, List.getElem_idxOf hj]

example : 2 ∈ (fit (γ := Nat) id [[1, 2, 2], [2, 3]] 0 2 none none).vec := by decide +kernel

end

/-! ## the relative document-frequency window and the parameter guard -/

section
variable {γ : Type} [LinearOrder γ]

/-- **the guard of `check_ref` for ANY scalar with a decidable `<`** (in particular the `Float32`
instance the driver runs, where a NaN bound passes because every comparison with it is false). -/
theorem check_params_guard_any {α : Type} [LT α] [DecidableLT α] [OfNat α 0] [OfNat α 1]
    (nmin nmax : Nat) (lo hi : α) :
    checkParamsG nmin nmax lo hi = none ↔
      1 ≤ nmin ∧ nmin ≤ nmax ∧ ¬ lo < 0 ∧ ¬ hi < 0 ∧ ¬ lo > 1 ∧ ¬ hi > 1 ∧ ¬ hi < lo := by
  have key : ∀ (c : Prop) [Decidable c] (e : String) (x : Option String),
      (if c then some e else x) = none ↔ ¬ c ∧ x = none := fun c _ e x => by
    by_cases h : c
    · rw [if_pos h]; exact iff_of_false nofun fun h' => h'.1 h
    · rw [if_neg h, and_iff_right h]
  simp only [checkParamsG, key, not_or, and_true]
  constructor
  · rintro ⟨⟨h1, _⟩, h2, ⟨h3, h4, h5, h6⟩, h7⟩
    exact ⟨Nat.pos_of_ne_zero h1, Nat.not_lt.mp h2, h3, h4, h5, h6, h7⟩
  · rintro ⟨h1, h2, h3, h4, h5, h6, h7⟩
    exact ⟨⟨Nat.ne_of_gt h1, Nat.ne_of_gt (Nat.lt_of_lt_of_le h1 h2)⟩, Nat.not_lt.mpr h2, ⟨h3, h4, h5, h6⟩, h7⟩

example : checkParamsG (α := Int) 1 2 0 1 = none := by decide +kernel

/-- **the guard of `check_ref`**: the settings pass iff `1 ≤ nmin ≤ nmax` and `0 ≤ lo ≤ hi ≤ 1`
(over an ordered field, i.e. NaN aside). -/
theorem check_params_guard {α : Type} [Field α] [LinearOrder α] [IsStrictOrderedRing α]
    (nmin nmax : Nat) (lo hi : α) :
    checkParamsG nmin nmax lo hi = none ↔
      1 ≤ nmin ∧ nmin ≤ nmax ∧ 0 ≤ lo ∧ lo ≤ hi ∧ hi ≤ 1 := by
  have nl : ∀ a b : α, ¬ a < b ↔ b ≤ a := fun _ _ => not_lt
  rw [check_params_guard_any]
  constructor
  · rintro ⟨h1, h2, h3, _, _, h6, h7⟩
    exact ⟨h1, h2, (nl ..).mp h3, (nl ..).mp h7, (nl ..).mp h6⟩
  · rintro ⟨h1, h2, h3, h4, h5⟩
    exact ⟨h1, h2, (nl ..).mpr h3, (nl ..).mpr (h3.trans h4), (nl ..).mpr (h4.trans h5), (nl ..).mpr h5,
      (nl ..).mpr h4⟩

/- the right-hand side can be met: n-gram range `(1, 2)`, frequencies `(1/4, 3/4)` -/
example : (1 : Nat) ≤ 1 ∧ 1 ≤ 2 ∧ (0 : ℚ) ≤ 1 / 4 ∧ (1 / 4 : ℚ) ≤ 3 / 4 ∧ (3 / 4 : ℚ) ≤ 1 := by decide +kernel

/-- **the absolute bounds are the documented relative window**: in exact arithmetic
`ceil(lo·n) ≤ df ≤ floor(hi·n)` holds iff `lo ≤ df/n ≤ hi` (`absBoundsWith` is the formula the
driver runs on `Float32`; here it is instantiated with exact ceiling / floor). -/
theorem window_is_relative {α : Type} [Field α] [LinearOrder α] [IsStrictOrderedRing α] [FloorSemiring α]
    (lo hi : α) (n df : Nat) (hn : 0 < n) (hhi : 0 ≤ hi) :
    let b := absBoundsWith (Nat.cast : Nat → α) Nat.ceil Nat.floor lo hi n
    (b.1 ≤ df ∧ df ≤ b.2) ↔ (lo ≤ (df : α) / n ∧ (df : α) / n ≤ hi) :=
  absBoundsWith_window Nat.ceil Nat.floor (fun _ _ => Nat.ceil_le) (fun _ _ h => Nat.le_floor_iff h)
    lo hi n df hn hhi

/- the hypotheses at `n = 3`, `hi = 3/4`, and the theorem there -/
example : (0 : Nat) < 3 ∧ (0 : ℚ) ≤ 3 / 4 := by decide +kernel
example := window_is_relative (α := ℚ) (1 / 2) (3 / 4) 3 2 (by decide) (by decide +kernel)

/-- **the vocabulary in terms of the relative settings** (no cap, exact arithmetic): an entry is
listed iff it occurs in the corpus, its relative document frequency `df/n` lies in `[lo, hi]`, and it
is no stop entry. -/
theorem vocab_eq_admitted_relative {α : Type} [Field α] [LinearOrder α] [IsStrictOrderedRing α]
    [FloorSemiring α]
    (order : List (Entry γ) → List (Entry γ)) (horder : ∀ l, (order l).Perm l)
    (docs : List (List γ)) (lo hi : α) (hhi : 0 ≤ hi) (stop : Option (List γ)) :
    let b := absBoundsWith (Nat.cast : Nat → α) Nat.ceil Nat.floor lo hi docs.length
    ∀ g, g ∈ (fit order docs b.1 b.2 stop none).vec ↔
      (∃ d ∈ docs, g ∈ d) ∧ lo ≤ (docFreq docs g : α) / docs.length ∧
        (docFreq docs g : α) / docs.length ≤ hi ∧ ∀ s, stop = some s → g ∉ s := by
  intro b g
  rw [(vocab_eq_admitted order horder docs b.1 b.2 stop).2 g]
  -- an entry of the corpus shows that there is a document, which the window lemma needs
  refine and_congr_right ?_
  rintro ⟨d, hd, _⟩
  rw [← and_assoc, ← and_assoc]
  exact and_congr_left' (window_is_relative lo hi docs.length (docFreq docs g) (List.length_pos_of_mem hd) hhi)

example := vocab_eq_admitted_relative (γ := Nat) (α := ℚ) id (fun _ => List.Perm.refl _)
  [[1, 2, 2], [2, 3], [2]] (1 / 2) 1 (by decide +kernel) (some [7])

end

/-- **the absolute window the driver computes is the documented relative window**: `absBoundsExact`
(= `absBoundsWith`, the formula of `filter_vocabulary`, with exact rational product / ceiling / floor —
the function the driver answers through) admits `df` iff `lo ≤ df/n ≤ hi`.
Hypotheses: at least one document, `0 ≤ hi` (guard). -/
theorem window_is_relative_exact (lo hi : Rat) (n df : Nat) (hn : 0 < n) (hhi : 0 ≤ hi) :
    let b := absBoundsExact lo hi n
    (b.1 ≤ df ∧ df ≤ b.2) ↔ (lo ≤ (df : Rat) / n ∧ (df : Rat) / n ≤ hi) := by
  refine absBoundsWith_window _ _ (fun x k => ?_) (fun x k hx => ?_) lo hi n df hn hhi
  · rw [Int.toNat_le, Rat.ceil_le_iff, Int.cast_natCast]
  · rw [Int.le_toNat (Rat.le_floor_iff.mpr (by rwa [Int.cast_zero])), Rat.le_floor_iff, Int.cast_natCast]

example := window_is_relative_exact (1 / 2) (3 / 4) 3 2 (by decide) (by decide +kernel)

/-! ## the string transformation -/

/-- **`transform_string`**: NFKD is applied iff `normalize`, lower-casing iff `convert_to_lowercase`,
normalisation first. -/
theorem transform_string_spec {σ : Type} (nfkd lower : σ → σ) (s : σ) :
    transformString nfkd lower true true s = lower (nfkd s) ∧
    transformString nfkd lower true false s = nfkd s ∧
    transformString nfkd lower false true s = lower s ∧
    transformString nfkd lower false false s = s := ⟨rfl, rfl, rfl, rfl⟩

/-- **the two switches are independent**: with `normalize` off the result does not depend on the
normalisation map at all, with lower-casing off not on the case map. -/
theorem transform_string_independent {σ : Type} (nfkd nfkd' lower lower' : σ → σ) (b : Bool) (s : σ) :
    transformString nfkd lower false b s = transformString nfkd' lower false b s ∧
    transformString nfkd lower b false s = transformString nfkd lower' b false s := by
  cases b <;> exact ⟨rfl, rfl⟩

example : transformString (fun s : Nat => s + 100) (fun s => s % 10) false true 57 = 7 := by decide +kernel

/-- **the `tstring` answers**: with the finite tables the harness sends (`raw ↦ nfkd`, `raw ↦ low`,
`nfkd ↦ lownfkd`) the model's `transform_string` returns, under both switches, the `lownfkd` field when NFKD
changes the string and `low` when it does not (`tableLower` looks for `raw` first) — NFKD first, THEN
lower-casing of the normalised string (the two do not commute: `™ ↦ TM ↦ tm`) —, `nfkd` / `low` under one
switch, the raw string under none. -/
theorem tstring_table {σ : Type} [DecidableEq σ] (raw nf low lownf : σ) :
    transformString (tableNfkd raw nf) (tableLower raw nf low lownf) true true raw
      = (if nf = raw then low else lownf) ∧
    transformString (tableNfkd raw nf) (tableLower raw nf low lownf) true false raw = nf ∧
    transformString (tableNfkd raw nf) (tableLower raw nf low lownf) false true raw = low ∧
    transformString (tableNfkd raw nf) (tableLower raw nf low lownf) false false raw = raw := by
  refine ⟨?_, ?_, ?_, ?_⟩
  · -- NFKD gives `nf`; the case table then answers `low` if that is still `raw`, else `lownf`
    show tableLower raw nf low lownf (if raw = raw then nf else raw) = _
    rw [if_pos rfl, tableLower]
    by_cases h : nf = raw
    · rw [if_pos h, if_pos h]
    · rw [if_neg h, if_neg h, if_pos rfl]
  · exact if_pos rfl
  · exact if_pos rfl
  · rfl

/-- the order is observable: a table on which lower-casing first gives another string -/
example : transformString (tableNfkd "™" "TM") (tableLower "™" "TM" "™" "tm") true true "™" = "tm" ∧
    tableNfkd "™" "TM" (tableLower "™" "TM" "™" "tm" "™") = "TM" := by decide +kernel

/-! ## the parameter object -/

/-- **the tokeniser configured last is the one a fit uses, whatever the history of the object**:
for ANY state `p` (any stale cache left by earlier fits, any function set earlier) `tokenizer(s)`
followed by `check_ref` makes `fit` tokenise with `s`. -/
theorem check_ref_uses_last_tokenizer {ρ φ : Type} (p : TokParams ρ φ) (s : TokSetting ρ φ) :
    ((p.tokenizer s).checkRef).used = some s ∧ ((p.tokenizer s).checkRef.checkRef).used = some s := by
  cases s <;> exact ⟨rfl, rfl⟩

/-- in general `check_ref` makes the object tokenise with what is configured -/
theorem check_ref_uses_configured {ρ φ : Type} (p : TokParams ρ φ) :
    p.checkRef.used = some p.configured := by
  obtain ⟨e, c, f⟩ := p
  cases f <;> rfl

example : ((((⟨0, none, none⟩ : TokParams Nat Nat).tokenizer (.regex 1)).checkRef).tokenizer (.regex 2)).checkRef.used
    = some (.regex 2) := by decide +kernel

/-! ## from the tokens; the loops over files -/

section
variable {ω γ : Type} [LinearOrder γ]

/-- **end to end, from the tokens, in terms of the relative settings** (no cap): an entry is in the
vocabulary iff it is the join of `L ∈ nmin..nmax` consecutive tokens of some training document, its
relative document frequency (counted over the documents' entry lists `docGrams`) lies in `[lo, hi]`, and it is
no stop entry.  `fitDocs` with
`absBoundsExact` is what the driver runs for every `count` / `tfidf` request. -/
theorem vocab_from_tokens (J : Joiner ω γ) (order : List (Entry γ) → List (Entry γ))
    (horder : ∀ l, (order l).Perm l) (nmin nmax : Nat) (h1 : 1 ≤ nmin) (h2 : nmin ≤ nmax)
    (lo hi : Rat) (hhi : 0 ≤ hi) (stop : Option (List γ)) (docs : List (List ω)) (g : γ) :
    g ∈ (fitDocs J order nmin nmax (absBoundsExact lo hi) stop none docs).vec ↔
      (∃ ws ∈ docs, ∃ i L, nmin ≤ L ∧ L ≤ nmax ∧ i + L ≤ ws.length ∧
          joinW J ((ws.drop i).take L) = some g) ∧
      lo ≤ (docFreq (docs.map (docGrams J nmin nmax)) g : Rat) / docs.length ∧
      (docFreq (docs.map (docGrams J nmin nmax)) g : Rat) / docs.length ≤ hi ∧
      ∀ s, stop = some s → g ∉ s := by
  unfold fitDocs
  dsimp only
  rw [(vocab_eq_admitted order horder _ _ _ stop).2 g]
  have hmem : (∃ d ∈ docs.map (docGrams J nmin nmax), g ∈ d) ↔
      ∃ ws ∈ docs, ∃ i L, nmin ≤ L ∧ L ≤ nmax ∧ i + L ≤ ws.length ∧
        joinW J ((ws.drop i).take L) = some g := by
    simp only [List.mem_map, exists_exists_and_eq_and, ngrams_spec J _ nmin nmax h1 h2 g]
  rw [hmem]
  refine and_congr_right ?_
  rintro ⟨ws, hws, _⟩
  rw [← and_assoc, ← and_assoc]
  exact and_congr_left' (window_is_relative_exact lo hi docs.length _ (List.length_pos_of_mem hws) hhi)

/-- **end to end, from the tokens**: cell `(d, j)` of `transform` is the number of windows of
`nmin..nmax` consecutive tokens of document `d` (listed per start index by `ngrams_list_spec`) whose
join is `vocabulary()[j]` — for any bounds, stop list, cap, iteration order, training and unseen
documents alike. -/
theorem count_from_tokens (J : Joiner ω γ) (order : List (Entry γ) → List (Entry γ))
    (horder : ∀ l, (order l).Perm l) (nmin nmax : Nat) (h1 : 1 ≤ nmin) (h2 : nmin ≤ nmax)
    (bounds : Nat → Nat × Nat) (stop : Option (List γ)) (cap : Option Nat)
    (docs tr : List (List ω)) :
    let F := fitDocs J order nmin nmax bounds stop cap docs
    transformDocs J nmin nmax F tr = tr.map fun ws => F.vec.map fun w =>
      (((List.range (ws.length + 1 - nmin)).map (itemsAtIdx J ws nmin nmax)).flatten).count w := by
  intro F
  rw [transformDocs, count_entry_of_consistent F (fit_consistent order horder _ _ _ stop cap), List.map_map]
  exact List.map_congr_left fun ws _ => by rw [Function.comp_apply, docGrams_eq J ws nmin nmax h1 h2]

/-- **`fit_files` computes what `fit` computes** (its loop is a separate piece of code): when every
file decodes, the result is the vectoriser `fit` builds from the decoded documents — the window is
taken from the number of files. -/
theorem fit_files_eq_fit (J : Joiner ω γ) (order : List (Entry γ) → List (Entry γ))
    (nmin nmax : Nat) (bounds : Nat → Nat × Nat) (stop : Option (List γ)) (cap : Option Nat)
    (docs : List (List ω)) :
    fitFiles J order nmin nmax bounds stop cap (docs.map some) =
      some (fitDocs J order nmin nmax bounds stop cap docs) := by
  unfold fitFiles fitDocs fit readCorpus
  rw [foldl_map_some readDocument _ (docGrams J nmin nmax) (fun _ _ => rfl)]
  simp only [List.length_map]

/-- a file the decoder refuses makes `fit_files` return the error -/
theorem fit_files_refused (J : Joiner ω γ) (order : List (Entry γ) → List (Entry γ))
    (nmin nmax : Nat) (bounds : Nat → Nat × Nat) (stop : Option (List γ)) (cap : Option Nat)
    (files : List (Option (List ω))) (h : none ∈ files) :
    fitFiles J order nmin nmax bounds stop cap files = none := by
  -- the error state is absorbing, and a refused file leads to it from any state
  have stuck : ∀ fs : List (Option (List ω)), fs.foldl (filesStep (γ := γ) J nmin nmax) none = none := fun fs => by
    induction fs with
    | nil => rfl
    | cons f t ih => exact ih
  have key : ∀ (fs : List (Option (List ω))) (st : Option (List (Entry γ))), none ∈ fs →
      fs.foldl (filesStep J nmin nmax) st = none := fun fs => by
    induction fs with
    | nil => exact fun _ h => nomatch h
    | cons f t ih =>
      intro st h
      rcases List.mem_cons.mp h with rfl | h
      · cases st <;> exact stuck t
      · exact ih _ h
  unfold fitFiles
  rw [key files (some []) h]

example : fitFiles (γ := String) strJoiner id 1 1 (fun n => (0, n)) none none [some ["a"], none] = none := by
  decide +kernel

omit [LinearOrder γ] in
/-- **`transform_files` computes what `transform` computes** (again a separate loop) -/
theorem transform_files_eq_transform [DecidableEq γ] (J : Joiner ω γ) (nmin nmax : Nat) (F : Fitted γ)
    (tr : List (List ω)) :
    transformFiles J nmin nmax F (tr.map some) =
      some (termAndDocFreqs F (tr.map (docGrams J nmin nmax))) :=
  foldl_map_some (tdStep F) _ _ (fun _ _ => rfl) tr _

end


/-! ## the documented idf over the reals -/

section Idf

noncomputable local instance : Transc ℝ := ⟨Real.sqrt, Real.exp, Real.log⟩

/-- **the documented idf over the reals** (`Transc.ln := Real.log`, the instance of the very
`computeIdf` the driver runs on `Float`): an entry present in every one of the `n ≥ 1` documents
weighs exactly 1 under `Smooth` and `NonSmooth` ("still considered with a weight of one"), and is
given a NEGATIVE weight `ln(n/(n+1))` by `Textbook` (the rustdoc says "discards"; it does not). -/
theorem idf_entry_in_every_document (n : Nat) (hn : 0 < n) :
    computeIdf (α := ℝ) .smooth n n = 1 ∧ computeIdf (α := ℝ) .nonSmooth n n = 1 ∧
    computeIdf (α := ℝ) .textbook n n < 0 := by
  have hn' : (0 : ℝ) < n := Nat.cast_pos.mpr hn
  have h1 : (0 : ℝ) < 1 + n := add_pos_of_pos_of_nonneg one_pos hn'.le
  refine ⟨?_, ?_, ?_⟩
  · show Real.log ((1 + (n : ℝ)) / (1 + (n : ℝ))) + 1 = 1
    rw [div_self h1.ne', Real.log_one, zero_add]
  · show Real.log ((n : ℝ) / (n : ℝ)) + 1 = 1
    rw [div_self hn'.ne', Real.log_one, zero_add]
  · show Real.log ((n : ℝ) / (1 + (n : ℝ))) < 0
    exact Real.log_neg (div_pos hn' h1) ((div_lt_one h1).mpr (lt_one_add _))

/-- **rarer entries weigh more**: for `0 < df ≤ df' ≤ n` every method gives `idf(n, df') ≤ idf(n, df)`
(at `df = 0` `NonSmooth` is the documented division by zero). -/
theorem idf_antitone (m : Method) (n df df' : Nat) (h : df ≤ df') (hn : df' ≤ n) (hdf : 0 < df) :
    computeIdf (α := ℝ) m n df' ≤ computeIdf (α := ℝ) m n df := by
  -- all three formulas are `log (a / ·)`, up to a constant, with `a > 0` and a positive divisor
  have key : ∀ a b b' : ℝ, 0 < a → 0 < b → b ≤ b' → Real.log (a / b') ≤ Real.log (a / b) := fun a b b' ha hb hbb =>
    Real.log_le_log (div_pos ha (hb.trans_le hbb)) (div_le_div_of_nonneg_left ha.le hb hbb)
  have h' : (df : ℝ) ≤ df' := Nat.cast_le.mpr h
  have hdf' : (0 : ℝ) < df := Nat.cast_pos.mpr hdf
  have hn' : (0 : ℝ) < n := Nat.cast_pos.mpr (Nat.lt_of_lt_of_le hdf (Nat.le_trans h hn))
  have h1 : (0 : ℝ) < 1 + df := add_pos_of_pos_of_nonneg one_pos hdf'.le
  cases m with
  | smooth =>
    exact add_le_add_left (key _ _ _ (add_pos_of_pos_of_nonneg one_pos hn'.le) h1 (add_le_add_right h' 1)) 1
  | nonSmooth => exact add_le_add_left (key _ _ _ hn' hdf' h') 1
  | textbook => exact key _ _ _ hn' h1 (add_le_add_right h' 1)

/- the hypotheses of `idf_antitone` at `df = 2`, `df' = 3`, `n = 5` -/
example : (2 : Nat) ≤ 3 ∧ 3 ≤ 5 ∧ 0 < 2 := by decide +kernel

/-- `Smooth` and `NonSmooth` weights are at least 1 for an entry seen in `1 ≤ df ≤ n` documents, so a
non-zero count never yields a tf-idf cell below the count. -/
theorem idf_at_least_one (n df : Nat) (hdf : 0 < df) (hn : df ≤ n) :
    1 ≤ computeIdf (α := ℝ) .smooth n df ∧ 1 ≤ computeIdf (α := ℝ) .nonSmooth n df := by
  obtain ⟨h1, h2, _⟩ := idf_entry_in_every_document n (Nat.lt_of_lt_of_le hdf hn)
  exact ⟨h1 ▸ idf_antitone .smooth n df n hn le_rfl hdf, h2 ▸ idf_antitone .nonSmooth n df n hn le_rfl hdf⟩

end Idf

end LinfaSpec.Props.C17
