import LinfaSpec.Gen.Scalars
import LinfaSpec.Gen.Vectors
import LinfaSpec.Model.NN
import Mathlib.Analysis.SpecialFunctions.Log.Basic
import Mathlib.Analysis.Real.Sqrt

/-!
# C07 — obligations about the reduced-distance conversions GENERATED from the Rust source

`LinfaSpec.Gen.Scalars.Dist` is regenerated from `algorithms/linfa-nn/src/distance.rs` on every
check (`rdist_to_dist` / `dist_to_rdist` of the trait's default and of every metric's override).
The range filter of all three indices compares `rdistance(q, p) < dist_to_rdist(radius)`, and the
ball tree prunes with `dist_to_rdist(max(distance - radius, 0))`; both are sound only if the two
conversions are mutually inverse and monotone on non-negative reals.  `lp_distance_is_model` ties the text of
`LpDist::distance` (`LinfaSpec.Gen.Vectors`, generated by `tools/vec2lean.py`) to the model's `lp`.
-/
set_option linter.unusedSectionVars false
namespace LinfaSpec.Props.GenC07
open LinfaSpec LinfaSpec.Gen.Scalars

section generic
variable {α : Type} [Add α] [Sub α] [Mul α] [Div α] [Neg α] [LT α] [DecidableLT α] [LE α] [DecidableLE α]
  [DecidableEq α] [OfNat α 0] [OfNat α 1] [OfScientific α] [Transc α]

/-- **the conversions in the source are those of the model metrics** (`toR` / `ofR` fields of
`NN.mL1`, `mLinf`, `mL2`; `mLp` keeps the trait's default, see `lp_uses_default`) -/
theorem conversions_are_model (d : α) :
    (NN.mL1 (α := α)).toR d = Dist.L1Dist_dist_to_rdist d ∧ (NN.mL1 (α := α)).ofR d = Dist.L1Dist_rdist_to_dist d ∧
    (NN.mLinf (α := α)).toR d = Dist.LInfDist_dist_to_rdist d ∧ (NN.mLinf (α := α)).ofR d = Dist.LInfDist_rdist_to_dist d ∧
    (NN.mL2 (α := α)).toR d = Dist.L2Dist_dist_to_rdist d ∧ (NN.mL2 (α := α)).ofR d = Dist.L2Dist_rdist_to_dist d :=
  ⟨rfl, rfl, rfl, rfl, rfl, rfl⟩

/-- `LpDist` does not override the conversions: the trait's default (identity) applies -/
theorem lp_uses_default (d : α) :
    Dist.LpDist_dist_to_rdist d = Dist.Default_dist_to_rdist d ∧
    Dist.LpDist_rdist_to_dist d = Dist.Default_rdist_to_dist d ∧ Dist.Default_dist_to_rdist d = d ∧
    Dist.Default_rdist_to_dist d = d := ⟨rfl, rfl, rfl, rfl⟩

end generic

noncomputable local instance : Transc ℝ := ⟨Real.sqrt, Real.exp, Real.log⟩

/-- **for L2 the two conversions of the source are mutually inverse on non-negative reals and
`dist_to_rdist` is strictly monotone there**, so `rdist < dist_to_rdist r ↔ dist < r`: comparing
reduced distances decides exactly what comparing distances decides -/
theorem l2_conversions_sound (d r : ℝ) (hd : 0 ≤ d) (hr : 0 ≤ r) :
    Dist.L2Dist_rdist_to_dist (Dist.L2Dist_dist_to_rdist d) = d ∧
    Dist.L2Dist_dist_to_rdist (Dist.L2Dist_rdist_to_dist d) = d ∧
    (Dist.L2Dist_dist_to_rdist d < Dist.L2Dist_dist_to_rdist r ↔ d < r) :=
  ⟨Real.sqrt_mul_self hd, Real.mul_self_sqrt hd, (mul_self_lt_mul_self_iff hd hr).symm⟩

example : Dist.L2Dist_dist_to_rdist (3 : ℝ) = 9 ∧ Dist.L2Dist_rdist_to_dist (9 : ℝ) = 3 := by
  constructor
  · show (3 : ℝ) * 3 = 9; norm_num
  · show Real.sqrt 9 = 3
    rw [show (9 : ℝ) = 3 * 3 by norm_num, Real.sqrt_mul_self (by norm_num)]

section lp
variable {α : Type} [Add α] [Sub α] [Mul α] [Div α] [Neg α] [LT α] [DecidableLT α] [LE α] [DecidableLE α]
  [DecidableEq α] [OfNat α 0] [OfNat α 1] [NatCast α] [OfScientific α] [Transc α] [NN.PowF α]

/-- **`LpDist::distance` in the source is the model metric `NN.lp`** (generated by
`tools/vec2lean.py` from the `Zip::from(&a).and(&b).fold(..)` text): the fold over the zipped
coordinates adding `|a-b|.powf(p)`, then `.powf(1/p)` -/
theorem lp_distance_is_model (p : α) (a b : List α) :
    LinfaSpec.Gen.Vectors.Dist.LpDist_distance NN.PowF.powf p a b = NN.lp p a b := by
  unfold LinfaSpec.Gen.Vectors.Dist.LpDist_distance NN.lp
  congr 1
  rw [← List.map_uncurry_zip_eq_zipWith, List.foldl_map]
  rfl
end lp

end LinfaSpec.Props.GenC07
