import LinfaSpec.Proofs.Incremental
import Mathlib.Analysis.Real.Sqrt
import Mathlib.Analysis.SpecialFunctions.Log.Basic

/-!
C15 over the reals: the real `sqrt`, `exp`, `ln` for the "external call" primitives (`transcReal`, the
instance under which `Props/C15` reads the scores of both naive-Bayes learners as logarithms of
probabilities), and the Gaussian score as log prior plus a sum of logarithms of normal densities.
-/
namespace LinfaSpec.Incremental
open LinfaSpec

noncomputable section Reals

/-- the real instance of the "external call" primitives -/
local instance transcReal : Transc ℝ := ⟨Real.sqrt, Real.exp, Real.log⟩

/-- log of the normal density with mean `θ` and variance `σ` at `x` -/
noncomputable def gaussLogPdf (twoPi x θ σ : ℝ) : ℝ := -(1 / 2) * Real.log (twoPi * σ) - (x - θ) * (x - θ) / (2 * σ)

theorem exp_gaussLogPdf (twoPi x θ σ : ℝ) (hp : 0 < twoPi) (hs : 0 < σ) :
    Real.exp (gaussLogPdf twoPi x θ σ) = 1 / Real.sqrt (twoPi * σ) * Real.exp (-((x - θ) * (x - θ)) / (2 * σ)) := by
  have hy : 0 < twoPi * σ := mul_pos hp hs
  unfold gaussLogPdf
  rw [sub_eq_add_neg, Real.exp_add]
  congr 1
  · -- `A = exp (−½ ln y)` is positive with `A² = 1/y`, hence `A = 1/√y`
    set A := Real.exp (-(1 / 2) * Real.log (twoPi * σ)) with hA
    have hApos : 0 < A := Real.exp_pos _
    have hAA : A * A = (twoPi * σ)⁻¹ := by
      rw [hA, ← Real.exp_add, ← add_mul, ← neg_add, add_halves, neg_one_mul, Real.exp_neg,
        Real.exp_log hy]
    rw [← Real.sqrt_mul_self hApos.le, hAA, Real.sqrt_inv, one_div]
  · rw [neg_div]

theorem gnbJll_eq (twoPi : ℝ) (l : List (ℝ × ℝ × ℝ)) (cnt : Nat) (prior : ℝ) :
    gnbJll (twoPi) (1 / 2) ⟨cnt, prior, l.map (·.2.1), l.map (·.2.2)⟩ (l.map (·.1)) =
      Real.log prior + sumS (l.map fun t => gaussLogPdf twoPi t.1 t.2.1 t.2.2) := by
  have hz : List.zipWith (fun (xt : ℝ × ℝ) s => ((xt.1 - xt.2) * (xt.1 - xt.2)) / s)
      ((l.map (·.1)).zip (l.map (·.2.1))) (l.map (·.2.2)) =
      l.map (fun t => ((t.1 - t.2.1) * (t.1 - t.2.1)) / t.2.2) := by
    induction l with
    | nil => rfl
    | cons t r ih => simp [ih]
  -- both sums run over `l`; term by term `−½·ln(2πσ) − q/σ·½` is the log-density
  have hsum : ∀ l : List (ℝ × ℝ × ℝ),
      -(1 / 2) * sumS (l.map fun t => Real.log (twoPi * t.2.2)) -
        sumS (l.map fun t => ((t.1 - t.2.1) * (t.1 - t.2.1)) / t.2.2) * (1 / 2) =
      sumS (l.map fun t => gaussLogPdf twoPi t.1 t.2.1 t.2.2) := by
    intro l
    induction l with
    | nil => simp [sumS_nil]
    | cons t r ih =>
      rw [List.map_cons, List.map_cons, List.map_cons, sumS_cons, sumS_cons, sumS_cons, ← ih, gaussLogPdf]
      ring
  unfold gnbJll
  rw [hz, List.map_map, ← hsum, add_comm]
  rfl
end Reals

end LinfaSpec.Incremental
