import LinfaSpec.Proofs.DeterminismVocab

/-!
# C20 — same data, parameters and seed give bit-identical results on every run

Theorems about `LinfaSpec.Determinism` (the model of linfa's parallel loops, of the generator
held by a parameter set, and of every fold over a hash map on the path of an estimator).
The schedule of the thread pool and the iteration order of a hash map are universally
quantified: whatever they are, the modelled result is the same function of
(data, parameters, seed).

Not covered by theorems (covered by the repeated runs of the check only): rayon, the allocator
and `std::collections::HashMap` themselves, and the floating-point reductions inside the
estimators (they are sequential in the code; the model has no IEEE semantics).
-/
namespace LinfaSpec.Props.C20
open LinfaSpec.Determinism List

/-! ## 1. Parallel loops -/

/-- **Schedule independence of the disjoint-write loop.**  Whatever order the pool runs the
tasks in — any list of task numbers in which every task `i < n` occurs (at least once; tasks may
even be repeated or numbers out of range be present) — the output array is `[f 0, …, f (n-1)]`. -/
theorem parFor_schedule_independent {β} (f : Nat → β) (sched : List Nat) (init : List β)
    (hall : ∀ i, i < init.length → i ∈ sched) :
    parFor f sched init = (List.range init.length).map f :=
  eq_map_range (parFor_length f sched init) fun i hi => by
    rw [parFor_getElem?, if_pos ⟨hall i hi, hi⟩]

example : parFor (fun i => 10 * i) [2, 0, 3, 1] [7, 7, 7, 7] = [0, 10, 20, 30] := by decide +kernel

/-- the quantifier of the property as `properties.jsonl` words it: every permutation of the tasks
`0..n-1` -/
theorem parFor_perm_schedule {β} (f : Nat → β) (sched : List Nat) (init : List β)
    (hp : sched ~ List.range init.length) :
    parFor f sched init = (List.range init.length).map f :=
  parFor_schedule_independent f sched init
    (fun _ hi => hp.symm.subset (List.mem_range.mpr hi))

example : [2, 0, 3, 1] ~ List.range ([7, 7, 7, 7] : List Nat).length := by decide +kernel

/-- **Interleavings below the task level.**  Split every task into its two events — compute the
value from the immutable inputs into a private slot, then write the slot to the task's own cell —
and let the pool interleave the events of different tasks in any way whatever: as long as every
task `i < n` has a compute event somewhere before a write event (program order inside the task),
the output is again `[f 0, …, f (n-1)]`.  Extra events (re-computations, re-writes, writes of
tasks that never computed) do not matter. -/
theorem parForEvents_interleaving_independent {β} (f : Nat → β) (evs : List Event) (init : List β)
    (hall : ∀ i, i < init.length → ∃ p1 p2 post,
      evs = p1 ++ Event.compute i :: p2 ++ Event.write i :: post) :
    parForEvents f evs init = (List.range init.length).map f :=
  eq_map_range (evGood_foldl (evGood_init f init) evs).2.1 fun i hi => by
    obtain ⟨p1, p2, post, rfl⟩ := hall i hi
    exact events_cell (evGood_init f init) hi p1 p2 post

/-- two tasks, events fully interleaved: c1 c0 w1 c1 w0 -/
example : parForEvents (fun i => 10 * i + 1)
    [Event.compute 1, Event.compute 0, Event.write 1, Event.compute 1, Event.write 0] [7, 7] = [1, 11] := by
  decide +kernel

section KMeans
variable {α : Type} [Add α] [LT α] [DecidableLT α] [OfNat α 0]
set_option linter.unusedSectionVars false

/-- `update_cluster_memberships`: for every schedule the memberships are, row by row, the index
`closest_centroid` returns — the initial contents of the array do not matter either.  `dist` is the
metric of the parameter set (any function: `sqDist`, `l1Dist`, …). -/
theorem update_memberships_schedule_independent (dist : List α → List α → α) (cents obs : List (List α))
    (sched : List Nat) (init : List Nat) (hall : ∀ i, i < init.length → i ∈ sched) :
    updateMemberships dist cents obs sched init =
      (List.range init.length).map fun i => (closestOf dist cents obs i).1 :=
  parFor_schedule_independent _ sched init hall

/-- `update_min_dists` -/
theorem update_min_dists_schedule_independent (dist : List α → List α → α) (cents obs : List (List α))
    (sched : List Nat) (init : List α) (hall : ∀ i, i < init.length → i ∈ sched) :
    updateMinDists dist cents obs sched init =
      (List.range init.length).map fun i => (closestOf dist cents obs i).2 :=
  parFor_schedule_independent _ sched init hall

/-- `update_memberships_and_dists` (two zipped output arrays) -/
theorem update_both_schedule_independent (dist : List α → List α → α) (cents obs : List (List α))
    (sched : List Nat) (init : List (Nat × α)) (hall : ∀ i, i < init.length → i ∈ sched) :
    updateBoth dist cents obs sched init =
      (List.range init.length).map fun i => closestOf dist cents obs i :=
  parFor_schedule_independent _ sched init hall

/-- `update_memberships_and_dists` below the task level: the function the driver runs for
`parfor mode=events` gives the same array under every interleaving of the compute / write events
in which each task computes before it writes — and that array is the one of the task-level loop
under any complete schedule. -/
theorem update_both_events_interleaving_independent (dist : List α → List α → α)
    (cents obs : List (List α)) (evs : List Event) (sched : List Nat) (init init' : List (Nat × α))
    (hlen : init.length = init'.length)
    (hev : ∀ i, i < init.length → ∃ p1 p2 post,
      evs = p1 ++ Event.compute i :: p2 ++ Event.write i :: post)
    (hall : ∀ i, i < init'.length → i ∈ sched) :
    updateBothEvents dist cents obs evs init = updateBoth dist cents obs sched init' := by
  unfold updateBothEvents
  rw [parForEvents_interleaving_independent _ evs init hev,
    update_both_schedule_independent dist cents obs sched init' hall, hlen]

/-- **The reduction after the join is deterministic**: `dists.sum()` runs sequentially on an
array that no longer depends on the schedule, so two runs under any two schedules (and any
initial garbage of the same length) give the same sum — term by term the same additions. -/
theorem reduction_after_join_deterministic (dist : List α → List α → α) (cents obs : List (List α))
    (s₁ s₂ : List Nat) (init₁ init₂ : List α) (hlen : init₁.length = init₂.length)
    (h₁ : ∀ i, i < init₁.length → i ∈ s₁) (h₂ : ∀ i, i < init₂.length → i ∈ s₂) :
    sumAfterJoin (updateMinDists dist cents obs s₁ init₁) =
      sumAfterJoin (updateMinDists dist cents obs s₂ init₂) := by
  rw [update_min_dists_schedule_independent dist cents obs s₁ init₁ h₁,
    update_min_dists_schedule_independent dist cents obs s₂ init₂ h₂, hlen]

/-- **Inertia and cluster counts of `fit_with` / of a restart of `fit`** (the function the driver
runs for `fitsum`, compared with `KMeans::inertia()` and `cluster_count()` of the real fit): under
any two complete schedules and from any two buffers of equal length the assignment step followed by
the sequential `dists.sum()` gives the same counts and the same sum. -/
theorem fit_with_step_schedule_independent (dist : List α → List α → α) (cents obs : List (List α))
    (s₁ s₂ : List Nat) (init₁ init₂ : List (Nat × α)) (hlen : init₁.length = init₂.length)
    (h₁ : ∀ i, i < init₁.length → i ∈ s₁) (h₂ : ∀ i, i < init₂.length → i ∈ s₂) :
    fitWithStep dist cents obs s₁ init₁ = fitWithStep dist cents obs s₂ init₂ := by
  unfold fitWithStep
  rw [update_both_schedule_independent dist cents obs s₁ init₁ h₁,
    update_both_schedule_independent dist cents obs s₂ init₂ h₂, hlen]

/-- what `fitWithStep` returns, spelled out: the counts of the sequential assignment and the
left-to-right sum of the sequential distances -/
theorem fit_with_step_eq_sequential (dist : List α → List α → α) (cents obs : List (List α))
    (sched : List Nat) (init : List (Nat × α)) (hall : ∀ i, i < init.length → i ∈ sched) :
    fitWithStep dist cents obs sched init =
      (clusterCount cents.length ((List.range init.length).map fun i => (closestOf dist cents obs i).1),
       sumAfterJoin ((List.range init.length).map fun i => (closestOf dist cents obs i).2)) := by
  unfold fitWithStep
  rw [update_both_schedule_independent dist cents obs sched init hall]
  simp only [List.map_map, Function.comp_def]

end KMeans

example : updateBoth (α := Int) sqDist [[0, 0], [4, 4], [0, 0]] [[1, 1], [3, 3], [2, 2]] [1, 2, 0]
    [(9, -1), (9, -1), (9, -1)] = [(0, 2), (1, 2), (0, 8)] := by decide +kernel

/-- L1 metric, events fully interleaved (c2 c0 w2 c1 w0 w1), and the `fit_with` step under two schedules -/
example : updateBothEvents (α := Int) l1Dist [[0, 0], [4, 4]] [[1, 1], [3, 3], [2, 2]]
      [Event.compute 2, Event.compute 0, Event.write 2, Event.compute 1, Event.write 0, Event.write 1]
      [(9, -1), (9, -1), (9, -1)] = [(0, 2), (1, 2), (0, 4)] ∧
    fitWithStep (α := Int) l1Dist [[0, 0], [4, 4]] [[1, 1], [3, 3], [2, 2]] [2, 0, 1] [(9, -1), (9, -1), (9, -1)]
      = ([2, 1], 8) ∧
    fitWithStep (α := Int) l1Dist [[0, 0], [4, 4]] [[1, 1], [3, 3], [2, 2]] [0, 1, 2, 1] [(7, 5), (7, 5), (7, 5)]
      = ([2, 1], 8) := by decide +kernel

/-! ## 2. Generator cloned per fit -/

/-- **A fit is a function of (data, parameters)**: because `fit` works on a clone of the
generator stored in the parameter set, the `k`-th fit with one parameter object returns what a
first fit returns — the history of earlier fits does not matter. -/
theorem rng_clone_pure {ρ δ μ : Type} (run : ρ → δ → μ × ρ) (g : ρ) (ds : List δ) :
    fitSeq (fitCloned run) g ds = ds.map fun d => (run g d).1 := by
  induction ds with
  | nil => rfl
  | cons d ds ih => simp only [fitSeq, fitCloned, List.map_cons]; rw [← ih]

/-- non-vacuity, and the contrast: a generator shared between fits makes the second fit differ -/
example : fitSeq (fitCloned fun (g : Nat) (d : Nat) => (g + d, g + 1)) 42 [5, 5, 5] = [47, 47, 47] ∧
    fitSeq (fitShared fun (g : Nat) (d : Nat) => (g + d, g + 1)) 42 [5, 5, 5] = [47, 48, 49] := by
  decide +kernel

/-- **The session the driver plays** (`fitseq`, compared with one real parameter object fitted on
the data sets `seq` one after another): whatever the table of the training procedure — in
particular however much its result depends on the generator state — every fit returns the entry of
generator state 0, i.e. what a first fit with a fresh parameter object returns. -/
theorem fit_session_history_free (tbl : List (List Nat)) (seq : List Nat) :
    fitSession tbl seq = seq.map fun d => (tbl.getD 0 []).getD d 0 := by
  unfold fitSession
  rw [rng_clone_pure]
  rfl

/-- non-vacuity and contrast: a procedure whose result depends on the generator state (rows differ);
sharing the generator would return the row-1 entry for the second fit -/
example : fitSession [[11, 12], [21, 22]] [0, 1, 0] = [11, 12, 11] ∧
    fitSeq (fitShared (tableRun [[11, 12], [21, 22]])) 0 [0, 1] = [11, 22] := by decide +kernel

/-! ## 3. Hash-map folds -/

section Modal
variable {κ ν : Type} [LinearOrder κ] [LinearOrder ν]

/-- **Decision-tree modal class**: the result does not depend on the iteration order of the
frequency map — for every permutation of its entries (no `UniqueMax` hypothesis; keys need not
even be distinct). -/
theorem modal_class_perm_invariant {m₁ m₂ : List (κ × ν)} (p : m₁ ~ m₂) :
    findModalClass m₁ = findModalClass m₂ :=
  congrArg (Option.map _) (p.foldl_eq' (fun x _ y _ z => modalStep_right_comm z x y) none)

/-- what it returns: a class of maximal frequency, and among those the smallest label; `none`
(the `unwrap` panic) only for the empty map -/
theorem modal_class_is_max (e : κ × ν) (m : List (κ × ν)) :
    ∃ k f, findModalClass (e :: m) = some k ∧ (k, f) ∈ e :: m ∧
      ∀ x ∈ e :: m, x.2 < f ∨ (x.2 = f ∧ k ≤ x.1) := by
  obtain ⟨hmem, hmax⟩ := foldl_pickMax modalRank e m
  refine ⟨_, _, congrArg (Option.map Prod.fst) (foldl_modalStep_some e m), hmem, fun x hx => ?_⟩
  exact (Prod.Lex.toLex_le_toLex.mp (hmax x hx)).imp_right (And.imp_right OrderDual.toDual_le_toDual.mp)

end Modal

example : findModalClass [((6 : Nat), (1 : Int)), (9, 1)] = some 6 ∧
    findModalClass [((9 : Nat), (1 : Int)), (6, 1)] = some 6 := by decide +kernel

/-- the fold of finding `C20-tree-modal-class-tie` (the last maximal entry in iteration order wins)
is *not* invariant: two classes of equal frequency -/
theorem modal_class_orig_order_dependent :
    findModalClassOrig [((6 : Nat), (1 : Int)), (9, 1)] ≠ findModalClassOrig [((9 : Nat), (1 : Int)), (6, 1)] := by
  decide +kernel

section NaiveBayes
variable {κ ν : Type} [LinearOrder κ] [LT ν] [DecidableLT ν] [OfNat ν 0]

/-- **Naive-Bayes arg-max**: the predicted classes do not depend on the iteration order of the
class table (keys of a map are distinct) — ties of the joint log-likelihood included. -/
theorem nb_argmax_perm_invariant {j₁ j₂ : List (κ × List ν)} (p : j₁ ~ j₂)
    (hnd : (j₁.map Prod.fst).Nodup) (n : Nat) : nbPredict j₁ n = nbPredict j₂ n :=
  congrArg (nbPredictIn · n) (sortByKey_perm p hnd)

end NaiveBayes

/-- non-vacuity: sample 0 is tied between classes 1 and 5 (→ 1), sample 1 between 4 and 5 (→ 4) -/
example : nbPredict [((5 : Nat), [(-1 : Int), 0]), (1, [-1, -2]), (4, [-3, 0])] 2 = some [1, 4] := by
  unfold nbPredict
  rw [sortByKey_eq (s := [(1, [-1, -2]), (4, [-3, 0]), (5, [-1, 0])])
    (by decide +kernel) (by decide +kernel) (by decide +kernel)]
  decide +kernel

section Labels
variable {κ : Type} [LinearOrder κ]

/-- **Sorted label sets**: whatever order the hash set hands the labels out in, the sorted
vector the callers use is the same. -/
theorem sorted_labels_perm_invariant (cols : List (List κ)) (l : List κ) (p : l ~ labelsOf cols) :
    sortLabels l = sortedLabels cols :=
  sortLabels_perm p

/-- same for `combined_labels` -/
theorem sorted_combined_labels_perm_invariant (a b : List (List κ)) (l : List κ)
    (p : l ~ labelsOf (a ++ b)) : sortLabels l = sortedCombinedLabels a b :=
  sortLabels_perm p

/-- **Members of a confusion matrix** (`classes = combined_labels(truth); classes.sort();` reversed
when there are exactly two): whatever order the hash set hands the combined labels out in, the
`members` are those of the model function the driver runs for `labels … cm=`. -/
theorem cm_members_perm_invariant (pred truth : List κ) (l : List κ)
    (p : l ~ labelsOf ([pred] ++ [truth])) :
    (if (sortLabels l).length = 2 then (sortLabels l).reverse else sortLabels l) = cmMembers pred truth := by
  unfold cmMembers
  rw [sorted_combined_labels_perm_invariant [pred] [truth] l p]

end Labels

example : labelsOf [[(3 : Nat), 1, 3, 2], [7, 1, 1, 1]] = [3, 1, 2, 7] ∧
    sortLabels [(7 : Nat), 2, 1, 3] = [1, 2, 3, 7] :=
  ⟨by decide +kernel, sortLabels_eq (by decide +kernel) (by decide +kernel)⟩

/-! ## 4. Hierarchical cluster ids -/

/-- **Hierarchical clustering**: for every number of points, every stopping criterion and every
list of dendrogram steps, the labels computed from the final cluster map do not depend on the
map's iteration order.  (The hypothesis-free form: the disjointness the proof needs is an
invariant of the merge loop, proved from the singleton start.) -/
theorem hier_labels_perm_invariant {α} [LE α] [DecidableLE α] (n : Nat) (stop : Stop α)
    (steps : List (Nat × Nat × α)) (clusters c' : List (Nat × List Nat))
    (h : mergeLoop stop steps ((List.range n).map fun i => (i, [i])) n = some clusters)
    (p : c' ~ clusters) : hierLabels n c' = hierLabels n clusters :=
  congrArg (labelsIn n)
    (sortClusters_perm p (((mergeLoop_inv (singletons_inv n) h).perm p.symm).minKey_nodup))

example : mergeLoop (Stop.numClusters (α := Nat) 2) [(0, 2, 1), (1, 3, 2), (4, 5, 3)]
      ((List.range 4).map fun i => (i, [i])) 4 = some [(4, [0, 2]), (5, [1, 3])] ∧
    hierLabels 4 [(5, [1, 3]), (4, [0, 2])] = [0, 1, 0, 1] := by
  refine ⟨by decide +kernel, ?_⟩
  unfold hierLabels
  rw [sortClusters_eq (s := [(4, [0, 2]), (5, [1, 3])])
    (by decide +kernel) (by decide +kernel) (by decide +kernel)]
  decide +kernel

/-- the labelling of finding `C20-hierarchical-cluster-ids` (ids follow the map's iteration order)
is *not* invariant -/
theorem hier_labels_orig_order_dependent :
    hierLabelsOrig 2 [(0, [0]), (1, [1])] ≠ hierLabelsOrig 2 [(1, [1]), (0, [0])] := by decide +kernel

/-! ## 5. Top-k selections over a hash map (text vocabularies under `max_features`) -/

/-- **Top-k by (key, tie-break) is independent of the map's iteration order.**  For any
comparison that is transitive, total and — on the entries present — antisymmetric (i.e. the
tie-break makes it a total order on the entries), sorting the entries of a map and keeping the
first `k` gives the same list whatever order the map's iterator produced them in. -/
theorem topk_perm_invariant {ε : Type} (le : ε → ε → Bool)
    (trans : ∀ a b c, le a b → le b c → le a c) (total : ∀ a b, le a b || le b a)
    {m₁ m₂ : List ε} (p : m₁ ~ m₂)
    (antisymm : ∀ a b, a ∈ m₁ → b ∈ m₁ → le a b → le b a → a = b) (k : Nat) :
    (m₁.mergeSort le).take k = (m₂.mergeSort le).take k := by
  rw [mergeSort_perm_invariant le trans total p antisymm]

example : ([(3 : Nat), 1, 2].mergeSort (fun a b => decide (a ≤ b))).take 2 =
    ([(2 : Nat), 3, 1].mergeSort (fun a b => decide (a ≤ b))).take 2 :=
  topk_perm_invariant _ (le_trans_of_key (key := id) fun _ _ => decide_eq_true_iff)
    (le_total_of_key (key := id) fun _ _ => decide_eq_true_iff) (by decide +kernel)
    (fun _ _ _ _ hab hba => Nat.le_antisymm (of_decide_eq_true hab) (of_decide_eq_true hba)) 2

section Vocabulary
variable {κ : Type} [LinearOrder κ]

/-- **`max_features` cut of `CountVectorizer`**: the order `(Reverse(freq), Reverse(word), x)` is a
total order on the entries, so the kept entries do not depend on the iteration order of the
vocabulary map — no hypothesis on the map (keys need not even be distinct). -/
theorem cap_selection_perm_invariant {m₁ m₂ : List (κ × Nat × Nat)} (p : m₁ ~ m₂) (cap : Nat) :
    capVocabulary (some cap) m₁ = capVocabulary (some cap) m₂ := by
  have trans := le_trans_of_key (capLe_iff (κ := κ))
  have total := le_total_of_key (capLe_iff (κ := κ))
  exact topk_perm_invariant capLe trans total p
    (fun a b _ _ hab hba =>
      capKey_injective (le_antisymm ((capLe_iff a b).mp hab) ((capLe_iff b a).mp hba))) cap

/-- **The cut ignores the insertion indexes.**  The insertion index `x` of an entry follows the
iteration order of the per-document `HashSet`; because the word is compared before it (and words
are what is observable), two vocabularies with the same (word, document frequency) pairs — in any
order, with any insertion indexes — keep the same words with the same frequencies. -/
theorem cap_selection_ignores_insertion_index {m₁ m₂ : List (κ × Nat × Nat)}
    (p : m₁.map wordDf ~ m₂.map wordDf) (cap : Nat) :
    (capVocabulary (some cap) m₁).map wordDf = (capVocabulary (some cap) m₂).map wordDf := by
  unfold capVocabulary
  simp only [List.map_take]
  rw [sort_wordDf_perm p]

/-- without a cap the vocabulary is handed on as it is (`capVocabulary none m = m`): equal as a
multiset, which is how `properties.jsonl` compares vocabularies (word-to-column maps) -/
theorem uncapped_vocabulary_perm {m₁ m₂ : List (κ × Nat × Nat)} (p : m₁.map wordDf ~ m₂.map wordDf) :
    (capVocabulary none m₁).map wordDf ~ (capVocabulary none m₂).map wordDf := p

/-- **The raw vocabulary does not depend on the iteration order of any per-document hash set.**
For all documents and all iteration orders of every per-document `HashSet` (the two lists of
sets are element-wise permutations of each other), the vocabularies built by
`read_document_into_vocabulary` carry the same (word, document frequency) pairs — they differ
only in the order of the entries and in the insertion indexes. -/
theorem build_vocabulary_hash_independent {s₁ s₂ : List (List κ)} (h : List.Forall₂ (· ~ ·) s₁ s₂) :
    (buildVocabulary s₁).map wordDf ~ (buildVocabulary s₂).map wordDf := by
  rw [buildVocabulary_wordDf, buildVocabulary_wordDf]
  exact foldl_pStep_perm (List.Perm.flatten_congr h)

/-- **`CountVectorizer::fit` with `max_features`**: frequency window, stop words and cut together
return the same (word, document frequency) list whatever order every hash set on the way was
iterated in. -/
theorem fit_vocabulary_hash_independent {s₁ s₂ : List (List κ)} (h : List.Forall₂ (· ~ ·) s₁ s₂)
    (minAbs maxAbs : Nat) (stop : List κ) (cap : Nat) :
    fitVocabulary s₁ minAbs maxAbs stop (some cap) = fitVocabulary s₂ minAbs maxAbs stop (some cap) := by
  unfold fitVocabulary
  apply cap_selection_ignores_insertion_index
  rw [dfFilter_wordDf, dfFilter_wordDf]
  exact (build_vocabulary_hash_independent h).filter _

/-- without a cap: the same word → frequency map (as a multiset; the column order is unspecified) -/
theorem fit_vocabulary_uncapped_hash_independent {s₁ s₂ : List (List κ)}
    (h : List.Forall₂ (· ~ ·) s₁ s₂) (minAbs maxAbs : Nat) (stop : List κ) :
    fitVocabulary s₁ minAbs maxAbs stop none ~ fitVocabulary s₂ minAbs maxAbs stop none := by
  unfold fitVocabulary capVocabulary
  simp only
  rw [dfFilter_wordDf, dfFilter_wordDf]
  exact (build_vocabulary_hash_independent h).filter _

end Vocabulary

/-! ### The instance the driver runs: words are token lists (`List Nat`) under core's `List.lt` -/

/-- **Bridge to the driver.**  The driver instantiates the vocabulary model at `κ = List Nat` with
core Lean's `DecidableEq`, `LT` (`List.lt`, lexicographic) and `DecidableLT` instances — spelled
out here, no `LinearOrder` in sight; the general theorem applies because Mathlib's linear order on
lists is that very relation. -/
theorem fit_vocabulary_hash_independent_driver {s₁ s₂ : List (List (List Nat))}
    (h : List.Forall₂ (· ~ ·) s₁ s₂) (minAbs maxAbs : Nat) (stop : List (List Nat)) (cap : Nat) :
    @fitVocabulary (List Nat) instDecidableEqList List.instLT List.decidableLT s₁ minAbs maxAbs stop (some cap) =
      @fitVocabulary (List Nat) instDecidableEqList List.instLT List.decidableLT s₂ minAbs maxAbs stop (some cap) := by
  rw [fitVocabulary_listNat]
  exact fit_vocabulary_hash_independent h minAbs maxAbs stop cap

/-- same bridge without a cap -/
theorem fit_vocabulary_uncapped_hash_independent_driver {s₁ s₂ : List (List (List Nat))}
    (h : List.Forall₂ (· ~ ·) s₁ s₂) (minAbs maxAbs : Nat) (stop : List (List Nat)) :
    @fitVocabulary (List Nat) instDecidableEqList List.instLT List.decidableLT s₁ minAbs maxAbs stop none ~
      @fitVocabulary (List Nat) instDecidableEqList List.instLT List.decidableLT s₂ minAbs maxAbs stop none := by
  rw [fitVocabulary_listNat]
  exact fit_vocabulary_uncapped_hash_independent h minAbs maxAbs stop

example : List.Forall₂ (· ~ ·) [[[(1 : Nat)], [1, 2]], [[2]]] [[[1, 2], [1]], [[2]]] :=
  .cons (.swap _ _ _) (.cons .rfl .nil)

/-- non-vacuity: two words first seen in one document, the hash set iterated both ways: the raw
vocabularies differ in their insertion indexes, their (word, frequency) pairs are permutations -/
example : buildVocabulary [[(1 : Nat), 2], [2]] = [(1, 0, 1), (2, 1, 2)] ∧
    buildVocabulary [[(2 : Nat), 1], [2]] = [(2, 0, 2), (1, 1, 1)] ∧
    (buildVocabulary [[(1 : Nat), 2], [2]]).map wordDf ~ (buildVocabulary [[(2 : Nat), 1], [2]]).map wordDf := by
  decide +kernel

example : [((1 : Nat), 0, 1), (2, 1, 1)] ~ [((2 : Nat), 1, 1), (1, 0, 1)] := .swap _ _ _

example : List.Forall₂ (· ~ ·) [[(1 : Nat), 2], [2]] [[2, 1], [2]] :=
  .cons (.swap _ _ _) (.cons .rfl .nil)

/-- a cut whose tie-break is the insertion index (the order `(Reverse(freq), x, word)`) is *not*
invariant: one document with two new words, its hash set iterated both ways, `max_features = 1`
(the seeded change `C20-max-features-tie-by-insertion-index`) -/
theorem cap_by_insertion_index_order_dependent :
    (capVocabularyByIndex (some 1) (buildVocabulary [[(1 : Nat), 2]])).map wordDf ≠
      (capVocabularyByIndex (some 1) (buildVocabulary [[(2 : Nat), 1]])).map wordDf := by
  rw [show buildVocabulary [[(1 : Nat), 2]] = [(1, 0, 1), (2, 1, 1)] by decide +kernel,
    show buildVocabulary [[(2 : Nat), 1]] = [(2, 0, 1), (1, 1, 1)] by decide +kernel]
  -- both vocabularies are already in the order of the cut
  simp only [capVocabularyByIndex]
  rw [List.mergeSort_of_pairwise (by decide +kernel), List.mergeSort_of_pairwise (by decide +kernel)]
  decide +kernel

end LinfaSpec.Props.C20
