import LinfaSpec.Proofs.NN
import Mathlib.Analysis.Real.Sqrt
import Mathlib.Analysis.MeanInequalities

/-! The provided metrics of `linfa-nn` on the points of a fixed dimension are non-negative and satisfy the
triangle inequality: `l1`, `linf` over any ordered field, `sqL2` and `lp p` (`p ≥ 1`, `powf` = the real
power) over ℝ, each over the very `foldl` loop of `Model/NN.lean`, for any start of the accumulators. -/
namespace LinfaSpec.NN
open LinfaSpec

section folds
variable {α : Type}

/-- the three loops over the coordinates of `(a, c)`, `(a, b)` and `(b, c)` run in lockstep: a
relation between the three accumulators that one step preserves holds at the end -/
theorem foldl_zipWith_triple {β : Type} (f : α → α → β) (g : β → β → β) (T : β → β → β → Prop)
    (step : ∀ x y z i1 i2 i3, T i1 i2 i3 → T (g i1 (f x z)) (g i2 (f x y)) (g i3 (f y z)))
    (a b c : List α) (hab : a.length = b.length) (hbc : b.length = c.length) (i1 i2 i3 : β)
    (hi : T i1 i2 i3) :
    T ((List.zipWith f a c).foldl g i1) ((List.zipWith f a b).foldl g i2)
      ((List.zipWith f b c).foldl g i3) := by
  induction a generalizing b c i1 i2 i3 with
  | nil =>
    obtain rfl := List.length_eq_zero_iff.mp hab.symm
    obtain rfl := List.length_eq_zero_iff.mp hbc.symm
    exact hi
  | cons x xs ih =>
    obtain ⟨y, ys, rfl⟩ := List.exists_cons_of_length_eq_add_one hab.symm
    obtain ⟨z, zs, rfl⟩ := List.exists_cons_of_length_eq_add_one hbc.symm
    exact ih ys zs (Nat.succ.inj hab) (Nat.succ.inj hbc) _ _ _ (step x y z _ _ _ hi)

theorem foldl_add_zipWith_nonneg [AddCommMonoid α] [PartialOrder α] [IsOrderedAddMonoid α] (f : α → α → α) (hf : ∀ x y, 0 ≤ f x y) (a b : List α) (i : α)
    (hi : 0 ≤ i) : 0 ≤ (List.zipWith f a b).foldl (· + ·) i := by
  induction a generalizing b i with
  | nil => exact hi
  | cons x xs ih =>
    cases b with
    | nil => exact hi
    | cons y ys => exact ih ys _ (add_nonneg hi (hf x y))

theorem le_foldl_max [LinearOrder α] (l : List α) {c i : α} (hi : c ≤ i) :
    c ≤ l.foldl (fun mx d => if mx < d then d else mx) i := by
  induction l generalizing i with
  | nil => exact hi
  | cons x xs ih => exact ih (hi.trans ((le_max_left i x).trans_eq (maxS_eq_max i x).symm))

end folds

section lawful
variable {α : Type} [Field α] [LinearOrder α] [IsStrictOrderedRing α]

/-- a metric on coordinate lists restricted to the points of dimension `d` (the batch rows and a
query that passed the dimension guard) -/
def onDim (d : Nat) (m : Metric (List α) α) : Metric {l : List α // l.length = d} α :=
  ⟨fun a b => m.dist a.1 b.1, fun a b => m.rdist a.1 b.1, m.toR, m.ofR⟩

theorem l1_triangle_aux (a b c : List α) (hab : a.length = b.length) (hbc : b.length = c.length)
    (i1 i2 i3 : α) (hi : i1 ≤ i2 + i3) :
    (List.zipWith (fun x y => absS (x - y)) a c).foldl (· + ·) i1 ≤
      (List.zipWith (fun x y => absS (x - y)) a b).foldl (· + ·) i2 +
      (List.zipWith (fun x y => absS (x - y)) b c).foldl (· + ·) i3 := by
  refine foldl_zipWith_triple _ _ (fun i1 i2 i3 => i1 ≤ i2 + i3) (fun x y z i1 i2 i3 h => ?_)
    a b c hab hbc i1 i2 i3 hi
  simp only [absS_eq_abs]
  exact (add_le_add h (abs_sub_le x y z)).trans_eq (add_add_add_comm _ _ _ _)

theorem linf_triangle_aux (a b c : List α) (hab : a.length = b.length) (hbc : b.length = c.length)
    (i1 i2 i3 : α) (hi : i1 ≤ i2 + i3) :
    (List.zipWith (fun x y => absS (x - y)) a c).foldl (fun mx d => if mx < d then d else mx) i1 ≤
      (List.zipWith (fun x y => absS (x - y)) a b).foldl (fun mx d => if mx < d then d else mx) i2 +
      (List.zipWith (fun x y => absS (x - y)) b c).foldl (fun mx d => if mx < d then d else mx) i3 := by
  refine foldl_zipWith_triple _ _ (fun i1 i2 i3 => i1 ≤ i2 + i3) (fun x y z i1 i2 i3 h => ?_)
    a b c hab hbc i1 i2 i3 hi
  have e : ∀ u v : α, (if u < v then v else u) = max u v := maxS_eq_max
  simp only [absS_eq_abs, e]
  exact max_le (h.trans (add_le_add (le_max_left _ _) (le_max_left _ _)))
    ((abs_sub_le x y z).trans (add_le_add (le_max_right _ _) (le_max_right _ _)))

end lawful

section l2

set_option linter.unusedVariables false in
/-- Minkowski in the plane, the induction step of the triangle inequality of `L2Dist` -/
theorem minkowski2 (p r u v : ℝ) (hp : 0 ≤ p) (hr : 0 ≤ r) :
    Real.sqrt ((p + r) * (p + r) + (u + v) * (u + v)) ≤
      Real.sqrt (p * p + u * u) + Real.sqrt (r * r + v * v) := by
  have hA : 0 ≤ p * p + u * u := add_nonneg (mul_self_nonneg _) (mul_self_nonneg _)
  have hB : 0 ≤ r * r + v * v := add_nonneg (mul_self_nonneg _) (mul_self_nonneg _)
  -- Cauchy–Schwarz: (pr + uv)² + (pv − ur)² = (p² + u²)(r² + v²)
  have hcs : p * r + u * v ≤ Real.sqrt (p * p + u * u) * Real.sqrt (r * r + v * v) := by
    rw [← Real.sqrt_mul hA]
    refine (le_abs_self _).trans (Real.abs_le_sqrt ?_)
    linear_combination mul_self_nonneg (p * v - u * r)
  refine Real.sqrt_le_iff.mpr ⟨add_nonneg (Real.sqrt_nonneg _) (Real.sqrt_nonneg _), ?_⟩
  linear_combination 2 * hcs - Real.mul_self_sqrt hA - Real.mul_self_sqrt hB

theorem sqL2_nonneg (a b : List ℝ) : 0 ≤ sqL2 a b :=
  foldl_add_zipWith_nonneg _ (fun _ _ => mul_self_nonneg _) a b 0 le_rfl

theorem l2_triangle_aux (a b c : List ℝ) (hab : a.length = b.length) (hbc : b.length = c.length)
    (i1 i2 i3 : ℝ) (h1 : 0 ≤ i1) (h2 : 0 ≤ i2) (h3 : 0 ≤ i3)
    (hi : Real.sqrt i1 ≤ Real.sqrt i2 + Real.sqrt i3) :
    Real.sqrt ((List.zipWith (fun x y => (x - y) * (x - y)) a c).foldl (· + ·) i1) ≤
      Real.sqrt ((List.zipWith (fun x y => (x - y) * (x - y)) a b).foldl (· + ·) i2) +
      Real.sqrt ((List.zipWith (fun x y => (x - y) * (x - y)) b c).foldl (· + ·) i3) := by
  refine (foldl_zipWith_triple _ _
    (fun i1 i2 i3 => 0 ≤ i1 ∧ 0 ≤ i2 ∧ 0 ≤ i3 ∧ Real.sqrt i1 ≤ Real.sqrt i2 + Real.sqrt i3)
    (fun x y z i1 i2 i3 ⟨h1, h2, h3, hi⟩ => ?_) a b c hab hbc i1 i2 i3 ⟨h1, h2, h3, hi⟩).2.2.2
  refine ⟨add_nonneg h1 (mul_self_nonneg _), add_nonneg h2 (mul_self_nonneg _),
    add_nonneg h3 (mul_self_nonneg _), ?_⟩
  -- plane Minkowski with p = √i2, r = √i3, u = x - y, v = y - z
  have hm := minkowski2 (Real.sqrt i2) (Real.sqrt i3) (x - y) (y - z) (Real.sqrt_nonneg _)
    (Real.sqrt_nonneg _)
  rw [Real.mul_self_sqrt h2, Real.mul_self_sqrt h3, sub_add_sub_cancel] at hm
  refine (Real.sqrt_le_sqrt (add_le_add ?_ le_rfl)).trans hm
  have := mul_self_le_mul_self (Real.sqrt_nonneg i1) hi
  rwa [Real.mul_self_sqrt h1] at this

end l2

section lp

/-- `x.powf(p)` on the reals: the real power function -/
noncomputable instance realPowF : PowF ℝ := ⟨fun x y => x ^ y⟩

theorem powf_real (x y : ℝ) : PowF.powf x y = x ^ y := rfl

/-- Minkowski for two terms (the induction step of the triangle inequality of `LpDist`), from
Mathlib's `Real.Lp_add_le_of_nonneg` over `Fin 2` -/
theorem minkowski2p {p : ℝ} (hp : 1 ≤ p) (P R u v : ℝ) (hP : 0 ≤ P) (hR : 0 ≤ R) (hu : 0 ≤ u)
    (hv : 0 ≤ v) :
    ((P + R) ^ p + (u + v) ^ p) ^ (1 / p) ≤ (P ^ p + u ^ p) ^ (1 / p) + (R ^ p + v ^ p) ^ (1 / p) := by
  have h := Real.Lp_add_le_of_nonneg (f := ![P, u]) (g := ![R, v]) (Finset.univ : Finset (Fin 2)) hp
    (by intro i _; fin_cases i <;> simp [hP, hu]) (by intro i _; fin_cases i <;> simp [hR, hv])
  simpa [Fin.sum_univ_two] using h

theorem lp_triangle_aux {p : ℝ} (hp : 1 ≤ p) (a b c : List ℝ) (hab : a.length = b.length)
    (hbc : b.length = c.length) (i1 i2 i3 : ℝ) (h1 : 0 ≤ i1) (h2 : 0 ≤ i2) (h3 : 0 ≤ i3)
    (hi : i1 ^ (1 / p) ≤ i2 ^ (1 / p) + i3 ^ (1 / p)) :
    ((List.zipWith (fun x y => |x - y| ^ p) a c).foldl (· + ·) i1) ^ (1 / p) ≤
      ((List.zipWith (fun x y => |x - y| ^ p) a b).foldl (· + ·) i2) ^ (1 / p) +
      ((List.zipWith (fun x y => |x - y| ^ p) b c).foldl (· + ·) i3) ^ (1 / p) := by
  have hp0 : 0 < p := zero_lt_one.trans_le hp
  have hinv : 0 ≤ 1 / p := (one_div_pos.mpr hp0).le
  have back : ∀ t : ℝ, 0 ≤ t → (t ^ (1 / p)) ^ p = t := fun t ht => by
    rw [← Real.rpow_mul ht, one_div_mul_cancel hp0.ne', Real.rpow_one]
  refine (foldl_zipWith_triple _ _
    (fun i1 i2 i3 => 0 ≤ i1 ∧ 0 ≤ i2 ∧ 0 ≤ i3 ∧ i1 ^ (1 / p) ≤ i2 ^ (1 / p) + i3 ^ (1 / p))
    (fun x y z i1 i2 i3 ⟨h1, h2, h3, hi⟩ => ?_) a b c hab hbc i1 i2 i3 ⟨h1, h2, h3, hi⟩).2.2.2
  have hxz : 0 ≤ |x - z| ^ p := Real.rpow_nonneg (abs_nonneg _) _
  refine ⟨add_nonneg h1 hxz, add_nonneg h2 (Real.rpow_nonneg (abs_nonneg _) _),
    add_nonneg h3 (Real.rpow_nonneg (abs_nonneg _) _), ?_⟩
  -- two-term Minkowski with P = i2^(1/p), R = i3^(1/p), u = |x - y|, v = |y - z|
  have hm := minkowski2p hp (i2 ^ (1 / p)) (i3 ^ (1 / p)) |x - y| |y - z| (Real.rpow_nonneg h2 _)
    (Real.rpow_nonneg h3 _) (abs_nonneg _) (abs_nonneg _)
  rw [back i2 h2, back i3 h3] at hm
  refine (Real.rpow_le_rpow (add_nonneg h1 hxz) (add_le_add ?_ ?_) hinv).trans hm
  · exact (back i1 h1).symm.trans_le (Real.rpow_le_rpow (Real.rpow_nonneg h1 _) hi hp0.le)
  · exact Real.rpow_le_rpow (abs_nonneg _) (abs_sub_le x y z) hp0.le

/-- the model's `lp` over ℝ written with `|·|` and the real power -/
theorem lp_real (p : ℝ) (a b : List ℝ) :
    lp p a b = ((List.zipWith (fun x y => |x - y| ^ p) a b).foldl (· + ·) 0) ^ (1 / p) := by
  unfold lp
  simp only [powf_real, absS_eq_abs]

theorem lp_nonneg (p : ℝ) (a b : List ℝ) : 0 ≤ lp p a b := by
  rw [lp_real]
  exact Real.rpow_nonneg
    (foldl_add_zipWith_nonneg _ (fun _ _ => Real.rpow_nonneg (abs_nonneg _) _) a b 0 le_rfl) _

theorem lp_triangle {p : ℝ} (hp : 1 ≤ p) (a b c : List ℝ) (hab : a.length = b.length)
    (hbc : b.length = c.length) : lp p a c ≤ lp p a b + lp p b c := by
  rw [lp_real, lp_real, lp_real]
  refine lp_triangle_aux hp a b c hab hbc 0 0 0 le_rfl le_rfl le_rfl ?_
  rw [Real.zero_rpow (one_div_ne_zero (zero_lt_one.trans_le hp).ne'), zero_add]

theorem lp_symm (p : ℝ) (a b : List ℝ) : lp p a b = lp p b a := by
  rw [lp_real, lp_real]
  congr 2
  exact List.zipWith_comm_of_comm (f := fun x y : ℝ => |x - y| ^ p)
    (fun x y => by simp only [abs_sub_comm])

theorem lp_self {p : ℝ} (hp : 0 < p) (a : List ℝ) : lp p a a = 0 := by
  rw [lp_real]
  have : (List.zipWith (fun x y => |x - y| ^ p) a a).foldl (· + ·) 0 = 0 := by
    induction a with
    | nil => rfl
    | cons x xs ih =>
      simp only [List.zipWith_cons_cons, List.foldl_cons, sub_self, abs_zero,
        Real.zero_rpow hp.ne', add_zero]
      exact ih
  rw [this, Real.zero_rpow (one_div_ne_zero hp.ne')]

end lp

end LinfaSpec.NN
