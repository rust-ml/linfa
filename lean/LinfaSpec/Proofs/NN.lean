import LinfaSpec.Model.NN
import LinfaSpec.Proofs.Scalar
import Mathlib.Algebra.Order.Field.Basic
import Mathlib.Tactic.Linarith

/-! `linfa-nn`: sorted insertion and the "k nearest up to ties" specification `IsKnn`, the linear scan,
the ball invariant, that `BallTreeInner::new` establishes it, the pruning bound, the invariant of the search
loop of `nn_helper`. -/
namespace LinfaSpec.NN

section order
variable {α β : Type} [LinearOrder α]

def Asc (l : List (α × β)) : Prop := l.Pairwise (fun a b => a.1 ≤ b.1)

theorem insertAsc_perm (x : α × β) (l : List (α × β)) : (insertAsc x l).Perm (x :: l) := by
  induction l with
  | nil => simp [insertAsc]
  | cons y ys ih =>
    simp only [insertAsc]
    split
    · exact List.Perm.refl _
    · exact (List.Perm.cons y ih).trans (List.Perm.swap x y ys)

theorem insertAsc_length (x : α × β) (l : List (α × β)) : (insertAsc x l).length = l.length + 1 := by
  simpa using (insertAsc_perm x l).length_eq

theorem mem_insertAsc {x y : α × β} {l : List (α × β)} : y ∈ insertAsc x l ↔ y = x ∨ y ∈ l := by
  rw [(insertAsc_perm x l).mem_iff]; simp

theorem insertAsc_asc (x : α × β) {l : List (α × β)} (h : Asc l) : Asc (insertAsc x l) := by
  induction l with
  | nil => exact List.pairwise_singleton _ _
  | cons y ys ih =>
    obtain ⟨hy, hys⟩ := List.pairwise_cons.mp h
    rw [insertAsc]
    split
    · rename_i hlt
      exact List.pairwise_cons.mpr
        ⟨List.forall_mem_cons.mpr ⟨hlt.le, fun z hz => hlt.le.trans (hy z hz)⟩, h⟩
    · rename_i hnlt
      refine List.pairwise_cons.mpr ⟨fun z hz => ?_, ih hys⟩
      rcases mem_insertAsc.mp hz with rfl | hz
      · exact not_lt.mp hnlt
      · exact hy z hz

/-- **the k nearest of `E`, ties broken arbitrarily**: `out` is ascending, has `min k |E|`
elements, is a sub-multiset of `E`, and everything of `E` left out is at least as far as
everything returned. -/
def IsKnn (E out : List (α × β)) (k : Nat) : Prop :=
  ∃ rest, (out ++ rest).Perm E ∧ out.length = min k E.length ∧ Asc out ∧
    ∀ y ∈ out, ∀ x ∈ rest, y.1 ≤ x.1

theorem asc_take_drop {l : List (α × β)} (h : Asc l) (k : Nat) :
    ∀ y ∈ l.take k, ∀ x ∈ l.drop k, y.1 ≤ x.1 := by
  have h' : Asc (l.take k ++ l.drop k) := by rw [List.take_append_drop]; exact h
  exact fun y hy x hx => (List.pairwise_append.mp h').2.2 y hy x hx

theorem isKnn_take_of_sorted {E s : List (α × β)} (hp : s.Perm E) (hs : Asc s) (k : Nat) :
    IsKnn E (s.take k) k := by
  refine ⟨s.drop k, ?_, ?_, ?_, asc_take_drop hs k⟩
  · rw [List.take_append_drop]; exact hp
  · rw [List.length_take, hp.length_eq]
  · exact List.Pairwise.sublist (List.take_sublist k s) hs

theorem asc_le_getLast {l : List (α × β)} (h : Asc l) {e : α × β} (he : l.getLast? = some e) :
    ∀ y ∈ l, y.1 ≤ e.1 := by
  obtain ⟨ys, rfl⟩ := List.getLast?_eq_some_iff.mp he
  intro y hy
  rcases List.mem_append.mp hy with hy | hy
  · exact (List.pairwise_append.mp h).2.2 y hy e List.mem_cons_self
  · rw [List.mem_singleton.mp hy]

/-- the `if out.len() > k { out.pop() }` after a push keeps the `k` smallest -/
theorem trim_eq_take {γ : Type} (l : List γ) (k : Nat) (h : l.length ≤ k + 1) :
    (if k < l.length then l.dropLast else l) = l.take k := by
  split
  · rw [List.dropLast_eq_take]; congr 1; omega
  · exact (List.take_of_length_le (by omega)).symm

namespace IsKnn

theorem nil (k : Nat) : IsKnn ([] : List (α × β)) [] k :=
  ⟨[], .refl _, (Nat.min_zero k).symm, List.Pairwise.nil, fun _ hy => nomatch hy⟩

theorem asc {E out : List (α × β)} {k : Nat} (h : IsKnn E out k) : Asc out :=
  h.elim fun _ hr => hr.2.2.1

theorem perm {E E' out : List (α × β)} {k : Nat} (h : IsKnn E out k) (hp : E.Perm E') :
    IsKnn E' out k := by
  obtain ⟨rest, p, l, a, mm⟩ := h
  exact ⟨rest, p.trans hp, by rw [l, hp.length_eq], a, mm⟩

theorem perm_of_length_le {E out : List (α × β)} {k : Nat} (h : IsKnn E out k) (hk : E.length ≤ k) :
    out.Perm E := by
  obtain ⟨rest, hp, hl, _, _⟩ := h
  have h1 : out.length + rest.length = E.length := List.length_append ▸ hp.length_eq
  rw [Nat.min_eq_right hk, ← h1] at hl
  obtain rfl := List.length_eq_zero_iff.mp (Nat.add_left_cancel hl.symm)
  rwa [List.append_nil] at hp

/-- a bounded max-heap takes a new element `x` when it is not full or `x` is not beyond one it holds:
the answer becomes the first `k` of the ascending list with `x` inserted -/
theorem insert {E out : List (α × β)} {k : Nat} (h : IsKnn E out k) (x : α × β)
    (hx : out.length < k ∨ ∃ e ∈ out, x.1 ≤ e.1) :
    IsKnn (E ++ [x]) ((insertAsc x out).take k) k := by
  obtain ⟨rest, hp, hl, ha, hm⟩ := h
  have hasc := insertAsc_asc x ha
  refine ⟨(insertAsc x out).drop k ++ rest, ?_, ?_, hasc.sublist (List.take_sublist _ _), ?_⟩
  · rw [← List.append_assoc, List.take_append_drop]
    exact ((insertAsc_perm x out).append_right rest).trans
      ((List.perm_append_singleton x (out ++ rest)).symm.trans (hp.append_right [x]))
  · rw [List.length_take, insertAsc_length, hl, List.length_append, List.length_singleton]
    rcases Nat.le_total k E.length with hk | hk
    · rw [Nat.min_eq_left hk, Nat.min_eq_left k.le_succ, Nat.min_eq_left (Nat.le_succ_of_le hk)]
    · rw [Nat.min_eq_right hk]
  · intro y hy z hz
    rcases List.mem_append.mp hz with hd | hr
    · exact asc_take_drop hasc k y hy z hd
    · rcases mem_insertAsc.mp (List.mem_of_mem_take hy) with rfl | hy
      · rcases hx with hlt | ⟨e, he, hxe⟩
        · -- not full: nothing has been left out yet
          have h1 : out.length + rest.length = E.length := List.length_append ▸ hp.length_eq
          have h2 := List.length_pos_of_mem hr
          omega
        · exact hxe.trans (hm e he z hr)
      · exact hm y hy z hr

theorem append_far {E out F : List (α × β)} {k : Nat} (h : IsKnn E out k)
    (hfull : F = [] ∨ out.length = k) (hF : ∀ y ∈ out, ∀ x ∈ F, y.1 ≤ x.1) :
    IsKnn (E ++ F) out k := by
  obtain ⟨rest, hp, hl, ha, hm⟩ := h
  refine ⟨rest ++ F, ?_, ?_, ha, ?_⟩
  · rw [← List.append_assoc]
    exact hp.append_right F
  · rcases hfull with rfl | hfull
    · rwa [List.append_nil]
    · have hk : k ≤ E.length := hfull ▸ hl ▸ Nat.min_le_right _ _
      rw [hfull, List.length_append, Nat.min_eq_left (Nat.le_add_right_of_le hk)]
  · intro y hy x hx
    rcases List.mem_append.mp hx with hx | hx
    · exact hm y hy x hx
    · exact hF y hy x hx

end IsKnn

theorem smallest_unique {E o1 o2 r1 r2 : List α} (p1 : (o1 ++ r1).Perm E) (p2 : (o2 ++ r2).Perm E)
    (a1 : o1.Pairwise (· ≤ ·)) (a2 : o2.Pairwise (· ≤ ·)) (hlen : o1.length = o2.length)
    (m1 : ∀ y ∈ o1, ∀ x ∈ r1, y ≤ x) (m2 : ∀ y ∈ o2, ∀ x ∈ r2, y ≤ x) : o1 = o2 := by
  -- the head of a selection is a least element of `E`
  have least : ∀ {E o r : List α} {c : α}, ((c :: o) ++ r).Perm E → (c :: o).Pairwise (· ≤ ·) →
      (∀ y ∈ c :: o, ∀ x ∈ r, y ≤ x) → ∀ e ∈ E, c ≤ e := by
    intro E o r c p a m e he
    rcases List.mem_append.mp (p.symm.subset he) with h | h
    · rcases List.mem_cons.mp h with rfl | h
      · exact le_rfl
      · exact (List.pairwise_cons.mp a).1 e h
    · exact m c List.mem_cons_self e h
  induction o1 generalizing E o2 with
  | nil => exact (List.length_eq_zero_iff.mp hlen.symm).symm
  | cons a o1 ih =>
    cases o2 with
    | nil => exact absurd hlen (Nat.succ_ne_zero _)
    | cons b o2 =>
      obtain rfl : a = b := le_antisymm (least p1 a1 m1 b (p2.subset List.mem_cons_self))
        (least p2 a2 m2 a (p1.subset List.mem_cons_self))
      rw [ih ((List.perm_cons a).mp (p1.trans p2.symm)) (.refl _) (List.pairwise_cons.mp a1).2
        (List.pairwise_cons.mp a2).2 (Nat.succ.inj hlen)
        (fun y hy => m1 y (List.mem_cons_of_mem _ hy)) (fun y hy => m2 y (List.mem_cons_of_mem _ hy))]

theorem isKnn_keys_unique {E o1 o2 : List (α × β)} {k : Nat} (h1 : IsKnn E o1 k) (h2 : IsKnn E o2 k) :
    o1.map (·.1) = o2.map (·.1) := by
  obtain ⟨r1, p1, l1, a1, m1⟩ := h1
  obtain ⟨r2, p2, l2, a2, m2⟩ := h2
  refine smallest_unique (E := E.map (·.1)) (r1 := r1.map (·.1)) (r2 := r2.map (·.1))
    (List.map_append ▸ p1.map _) (List.map_append ▸ p2.map _) (List.pairwise_map.mpr a1)
    (List.pairwise_map.mpr a2) (by rw [List.length_map, List.length_map, l1, l2]) ?_ ?_
  · simpa only [List.forall_mem_map] using m1
  · simpa only [List.forall_mem_map] using m2

theorem foldl_maxS_spec (xs : List α) (init : α) :
    xs.foldl maxS init ∈ init :: xs ∧ ∀ x ∈ init :: xs, x ≤ xs.foldl maxS init := by
  induction xs generalizing init with
  | nil => exact ⟨List.mem_singleton_self _, fun x hx => (List.mem_singleton.mp hx).le⟩
  | cons y ys ih =>
    obtain ⟨h1, h2⟩ := ih (maxS init y)
    have hm : maxS init y ≤ ys.foldl maxS (maxS init y) := h2 _ List.mem_cons_self
    rw [maxS_eq_max] at h1 hm
    rw [List.foldl_cons, maxS_eq_max]
    constructor
    · rcases List.mem_cons.mp h1 with h | h
      · rw [h]
        rcases max_choice init y with hc | hc
        · rw [hc]; exact List.mem_cons_self
        · rw [hc]; exact List.mem_cons_of_mem _ List.mem_cons_self
      · exact List.mem_cons_of_mem _ (List.mem_cons_of_mem _ h)
    · refine List.forall_mem_cons.mpr ⟨(le_max_left _ _).trans hm,
        List.forall_mem_cons.mpr ⟨(le_max_right _ _).trans hm, fun x hx => ?_⟩⟩
      exact maxS_eq_max init y ▸ h2 x (List.mem_cons_of_mem _ hx)

end order

section linear
variable {P α : Type} [LinearOrder α]

theorem foldl_insert_spec (f : Pt P → α × Pt P) (pts : List (Pt P)) (acc : List (α × Pt P))
    (hacc : Asc acc) :
    (pts.foldl (fun heap p => insertAsc (f p) heap) acc).Perm (acc ++ pts.map f) ∧
      Asc (pts.foldl (fun heap p => insertAsc (f p) heap) acc) := by
  induction pts generalizing acc with
  | nil => exact ⟨by rw [List.map_nil, List.append_nil]; exact .refl _, hacc⟩
  | cons p ps ih =>
    obtain ⟨hp, ha⟩ := ih (insertAsc (f p) acc) (insertAsc_asc _ hacc)
    exact ⟨hp.trans (((insertAsc_perm (f p) acc).append_right _).trans List.perm_middle.symm), ha⟩

theorem linearKnnTagged_isKnn (m : Metric P α) (q : P) (k : Nat) (pts : List (Pt P)) :
    IsKnn (pts.map (tag m q)) (linearKnnTagged m q k pts) k :=
  have ⟨hp, ha⟩ := foldl_insert_spec (tag m q) pts [] List.Pairwise.nil
  isKnn_take_of_sorted hp ha k

theorem linearKnnTagged_length_perm (m : Metric P α) (q : P) (pts : List (Pt P)) :
    (linearKnnTagged m q pts.length pts).Perm (pts.map (tag m q)) :=
  (linearKnnTagged_isKnn m q pts.length pts).perm_of_length_le (List.length_map _).le

/-- `d` is at or beyond `max_radius` (the loop's `dist >= max_radius`, or a child failing
`rdist <= max_radius`), so nothing at least as far as `d` is strictly inside -/
theorem ltR_false_of_le {d d' : α} {R : Option α} (h : geR d R = true ∨ leR d R = false)
    (hd : d ≤ d') : ltR d' R = false := by
  cases R with
  | none => exact h.elim Bool.noConfusion Bool.noConfusion
  | some r =>
    refine decide_eq_false (not_lt.mpr (le_trans ?_ hd))
    exact h.elim of_decide_eq_true fun h => (not_le.mp (of_decide_eq_false h)).le

end linear

section metric
variable {P α : Type} [Field α] [LinearOrder α] [IsStrictOrderedRing α]

/-- what the search needs of a `Distance` implementation -/
structure Lawful (m : Metric P α) : Prop where
  dist_nonneg : ∀ a b, 0 ≤ m.dist a b
  triangle : ∀ a b c, m.dist a c ≤ m.dist a b + m.dist b c
  rdist_eq : ∀ a b, m.rdist a b = m.toR (m.dist a b)
  toR_strictMono : ∀ a b, 0 ≤ a → a < b → m.toR a < m.toR b
  ofR_toR : ∀ a, 0 ≤ a → m.ofR (m.toR a) = a

/-- the state invariant of the ball tree: every point of a subtree lies within `radius` of `center` -/
inductive BallInv (m : Metric P α) : Ball P α → Prop
  | leaf (c : P) (r : α) (pts : List (Pt P)) :
      (∀ x ∈ pts, m.dist x.1 c ≤ r) → BallInv m (.leaf c r pts)
  | branch (c : P) (r : α) (l rr : Ball P α) : BallInv m l → BallInv m rr →
      (∀ x ∈ l.points ++ rr.points, m.dist x.1 c ≤ r) → BallInv m (.branch c r l rr)

/-- contract of `partition`: the two halves together are the input points.  Only asked on inputs
whose row positions are pairwise distinct — all the builder ever passes (sub-lists of
`batch.rows().enumerate()`), and what makes it provable for the split the driver replays
(`Props/C07.scriptSplit_splitPerm`). -/
def SplitPerm (split : List (Pt P) → Option (List (Pt P) × P × List (Pt P))) : Prop :=
  ∀ pts a c b, (pts.map (·.2)).Nodup → split pts = some (a, c, b) → (a ++ b).Perm pts

set_option linter.unusedSectionVars false in
theorem leafOf_points (m : Metric P α) (mean : List P → P) (pts : List (Pt P)) :
    (leafOf m mean pts).points = pts := rfl

end metric

section search
variable {P α : Type} [Field α] [LinearOrder α] [IsStrictOrderedRing α]

/-- the eligible (reduced distance `< max_radius`) stored points, tagged with their distance -/
def Elig (m : Metric P α) (q : P) (R : Option α) (pts : List (Pt P)) : List (α × Pt P) :=
  (pts.map (tag m q)).filter (fun e => ltR e.1 R)

end search

section tree
variable {P α : Type}

theorem enumerate_nodup (rows : List P) : ((enumerate rows).map (·.2)).Nodup := by
  rw [enumerate, List.zipIdx_map_snd]
  exact List.nodup_range'

theorem mem_enumerate {rows : List P} {p : Pt P} (h : p ∈ enumerate rows) : rows[p.2]? = some p.1 :=
  List.mem_zipIdx_iff_getElem?.mp h

theorem nodup_halves {a b pts : List (Pt P)} (hp : (a ++ b).Perm pts) (hnd : (pts.map (·.2)).Nodup) :
    (a.map (·.2)).Nodup ∧ (b.map (·.2)).Nodup := by
  have h1 := ((hp.map (·.2)).nodup_iff).mpr hnd
  rw [List.map_append] at h1
  exact ⟨(List.nodup_append.mp h1).1, (List.nodup_append.mp h1).2.1⟩

theorem Ball.nodes_pos (b : Ball P α) : 0 < b.nodes := by
  cases b with
  | leaf => exact Nat.one_pos
  | branch c r l rr => exact Nat.lt_of_lt_of_le Nat.one_pos (by rw [Ball.nodes]; omega)

def qpts (queue : List (α × Ball P α)) : List (Pt P) := queue.flatMap (·.2.points)
def qnodes (queue : List (α × Ball P α)) : Nat := (queue.map (·.2.nodes)).sum

theorem qpts_cons (e : α × Ball P α) (Q : List (α × Ball P α)) :
    qpts (e :: Q) = e.2.points ++ qpts Q := List.flatMap_cons

theorem qnodes_cons (e : α × Ball P α) (Q : List (α × Ball P α)) :
    qnodes (e :: Q) = e.2.nodes + qnodes Q := by
  simp only [qnodes, List.map_cons, List.sum_cons]

end tree

section heap
variable {P α : Type} [LinearOrder α]

theorem BallInv.root {m : Metric P α} {node : Ball P α} (h : BallInv m node) :
    ∀ x ∈ node.points, m.dist x.1 node.center ≤ node.radius := by
  cases h with
  | leaf c r pts h => exact h
  | branch c r l rr _ _ h => exact h

theorem Elig_append (m : Metric P α) (q : P) (R : Option α) (a b : List (Pt P)) :
    Elig m q R (a ++ b) = Elig m q R a ++ Elig m q R b := by
  simp only [Elig, List.map_append, List.filter_append]

theorem Elig_perm (m : Metric P α) (q : P) (R : Option α) {a b : List (Pt P)} (h : a.Perm b) :
    (Elig m q R a).Perm (Elig m q R b) := (h.map _).filter _

theorem Elig_nil_of (m : Metric P α) (q : P) (R : Option α) (pts : List (Pt P))
    (h : ∀ x ∈ pts, ltR (m.rdist q x.1) R = false) : Elig m q R pts = [] := by
  unfold Elig
  rw [List.filter_eq_nil_iff]
  intro e he
  obtain ⟨x, hx, rfl⟩ := List.mem_map.mp he
  exact ne_true_of_eq_false (h x hx)

theorem visit_isKnn (m : Metric P α) (q : P) {k : Nat} (hk : 0 < k) (R : Option α)
    {E out : List (α × Pt P)} (h : IsKnn E out k) (p : Pt P) :
    IsKnn (E ++ Elig m q R [p]) (visit m q k R out p) k := by
  have hE : Elig m q R [p] = if ltR (m.rdist q p.1) R then [(m.rdist q p.1, p)] else [] := by
    simp only [Elig, tag, List.map_cons, List.map_nil, List.filter_cons, List.filter_nil]
  have hlen : out.length ≤ k := h.elim fun _ hr => hr.2.1 ▸ Nat.min_le_left _ _
  rw [hE]
  simp only [visit]
  cases ltR (m.rdist q p.1) R with
  | false => simpa only [Bool.false_and, Bool.false_eq_true, if_false, List.append_nil] using h
  | true =>
    rw [trim_eq_take _ k (by rw [insertAsc_length]; omega)]
    simp only [Bool.true_and, if_true, Bool.or_eq_true, decide_eq_true_eq]
    cases hgl : out.getLast? with
    | none =>
      have hlt : out.length < k := List.getLast?_eq_none_iff.mp hgl ▸ hk
      rw [if_pos (Or.inl hlt)]
      exact h.insert _ (Or.inl hlt)
    | some e =>
      simp only [decide_eq_true_eq]
      split
      · rename_i hc
        exact h.insert _ (hc.imp id fun hd => ⟨e, List.mem_of_getLast? hgl, hd.le⟩)
      · rename_i hc
        rw [not_or, not_lt, not_lt] at hc
        refine h.append_far (Or.inr (by omega)) fun y hy x hx => ?_
        rw [List.mem_singleton.mp hx]
        exact (asc_le_getLast h.asc hgl y hy).trans hc.2

theorem visitFold_isKnn (m : Metric P α) (q : P) {k : Nat} (hk : 0 < k) (R : Option α)
    (pts : List (Pt P)) {E out : List (α × Pt P)} (h : IsKnn E out k) :
    IsKnn (E ++ Elig m q R pts) (pts.foldl (visit m q k R) out) k := by
  induction pts generalizing E out with
  | nil => simpa only [Elig, List.map_nil, List.filter_nil, List.append_nil, List.foldl_nil] using h
  | cons p ps ih =>
    rw [List.foldl_cons, ← List.singleton_append, Elig_append, ← List.append_assoc]
    exact ih (visit_isKnn m q hk R h p)

/-- invariant of the best-first queue: ascending lower bounds, each a sound bound of its ball -/
structure QInv (m : Metric P α) (q : P) (queue : List (α × Ball P α)) : Prop where
  asc : Asc queue
  inv : ∀ e ∈ queue, BallInv m e.2
  lb : ∀ e ∈ queue, ∀ x ∈ e.2.points, e.1 ≤ m.rdist q x.1

namespace QInv

theorem tail {m : Metric P α} {q : P} {e : α × Ball P α} {Q : List (α × Ball P α)}
    (h : QInv m q (e :: Q)) : QInv m q Q :=
  ⟨(List.pairwise_cons.mp h.asc).2, fun x hx => h.inv x (List.mem_cons_of_mem _ hx),
    fun x hx => h.lb x (List.mem_cons_of_mem _ hx)⟩

theorem head_le {m : Metric P α} {q : P} {e : α × Ball P α} {Q : List (α × Ball P α)}
    (h : QInv m q (e :: Q)) : ∀ x ∈ qpts (e :: Q), e.1 ≤ m.rdist q x.1 := by
  intro x hx
  obtain ⟨e', he', hxe⟩ := List.mem_flatMap.mp hx
  refine le_trans ?_ (h.lb e' he' x hxe)
  rcases List.mem_cons.mp he' with rfl | he'
  · exact le_rfl
  · exact (List.pairwise_cons.mp h.asc).1 e' he'

end QInv

end heap

section build
variable {P α : Type} [Field α] [LinearOrder α]

namespace Lawful

theorem toR_mono {m : Metric P α} (h : Lawful m) {a b : α} (ha : 0 ≤ a) (hab : a ≤ b) :
    m.toR a ≤ m.toR b := by
  rcases hab.lt_or_eq with h1 | rfl
  · exact (h.toR_strictMono a b ha h1).le
  · exact le_rfl

theorem le_of_toR_le {m : Metric P α} (h : Lawful m) {a b : α} (hb : 0 ≤ b)
    (hab : m.toR a ≤ m.toR b) : a ≤ b :=
  not_lt.mp fun hlt => not_lt.mpr hab (h.toR_strictMono b a hb hlt)

theorem dist_le_of_rdist_le {m : Metric P α} (h : Lawful m) {q a b : P}
    (hab : m.rdist q a ≤ m.rdist q b) : m.dist q a ≤ m.dist q b := by
  rw [h.rdist_eq, h.rdist_eq] at hab
  exact h.le_of_toR_le (h.dist_nonneg _ _) hab

end Lawful

theorem calcRadius_ge {m : Metric P α} (h : Lawful m) (c : P) (pts : List (Pt P)) :
    ∀ x ∈ pts, m.dist x.1 c ≤ calcRadius m c pts := by
  intro x hx
  have hxm : m.rdist x.1 c ∈ pts.map fun p => m.rdist p.1 c := List.mem_map.mpr ⟨x, hx, rfl⟩
  obtain ⟨r, rs, hl⟩ := List.exists_cons_of_ne_nil (List.ne_nil_of_mem hxm)
  obtain ⟨hmem, hge⟩ := foldl_maxS_spec rs r
  rw [← hl] at hmem hge
  obtain ⟨y, _, hy⟩ := List.mem_map.mp hmem
  -- the maximum is the reduced distance of some point `y`, so converting it back is exact
  rw [calcRadius, hl, maxList, ← hy, h.rdist_eq, h.ofR_toR _ (h.dist_nonneg _ _)]
  apply h.le_of_toR_le (h.dist_nonneg _ _)
  rw [← h.rdist_eq, ← h.rdist_eq, hy]
  exact hge _ hxm

theorem leafOf_inv {m : Metric P α} (h : Lawful m) (mean : List P → P) (pts : List (Pt P)) :
    BallInv m (leafOf m mean pts) := by
  refine BallInv.leaf _ _ _ fun x hx => ?_
  cases pts with
  | nil => nomatch hx
  | cons p ps => exact calcRadius_ge h _ _ x hx

/-- induction along `BallTreeInner::new`: a relation between the points handed in and the tree built
holds of every leaf and is passed on from the two subtrees of a branch -/
theorem build_induction {m : Metric P α} {mean : List P → P}
    {split : List (Pt P) → Option (List (Pt P) × P × List (Pt P))} (leafSize : Nat)
    {C : List (Pt P) → Ball P α → Prop} (leaf : ∀ pts, C pts (leafOf m mean pts))
    (branch : ∀ fuel pts a c b, split pts = some (a, c, b) →
      C a (build m mean split leafSize fuel a) → C b (build m mean split leafSize fuel b) →
      C pts (.branch c (calcRadius m c (a ++ b)) (build m mean split leafSize fuel a)
        (build m mean split leafSize fuel b))) :
    ∀ fuel pts, C pts (build m mean split leafSize fuel pts)
  | 0, pts => leaf pts
  | fuel + 1, pts => by
    rw [build]
    split
    · exact leaf pts
    · split
      · exact leaf pts
      · rename_i a c b heq
        exact branch fuel pts a c b heq (build_induction leafSize leaf branch fuel a)
          (build_induction leafSize leaf branch fuel b)

theorem build_perm {m : Metric P α} {mean : List P → P}
    {split : List (Pt P) → Option (List (Pt P) × P × List (Pt P))} (hs : SplitPerm split)
    (leafSize fuel : Nat) (pts : List (Pt P)) :
    (pts.map (·.2)).Nodup → (build m mean split leafSize fuel pts).points.Perm pts :=
  build_induction leafSize (C := fun pts t => (pts.map (·.2)).Nodup → t.points.Perm pts)
    (fun _ _ => .refl _) (fun _ _ _ _ _ heq iha ihb hnd =>
    have hp := hs _ _ _ _ hnd heq
    have ⟨ha, hb⟩ := nodup_halves hp hnd
    ((iha ha).append (ihb hb)).trans hp) fuel pts

theorem build_inv {m : Metric P α} (h : Lawful m) {mean : List P → P}
    {split : List (Pt P) → Option (List (Pt P) × P × List (Pt P))} (hs : SplitPerm split)
    (leafSize fuel : Nat) (pts : List (Pt P)) :
    (pts.map (·.2)).Nodup → BallInv m (build m mean split leafSize fuel pts) :=
  build_induction leafSize (C := fun pts t => (pts.map (·.2)).Nodup → BallInv m t)
    (fun pts _ => leafOf_inv h mean pts) (fun fuel _ a c b heq iha ihb hnd =>
    have ⟨ha, hb⟩ := nodup_halves (hs _ _ _ _ hnd heq) hnd
    -- the radius was computed from `a ++ b`, which is what the two subtrees store
    .branch _ _ _ _ (iha ha) (ihb hb) fun x hx => calcRadius_ge h c _ x
      (((build_perm hs leafSize fuel a ha).append (build_perm hs leafSize fuel b hb)).subset hx))
    fuel pts

/-- `if rdistance(child) <= max_radius { queue.push(child) }` -/
def push (m : Metric P α) (q : P) (R : Option α) (c : Ball P α) (Q : List (α × Ball P α)) :
    List (α × Ball P α) :=
  if leR (lower m q c) R then insertAsc (lower m q c, c) Q else Q

theorem mem_push {m : Metric P α} {q : P} {R : Option α} {c : Ball P α} {Q : List (α × Ball P α)}
    {e : α × Ball P α} (h : e ∈ push m q R c Q) : e.2 = c ∨ e ∈ Q := by
  unfold push at h
  split at h
  · exact (mem_insertAsc.mp h).imp_left fun he => by rw [he]
  · exact Or.inr h

/-- one turn of the loop on a non-empty queue, the queueing of the two children written with `push` -/
theorem searchLoop_cons (m : Metric P α) (q : P) (k : Nat) (R : Option α) (n : Nat) (d : α)
    (node : Ball P α) (Q : List (α × Ball P α)) (out : List (α × Pt P)) :
    searchLoop m q k R (n + 1) ((d, node) :: Q) out =
      if stop k R d out then out else match node with
        | .leaf _ _ pts => searchLoop m q k R n Q (pts.foldl (visit m q k R) out)
        | .branch _ _ l r => searchLoop m q k R n (push m q R r (push m q R l Q)) out := by
  cases node <;> rfl

end build

section loop
variable {P α : Type} [Field α] [LinearOrder α] [IsStrictOrderedRing α]

/-- **soundness of the pruning bound**: nothing in the ball is nearer (in reduced distance) than `lower` -/
theorem lower_le {m : Metric P α} (h : Lawful m) (q : P) {node : Ball P α} (hn : BallInv m node) :
    ∀ x ∈ node.points, lower m q node ≤ m.rdist q x.1 := by
  intro x hx
  have hr := hn.root x hx
  have ht := h.triangle q x.1 node.center
  rw [lower, maxS_eq_max, h.rdist_eq]
  refine h.toR_mono (le_max_right _ _) (max_le ?_ (h.dist_nonneg _ _))
  linarith

/-- a child left out lies wholly beyond `max_radius`, so the eligible points waiting are the same -/
theorem push_spec {m : Metric P α} (h : Lawful m) (q : P) (R : Option α) {c : Ball P α}
    (hc : BallInv m c) {Q : List (α × Ball P α)} (hQ : QInv m q Q) :
    QInv m q (push m q R c Q) ∧ qnodes (push m q R c Q) ≤ c.nodes + qnodes Q ∧
    (Elig m q R (qpts (push m q R c Q))).Perm (Elig m q R (c.points ++ qpts Q)) := by
  unfold push
  cases hle : leR (lower m q c) R with
  | true =>
    have hperm := insertAsc_perm (lower m q c, c) Q
    refine ⟨⟨insertAsc_asc _ hQ.asc, ?_, ?_⟩, ?_,
      Elig_perm m q R (hperm.flatMap_right fun x : α × Ball P α => x.2.points)⟩
    · intro e he
      rcases mem_insertAsc.mp he with rfl | he
      · exact hc
      · exact hQ.inv e he
    · intro e he
      rcases mem_insertAsc.mp he with rfl | he
      · exact lower_le h q hc
      · exact hQ.lb e he
    · exact (show qnodes _ = qnodes ((lower m q c, c) :: Q) from (hperm.map _).sum_nat).le
  | false =>
    refine ⟨hQ, Nat.le_add_left _ _, ?_⟩
    rw [Elig_append, Elig_nil_of m q R c.points
      fun x hx => ltR_false_of_le (.inr hle) (lower_le h q hc x hx)]
    exact .refl _

/-- **the loop of `nn_helper`**: if `out` holds the `k` nearest of the eligible points `E` seen so far
and the queue satisfies its invariant, the loop ends with the `k` nearest of `E` and all eligible
points waiting in the queue.  It may stop early because every waiting point is at least as far as
the head of the queue, which is beyond `max_radius` or beyond the full heap's maximum. -/
theorem searchLoop_isKnn {m : Metric P α} (h : Lawful m) (q : P) {k : Nat} (hk : 0 < k) (R : Option α)
    (fuel : Nat) : ∀ (queue : List (α × Ball P α)) (E out : List (α × Pt P)),
      IsKnn E out k → QInv m q queue → qnodes queue ≤ fuel →
      IsKnn (E ++ Elig m q R (qpts queue)) (searchLoop m q k R fuel queue out) k := by
  have hnil : ∀ {E out : List (α × Pt P)}, IsKnn E out k → IsKnn (E ++ Elig m q R (qpts (α := α) [])) out k :=
    fun hi => hi.append_far (F := []) (Or.inl rfl) fun _ _ _ hx => nomatch hx
  induction fuel with
  | zero =>
    intro queue E out hi _ hf
    cases queue with
    | nil => exact hnil hi
    | cons e Q => exact absurd hf (by have := e.2.nodes_pos; rw [qnodes_cons]; omega)
  | succ n ih =>
    intro queue E out hi hQ hf
    cases queue with
    | nil => exact hnil hi
    | cons top Q =>
      obtain ⟨d, node⟩ := top
      rw [qnodes_cons] at hf
      rw [searchLoop_cons]
      cases hs : stop k R d out with
      | true =>
        rw [if_pos rfl]
        simp only [stop, Bool.or_eq_true, Bool.and_eq_true, beq_iff_eq] at hs
        rcases hs with hge | ⟨hfull, hlast⟩
        · rwa [Elig_nil_of m q R _ fun x hx => ltR_false_of_le (.inl hge) (hQ.head_le x hx),
            List.append_nil]
        · cases hgl : out.getLast? with
          | none =>
            rw [List.getLast?_eq_none_iff.mp hgl] at hfull
            exact absurd hfull hk.ne
          | some e =>
            rw [hgl] at hlast
            refine hi.append_far (Or.inr hfull) fun y hy x hx => ?_
            obtain ⟨p, hp, rfl⟩ := List.mem_map.mp (List.mem_filter.mp hx).1
            exact (asc_le_getLast hi.asc hgl y hy).trans
              ((of_decide_eq_true hlast).trans (hQ.head_le p hp))
      | false =>
        rw [if_neg Bool.false_ne_true]
        cases node with
        | leaf c r pts =>
          rw [qpts_cons, Elig_append, ← List.append_assoc]
          exact ih Q _ _ (visitFold_isKnn m q hk R pts hi) hQ.tail (by rw [Ball.nodes] at hf; omega)
        | branch c r l rr =>
          obtain ⟨hl, hr⟩ : BallInv m l ∧ BallInv m rr := by
            cases hQ.inv _ List.mem_cons_self with | branch _ _ _ _ hl hr _ => exact ⟨hl, hr⟩
          obtain ⟨hQ1, hn1, hE1⟩ := push_spec h q R hl hQ.tail
          obtain ⟨hQ2, hn2, hE2⟩ := push_spec h q R hr hQ1
          refine (ih _ E out hi hQ2 (by rw [Ball.nodes] at hf; omega)).perm
            (List.Perm.append_left E ?_)
          rw [Elig_append] at hE1 hE2
          simp only [qpts_cons, Ball.points, Elig_append, List.append_assoc]
          exact hE2.trans ((hE1.append_left _).trans (List.perm_append_comm_assoc _ _ _))

theorem searchTagged_isKnn {m : Metric P α} (h : Lawful m) (q : P) {k : Nat} (hk : 0 < k)
    (R : Option α) (tree : Ball P α) (ht : BallInv m tree) :
    IsKnn (Elig m q R tree.points) (searchTagged m tree q k R) k := by
  have hQ : QInv m q [(lower m q tree, tree)] :=
    ⟨List.pairwise_singleton _ _, fun e he => List.mem_singleton.mp he ▸ ht,
      fun e he => List.mem_singleton.mp he ▸ lower_le h q ht⟩
  have := searchLoop_isKnn h q hk R tree.nodes _ [] [] (.nil k) hQ (Nat.le_of_eq (Nat.add_zero _))
  rwa [qpts_cons, List.nil_append, qpts, List.flatMap_nil, List.append_nil] at this

theorem searchTagged_ballIndex {m : Metric P α} (h : Lawful m) (mean : List P → P)
    (split : List (Pt P) → Option (List (Pt P) × P × List (Pt P))) (hs : SplitPerm split)
    (leafSize ncols : Nat) (rows : List P) (q : P) {k : Nat} (hk : 0 < k) (R : Option α) :
    IsKnn (Elig m q R (enumerate rows))
      (searchTagged m (ballIndex m mean split leafSize ncols rows).tree q k R) k :=
  (searchTagged_isKnn h q hk R _ (build_inv h hs leafSize rows.length _ (enumerate_nodup rows))).perm
    (Elig_perm m q R (build_perm hs leafSize rows.length _ (enumerate_nodup rows)))

end loop
end LinfaSpec.NN
