import LinfaSpec.Model.Gmm
import LinfaSpec.Proofs.Scalar
import LinfaSpec.Proofs.Lists
import Mathlib.Algebra.BigOperators.Ring.Finset
import Mathlib.Algebra.BigOperators.Field
import Mathlib.Algebra.BigOperators.Group.List.Basic
import Mathlib.Algebra.Order.BigOperators.Ring.Finset
import Mathlib.Algebra.Order.Field.Basic
import Mathlib.Tactic.Ring

/-!
The M-step of `Model/Gmm.lean` over an ordered field: the model's index sums as `Finset` sums, entries
of the list-of-rows matrices, what `estimateParams` returns, weighted means, the quadratic form of the
covariance, the `rowMax` / `argmaxFirst` scans, and the Cholesky-and-solve step for one feature.
-/
namespace LinfaSpec.Gmm
open LinfaSpec Finset

section monoid
variable {α : Type} [AddCommMonoid α]

theorem sumRange_zero (f : Nat → α) : sumRange 0 f = 0 := rfl

theorem sumRange_succ (n : Nat) (f : Nat → α) : sumRange (n + 1) f = sumRange n f + f n := by
  simp only [sumRange, sumS_eq_sum, List.range_succ, List.map_append, List.sum_append, List.map_cons,
    List.map_nil, List.sum_singleton]

theorem sumRange_eq (n : Nat) (f : Nat → α) : sumRange n f = ∑ i ∈ range n, f i := by
  induction n with
  | zero => rfl
  | succ n ih => rw [sumRange_succ, ih, sum_range_succ]

theorem at2_map_range {k d j c : Nat} (g : Nat → Nat → α) (hj : j < k) (hc : c < d) :
    at2 ((List.range k).map fun j => (List.range d).map fun c => g j c) j c = g j c := by
  unfold at2
  rw [getD_map_range _ hj, getD_map_range _ hc]

end monoid

section field
variable {α : Type} [Field α] {n d k j a b c : Nat} {x r : List (List α)}

theorem sum_map_div (l : List α) (g : α → α) (c : α) :
    (l.map (fun s => g s / c)).sum = (l.map g).sum / c := by
  induction l with
  | nil => simp
  | cons a t ih => simp [ih, add_div]

theorem nkOf_getD (hj : j < k) : (nkOf n k r).getD j 0 = ∑ i ∈ range n, at2 r i j := by
  unfold nkOf
  rw [getD_map_range _ hj, sumRange_eq]

theorem nkOf_mem (hj : j < k) : (∑ i ∈ range n, at2 r i j) ∈ nkOf n k r :=
  List.mem_map.mpr ⟨j, List.mem_range.mpr hj, sumRange_eq _ _⟩

theorem sumS_weights (n k : Nat) (r : List (List α)) :
    sumS ((nkOf n k r).map (fun v => v / (n : α))) =
      (∑ i ∈ range n, ∑ j ∈ range k, at2 r i j) / (n : α) := by
  rw [nkOf, List.map_map, ← sumRange, sumRange_eq, sum_comm, sum_div]
  simp only [Function.comp_apply, sumRange_eq]

theorem meansOf_at {nk : List α} (hj : j < k) (hc : c < d) :
    at2 (meansOf n d k x r nk) j c = (∑ i ∈ range n, at2 r i j * at2 x i c) / nk.getD j 0 := by
  unfold meansOf
  rw [at2_map_range _ hj hc, sumRange_eq]

variable {mu : List α} {nkj reg : α}

/-- entry of the covariance as `S_ab / nk + reg·δ_ab` -/
theorem covOf_at (ha : a < d) (hb : b < d) :
    at2 (covOf n d x r j mu nkj reg) a b =
      (∑ i ∈ range n, ((at2 x i a - mu.getD a 0) * at2 r i j) * (at2 x i b - mu.getD b 0)) / nkj
        + (if a = b then reg else 0) := by
  unfold covOf
  rw [at2_map_range _ ha hb, sumRange_eq]
  split <;> simp

theorem covOf_symm (ha : a < d) (hb : b < d) :
    at2 (covOf n d x r j mu nkj reg) a b = at2 (covOf n d x r j mu nkj reg) b a := by
  rw [covOf_at ha hb, covOf_at hb ha]
  simp only [eq_comm (a := b)]
  congr 2
  exact sum_congr rfl fun i _ => by ring

theorem quad_scatter (n d : Nat) (D : Nat → Nat → α) (w : Nat → α) (v : Nat → α) :
    ∑ a ∈ range d, ∑ b ∈ range d, v a * (∑ i ∈ range n, (D i a * w i) * D i b) * v b =
      ∑ i ∈ range n, w i * (∑ a ∈ range d, v a * D i a) ^ 2 := by
  simp only [sq, mul_sum, sum_mul]
  refine Eq.trans ?_ sum_comm
  refine sum_congr rfl fun a _ => Eq.trans ?_ sum_comm
  exact sum_congr rfl fun b _ => sum_congr rfl fun i _ => by ring

/-- quadratic form of a covariance of the model:
`vᵀ Σ v = (Σ_i r_i (v·(x_i − μ))²)/nk + reg·|v|²` -/
theorem covOf_quad (v : Nat → α) :
    ∑ a ∈ range d, ∑ b ∈ range d, v a * at2 (covOf n d x r j mu nkj reg) a b * v b =
      (∑ i ∈ range n, at2 r i j * (∑ a ∈ range d, v a * (at2 x i a - mu.getD a 0)) ^ 2) / nkj
        + reg * ∑ a ∈ range d, v a ^ 2 := by
  have h1 : ∀ a ∈ range d, ∀ b ∈ range d, v a * at2 (covOf n d x r j mu nkj reg) a b * v b =
      (v a * (∑ i ∈ range n, ((at2 x i a - mu.getD a 0) * at2 r i j) * (at2 x i b - mu.getD b 0)) * v b) / nkj
        + (if a = b then reg * v a ^ 2 else 0) := by
    intro a ha b hb
    rw [covOf_at (mem_range.mp ha) (mem_range.mp hb)]
    split
    · subst b; ring
    · ring
  rw [sum_congr rfl fun a ha => sum_congr rfl (h1 a ha)]
  simp only [sum_add_distrib, ← sum_div, sum_ite_eq]
  congr 1
  · congr 1
    exact quad_scatter n d (fun i a => at2 x i a - mu.getD a 0) (fun i => at2 r i j) v
  · rw [mul_sum]
    exact sum_congr rfl fun a ha => if_pos ha

end field

section order
variable {α : Type} [Field α] [LinearOrder α] {n d k j a : Nat} {x r : List (List α)}

theorem estimateParams_eq (thr reg : α) (n d k : Nat) (x r : List (List α)) :
    estimateParams thr reg n d k x r =
      if (nkOf n k r).any (fun v => v < thr) then .error "EmptyCluster" else
        .ok ⟨nkOf n k r, (nkOf n k r).map (fun v => v / (n : α)), meansOf n d k x r (nkOf n k r),
          (List.range k).map fun j =>
            covOf n d x r j ((meansOf n d k x r (nkOf n k r)).getD j []) ((nkOf n k r).getD j 0) reg⟩ :=
  rfl

variable {thr reg : α} {p : Params α}

theorem estimateParams_ok (h : estimateParams thr reg n d k x r = .ok p) :
    (∀ v ∈ nkOf n k r, thr ≤ v) ∧ p.nk = nkOf n k r ∧
    p.weights = (nkOf n k r).map (fun v => v / (n : α)) ∧
    p.means = meansOf n d k x r (nkOf n k r) ∧
    p.covs = (List.range k).map fun j =>
      covOf n d x r j ((meansOf n d k x r (nkOf n k r)).getD j []) ((nkOf n k r).getD j 0) reg := by
  rw [estimateParams_eq] at h
  split at h
  · cases h
  · rename_i hg
    cases h
    exact ⟨fun v hv => not_lt.mp fun hlt => hg (List.any_eq_true.mpr ⟨v, hv, decide_eq_true hlt⟩),
      rfl, rfl, rfl, rfl⟩

theorem estimateParams_nk_pos (hthr : 0 < thr) (h : estimateParams thr reg n d k x r = .ok p)
    (hj : j < k) : 0 < ∑ i ∈ range n, at2 r i j :=
  lt_of_lt_of_le hthr ((estimateParams_ok h).1 _ (nkOf_mem hj))

variable [IsStrictOrderedRing α]

theorem sum_weights_approx (n k : Nat) (r : List (List α)) (ε : α) (hn : 0 < n)
    (hrow : ∀ i, i < n → |∑ j ∈ range k, at2 r i j - 1| ≤ ε) :
    |sumS ((nkOf n k r).map (fun v => v / (n : α))) - 1| ≤ ε := by
  have hnpos : (0 : α) < (n : α) := Nat.cast_pos.mpr hn
  have hsub : (∑ i ∈ range n, ∑ j ∈ range k, at2 r i j) / (n : α) - 1 =
      (∑ i ∈ range n, (∑ j ∈ range k, at2 r i j - 1)) / (n : α) := by
    rw [sum_sub_distrib, sum_const, card_range, nsmul_eq_mul, mul_one, sub_div, div_self hnpos.ne']
  rw [sumS_weights, hsub, abs_div, abs_of_pos hnpos, div_le_iff₀ hnpos]
  calc |∑ i ∈ range n, (∑ j ∈ range k, at2 r i j - 1)|
      ≤ ∑ i ∈ range n, |∑ j ∈ range k, at2 r i j - 1| := abs_sum_le_sum_abs _ _
    _ ≤ ∑ _i ∈ range n, ε := sum_le_sum fun i hi => hrow i (mem_range.mp hi)
    _ = ε * (n : α) := by rw [sum_const, card_range, nsmul_eq_mul, mul_comm]

theorem weighted_mean_bounds (n : Nat) (w v : Nat → α) (lo hi : α)
    (hw : ∀ i, i < n → 0 ≤ w i) (hpos : 0 < ∑ i ∈ range n, w i)
    (hb : ∀ i, i < n → lo ≤ v i ∧ v i ≤ hi) :
    lo ≤ (∑ i ∈ range n, w i * v i) / (∑ i ∈ range n, w i) ∧
    (∑ i ∈ range n, w i * v i) / (∑ i ∈ range n, w i) ≤ hi := by
  rw [le_div_iff₀ hpos, div_le_iff₀ hpos, mul_sum, mul_sum]
  constructor
  · exact sum_le_sum fun i hm => by
      rw [mul_comm]; exact mul_le_mul_of_nonneg_left (hb i (mem_range.mp hm)).1 (hw i (mem_range.mp hm))
  · exact sum_le_sum fun i hm => by
      rw [mul_comm hi]; exact mul_le_mul_of_nonneg_left (hb i (mem_range.mp hm)).2 (hw i (mem_range.mp hm))

variable {mu : List α} {nkj : α}

theorem covOf_quad_ge (v : Nat → α) (hr : ∀ i, i < n → 0 ≤ at2 r i j) (hnk : 0 < nkj) :
    reg * ∑ a ∈ range d, v a ^ 2 ≤
      ∑ a ∈ range d, ∑ b ∈ range d, v a * at2 (covOf n d x r j mu nkj reg) a b * v b := by
  rw [covOf_quad]
  exact le_add_of_nonneg_left (div_nonneg
    (sum_nonneg fun i hi => mul_nonneg (hr i (mem_range.mp hi)) (sq_nonneg _)) hnk.le)

/-- the diagonal entry `a` is the quadratic form at the unit vector `e_a` -/
theorem covOf_diag_ge (ha : a < d) (hr : ∀ i, i < n → 0 ≤ at2 r i j) (hnk : 0 < nkj) :
    reg ≤ at2 (covOf n d x r j mu nkj reg) a a := by
  simpa [ite_pow, ha] using
    covOf_quad_ge (d := d) (x := x) (mu := mu) (reg := reg) (fun c => if c = a then 1 else 0) hr hnk

end order

section scan
variable {α : Type} [LinearOrder α]

/-- invariant of the `argmax` scan: `pre` is the part of the row already seen, `best` the index in it
of its maximum `m` -/
theorem argmax_fold (pre t : List α) (best : Nat) (m : α)
    (hm : pre[best]? = some m) (hall : ∀ v ∈ pre, v ≤ m) :
    let st := t.foldl (fun (st : Nat × Nat × α) v =>
      let (best, i, m) := st
      if m < v then (i, i + 1, v) else (best, i + 1, m)) (best, pre.length, m)
    (pre ++ t)[st.1]? = some st.2.2 ∧ ∀ v ∈ pre ++ t, v ≤ st.2.2 := by
  induction t generalizing pre best m with
  | nil => simpa using ⟨hm, hall⟩
  | cons v t ih =>
    have key := fun b' m' => ih (pre ++ [v]) b' m'
    have hall' : ∀ m', m ≤ m' → v ≤ m' → ∀ u ∈ pre ++ [v], u ≤ m' := by
      intro m' h1 h2 u hu
      rcases List.mem_append.mp hu with h | h
      · exact (hall u h).trans h1
      · rw [List.mem_singleton.mp h]; exact h2
    simp only [List.length_append, List.length_singleton] at key
    rw [List.foldl_cons, List.append_cons]
    by_cases hlt : m < v
    · simp only [hlt, if_true]
      exact key pre.length v List.getElem?_concat_length (hall' v hlt.le le_rfl)
    · simp only [hlt, if_false]
      refine key best m ?_ (hall' m le_rfl (not_lt.mp hlt))
      rw [List.getElem?_append_left (List.getElem?_eq_some_iff.mp hm).1]
      exact hm

/-- the scan carries the running maximum: its last component is the fold of `rowMax` -/
theorem argmax_fold_max (t : List α) (best i : Nat) (m : α) :
    (t.foldl (fun (st : Nat × Nat × α) v =>
      let (best, i, m) := st
      if m < v then (i, i + 1, v) else (best, i + 1, m)) (best, i, m)).2.2 =
    t.foldl (fun m v => if m < v then v else m) m := by
  induction t generalizing best i m with
  | nil => rfl
  | cons v t ih =>
    rw [List.foldl_cons, List.foldl_cons]
    by_cases hlt : m < v
    · simp only [hlt, if_true]; exact ih _ _ _
    · simp only [hlt, if_false]; exact ih _ _ _

theorem argmaxFirst_rowMax [OfNat α 0] (l : List α) (hl : l ≠ []) :
    l[argmaxFirst l]? = some (rowMax l) ∧ ∀ v ∈ l, v ≤ rowMax l := by
  cases l with
  | nil => exact absurd rfl hl
  | cons a t =>
    have h := argmax_fold [a] t 0 a rfl (fun v hv => (List.mem_singleton.mp hv).le)
    simp only [argmax_fold_max] at h
    exact h

theorem rowMax_spec [OfNat α 0] (l : List α) (hl : l ≠ []) :
    rowMax l ∈ l ∧ ∀ v ∈ l, v ≤ rowMax l :=
  ⟨List.mem_of_getElem? (argmaxFirst_rowMax l hl).1, (argmaxFirst_rowMax l hl).2⟩

end scan

section chol
variable {α : Type} [Field α] [LinearOrder α] [Transc α]

/-- `compute_precisions_cholesky_full` for one feature: `[[v]]` is accepted iff `v > 0`, with result
`[[1/√v]]` (pivot `v − 0`, factor `√v`, forward substitution `1/√v`) -/
theorem precCholOf_one (cov : List (List α)) :
    precCholOf 1 cov = if at2 cov 0 0 ≤ 0 then .error "LinalgError"
      else .ok [[1 / Transc.sqrt (at2 cov 0 0)]] := by
  have hD : cholRowD cov [] 0 = ([], at2 cov 0 0 - 0) := rfl
  simp only [precCholOf, cholesky, List.range_one, List.foldl_cons, List.foldl_nil, cholRow, hD, sub_zero]
  by_cases h : at2 cov 0 0 ≤ 0
  · simp only [if_pos h]
  · simp only [if_neg h]; rfl

end chol

end LinfaSpec.Gmm
