import LinfaSpec.Model.Logistic
import Mathlib.Order.Defs.LinearOrder

/-!
Label coding of `linfa-logistic`: the scan invariant of `label_classes` and what a successful run returns;
for `label_classes_multi`, that sort followed by `dedup` gives the strictly increasing list of the labels that occur.
-/
namespace LinfaSpec.Logistic

section Labels
variable {C : Type} [DecidableEq C]

/-- what the scan of `label_classes` knows after reading the prefix `pre` -/
def ScanInv (pre : List C) : BinState C → Prop
  | (none, none) => pre = []
  | (some (a, na), none) => na = pre.count a ∧ 0 < na ∧ ∀ x ∈ pre, x = a
  | (some (a, na), some (b, nb)) =>
      a ≠ b ∧ na = pre.count a ∧ nb = pre.count b ∧ 0 < na ∧ 0 < nb ∧ ∀ x ∈ pre, x = a ∨ x = b
  | (none, some _) => False

theorem binStep_inv (pre : List C) (st st' : BinState C) (c : C)
    (h : binStep st c = some st') (hi : ScanInv pre st) : ScanInv (pre ++ [c]) st' := by
  have hmem : ∀ {P : C → Prop}, (∀ x ∈ pre, P x) → P c → ∀ x ∈ pre ++ [c], P x := fun hp hc x hx => by
    rcases List.mem_append.mp hx with hx | hx
    · exact hp x hx
    · rw [List.mem_singleton.mp hx]; exact hc
  have hcnt : ∀ x, (pre ++ [c]).count x = pre.count x + if c = x then 1 else 0 := fun x => by
    simp only [List.count_append, List.count_singleton, beq_iff_eq]
  obtain ⟨_ | ⟨a, na⟩, _ | ⟨b, nb⟩⟩ := st
  · cases h; cases hi
    exact ⟨by rw [hcnt, if_pos rfl]; rfl, Nat.one_pos, hmem (fun _ hx => nomatch hx) rfl⟩
  · exact hi.elim
  · obtain ⟨h1, h2, h3⟩ := hi
    rw [binStep] at h
    split_ifs at h with hac
    · cases h; subst hac
      exact ⟨by rw [hcnt, if_pos rfl, h1], Nat.succ_pos _, hmem h3 rfl⟩
    · cases h
      have hc0 : pre.count c = 0 := List.count_eq_zero.mpr fun hm => hac (h3 c hm).symm
      exact ⟨hac, by rw [hcnt, if_neg (Ne.symm hac), h1, Nat.add_zero], by rw [hcnt, if_pos rfl, hc0], h2, Nat.one_pos,
        hmem (fun x hx => Or.inl (h3 x hx)) (Or.inr rfl)⟩
  · obtain ⟨hab, h1, h2, h3, h4, h5⟩ := hi
    rw [binStep] at h
    split_ifs at h with hac hbc
    · cases h; subst hac
      exact ⟨hab, by rw [hcnt, if_pos rfl, h1], by rw [hcnt, if_neg hab, h2, Nat.add_zero], Nat.succ_pos _, h4,
        hmem h5 (Or.inl rfl)⟩
    · cases h; subst hbc
      exact ⟨hab, by rw [hcnt, if_neg (Ne.symm hab), h1, Nat.add_zero], by rw [hcnt, if_pos rfl, h2], h3, Nat.succ_pos _,
        hmem h5 (Or.inr rfl)⟩

theorem binScan_inv (cs : List C) : ∀ (pre : List C) (st st' : BinState C),
    binScan st cs = some st' → ScanInv pre st → ScanInv (pre ++ cs) st' := by
  induction cs with
  | nil =>
    intro pre st st' h hi
    simp only [binScan, Option.some.injEq] at h
    subst h
    simpa using hi
  | cons c cs ih =>
    intro pre st st' h hi
    simp only [binScan] at h
    cases hs : binStep st c with
    | none => simp [hs] at h
    | some st1 =>
      simp only [hs] at h
      have := ih (pre ++ [c]) st1 st' h (binStep_inv pre st st1 c hs hi)
      simpa using this

/-- what a successful `label_classes` returns: the scan has ended with two classes `a` (seen first) and `b` and their
counts; the result is `(a, b)` with `a` coded `+1`, or the flipped pair and coding when `a` is strictly rarer -/
theorem labelClasses_ok {α} [Neg α] [Mul α] [OfNat α 1] (y : List C) (r : BinLabels C α)
    (h : labelClasses y = .ok r) :
    ∃ a na b nb, ScanInv y (some (a, na), some (b, nb)) ∧
      ((na < nb ∧ r = ⟨b, a, (y.map fun x => if x = a then (1 : α) else -1).map (· * (-1))⟩) ∨
        (¬ na < nb ∧ r = ⟨a, b, y.map fun x => if x = a then (1 : α) else -1⟩)) := by
  unfold labelClasses at h
  cases hs : binScan (none, none) y with
  | none => simp [hs] at h
  | some st =>
    have hinv := binScan_inv y [] (none, none) st hs rfl
    rw [List.nil_append] at hinv
    obtain ⟨_ | ⟨a, na⟩, _ | ⟨b, nb⟩⟩ := st
    · simp [hs] at h
    · simp [hs] at h
    · simp [hs] at h
    · refine ⟨a, na, b, nb, hinv, ?_⟩
      simp only [hs] at h
      by_cases hlt : na < nb
      · rw [if_pos hlt, Except.ok.injEq] at h
        exact Or.inl ⟨hlt, h.symm⟩
      · rw [if_neg hlt, Except.ok.injEq] at h
        exact Or.inr ⟨hlt, h.symm⟩

theorem mem_dedupAdj (l : List C) (x : C) : x ∈ dedupAdj l ↔ x ∈ l := by
  fun_induction dedupAdj l with
  | case1 => simp
  | case2 a => simp
  | case3 b rest ih =>
    rw [ih]; simp
  | case4 a b rest hab ih =>
    simp only [List.mem_cons] at ih ⊢
    rw [ih]

end Labels

section Multi
variable {C : Type} [LinearOrder C]

theorem pairwise_dedupAdj (l : List C) (h : l.Pairwise (· ≤ ·)) : (dedupAdj l).Pairwise (· < ·) := by
  fun_induction dedupAdj l with
  | case1 => simp
  | case2 a => simp
  | case3 b rest ih =>
    exact ih (List.Pairwise.of_cons h)
  | case4 a b rest hab ih =>
    rw [List.pairwise_cons] at h ⊢
    refine ⟨?_, ih h.2⟩
    intro x hx
    rw [mem_dedupAdj] at hx
    have hb : a ≤ b := h.1 b (by simp)
    have hlt : a < b := lt_of_le_of_ne hb hab
    rcases List.mem_cons.mp hx with e | e
    · subst e; exact hlt
    · have := (List.pairwise_cons.mp h.2).1 x e
      exact lt_of_lt_of_le hlt this

theorem classesOf_pairwise (y : List C) : (classesOf y).Pairwise (· < ·) := by
  unfold classesOf
  apply pairwise_dedupAdj
  have := List.pairwise_mergeSort (le := fun a b : C => decide (a ≤ b))
    (by intro a b c; simp only [decide_eq_true_eq]; exact le_trans)
    (by intro a b; simp only [Bool.or_eq_true, decide_eq_true_eq]; exact le_total a b) y
  simpa using this

theorem mem_classesOf (y : List C) (x : C) : x ∈ classesOf y ↔ x ∈ y := by
  unfold classesOf
  rw [mem_dedupAdj, List.mem_mergeSort]

end Multi
end LinfaSpec.Logistic
