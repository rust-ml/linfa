import LinfaSpec.Proofs.Scaling
import Mathlib.Algebra.BigOperators.Ring.Finset
import Mathlib.Algebra.BigOperators.Group.Finset.Sigma

/-!
Matrix algebra over list-of-lists for the whitening theorem of C16:
the sample covariance of `whitenTransform mean W X` is `W · cov(X) · Wᵀ`, entry by entry.
Sums over the feature index are `Finset.range p` sums, sums over the rows stay list sums
(exchanged by induction on the rows).  Then the PCA branch of `Whitener::fit`: for the matrix `pcaAssemble`
builds from an SVD of the centred records, `W · cov(X) · Wᵀ` is diagonal (`orth_sandwich`, `pca_WSWt`).
The sums, the entries of a whitened row and `orth_sandwich` need a field only and come first.
-/
namespace LinfaSpec.Proofs.Scaling
open LinfaSpec LinfaSpec.Scaling

/-! ### sums and matrix algebra that need no order -/

/-- the certificates of the whitening theorems quantify as `∀ a b, a < m → b < n → _`; on concrete data they
are evaluated in the order `∀ a < m, ∀ b < n, _`, which is decidable -/
theorem forall_lt_lt {m n : Nat} {P : Nat → Nat → Prop} (h : ∀ a, a < m → ∀ b, b < n → P a b) :
    ∀ a b, a < m → b < n → P a b := fun a b ha hb => h a ha b hb

section field
variable {α : Type} [Field α]

theorem list_sum_eq_range (l : List α) : l.sum = ∑ i ∈ Finset.range l.length, l.getD i 0 := by
  induction l with
  | nil => rfl
  | cons x xs ih =>
    rw [List.length_cons, Finset.sum_range_succ', List.sum_cons, ih, add_comm]
    rfl

theorem dotS_eq_range (c w : List α) (p : Nat) (hc : c.length = p) (hw : w.length = p) :
    dotS c w = ∑ i ∈ Finset.range p, c.getD i 0 * w.getD i 0 := by
  unfold dotS
  rw [sumS_eq_sum, list_sum_eq_range, List.length_zipWith, hc, hw, min_self]
  refine Finset.sum_congr rfl fun i hi => ?_
  have hi' : i < p := Finset.mem_range.mp hi
  exact getD_zipWith_of_lt _ (hc ▸ hi') (hw ▸ hi') 0 0 0

theorem list_sum_finset_comm {ι : Type} (rows : List ι) (s : Finset Nat) (f : ι → Nat → α) :
    (rows.map fun r => ∑ i ∈ s, f r i).sum = ∑ i ∈ s, (rows.map fun r => f r i).sum := by
  induction rows with
  | nil => simp
  | cons r rs ih => simp only [List.map_cons, List.sum_cons, ih, Finset.sum_add_distrib]

/-- entry `(a, i)` of a matrix given as a list of rows -/
def wE (W : List (List α)) (a i : Nat) : α := (W.getD a []).getD i 0

theorem whitenRow_getD (p : Nat) (mean : List α) (W : List (List α)) (r : List α)
    (hm : mean.length = p) (hr : r.length = p) (hW : ∀ w ∈ W, w.length = p) (a : Nat)
    (ha : a < W.length) :
    (whitenRow mean W r).getD a 0 =
      ∑ i ∈ Finset.range p, (r.getD i 0 - mean.getD i 0) * wE W a i := by
  unfold whitenRow wE
  rw [List.getD_eq_getElem?_getD, List.getElem?_map, List.getElem?_eq_getElem ha, Option.map_some,
    Option.getD_some, List.getD_eq_getElem?_getD (l := W), List.getElem?_eq_getElem ha, Option.getD_some,
    dotS_eq_range _ _ p (by rw [List.length_zipWith, hr, hm, min_self]) (hW _ (List.getElem_mem ha))]
  refine Finset.sum_congr rfl fun i hi => ?_
  have hi' : i < p := Finset.mem_range.mp hi
  rw [getD_zipWith_of_lt _ (hr ▸ hi') (hm ▸ hi') 0 0 0]

theorem whitenRow_fitted_getD (p : Nat) (rows W : List (List α))
    (hrows : ∀ r ∈ rows, r.length = p) (hW : ∀ w ∈ W, w.length = p) (a : Nat) (ha : a < W.length)
    (r : List α) (hr : r ∈ rows) :
    (whitenRow ((cols p rows).map meanCol) W r).getD a 0 =
      ∑ i ∈ Finset.range p, (r.getD i 0 - meanCol (col rows i)) * wE W a i := by
  rw [whitenRow_getD p _ W r (by rw [List.length_map, cols_length]) (hrows r hr) hW a ha]
  refine Finset.sum_congr rfl fun i hi => ?_
  rw [getD_cols_map meanCol p rows i (Finset.mem_range.mp hi)]

theorem getD_map_zero (l : List α) (g : α → α) (hg : g 0 = 0) (i : Nat) :
    (l.map g).getD i 0 = g (l.getD i 0) := by
  simp only [List.getD_eq_getElem?_getD, List.getElem?_map]
  cases h : l[i]? <;> simp [hg]

/-- `W G Wᵀ = diag(f² D)` entry by entry, for `W = diag(f) V` with the rows of the `q × p` matrix `v`
orthonormal and `G = Vᵀ D V` with `D` diagonal -/
theorem orth_sandwich (p q : Nat) (v G : Nat → Nat → α) (f D : Nat → α)
    (hG : ∀ i j, i < p → j < p → G i j = ∑ k ∈ Finset.range q, v k i * D k * v k j)
    (horth : ∀ a b, a < q → b < q →
      ∑ i ∈ Finset.range p, v a i * v b i = if a = b then 1 else 0)
    (a b : Nat) (ha : a < q) (hb : b < q) :
    ∑ i ∈ Finset.range p, ∑ j ∈ Finset.range p, v a i * f a * G i j * (v b j * f b) =
      if a = b then f a * f a * D a else 0 := by
  -- for fixed `k` the double sum over `i, j` factors into two inner products of rows
  have hk : ∀ k ∈ Finset.range q,
      ∑ i ∈ Finset.range p, ∑ j ∈ Finset.range p,
          v a i * f a * (v k i * D k * v k j) * (v b j * f b) =
        f a * f b * D k * ((if a = k then 1 else 0) * (if k = b then 1 else 0)) := by
    intro k hk
    rw [← horth a k ha (Finset.mem_range.mp hk), ← horth k b (Finset.mem_range.mp hk) hb,
      Finset.sum_mul_sum, Finset.mul_sum]
    refine Finset.sum_congr rfl fun i _ => ?_
    rw [Finset.mul_sum]
    exact Finset.sum_congr rfl fun j _ => by ring
  rw [Finset.sum_congr rfl fun i hi => Finset.sum_congr rfl fun j hj => by
    rw [hG i j (Finset.mem_range.mp hi) (Finset.mem_range.mp hj)]]
  -- the sum over `k` comes from the innermost to the outermost position
  have hswap : ∑ i ∈ Finset.range p, ∑ j ∈ Finset.range p,
        v a i * f a * (∑ k ∈ Finset.range q, v k i * D k * v k j) * (v b j * f b) =
      ∑ k ∈ Finset.range q, ∑ i ∈ Finset.range p, ∑ j ∈ Finset.range p,
        v a i * f a * (v k i * D k * v k j) * (v b j * f b) := by
    simp only [Finset.mul_sum, Finset.sum_mul]
    exact (Finset.sum_congr rfl fun i _ => Finset.sum_comm).trans Finset.sum_comm
  rw [hswap, Finset.sum_congr rfl hk]
  -- only `k = a` contributes
  rw [Finset.sum_eq_single_of_mem a (Finset.mem_range.mpr ha)
    fun k _ hka => by rw [if_neg (Ne.symm hka), zero_mul, mul_zero]]
  by_cases hab : a = b
  · subst hab; rw [if_pos rfl, if_pos rfl, one_mul, mul_one]
  · rw [if_neg hab, if_neg hab, mul_zero, mul_zero]

end field

/-! ### covariance of the whitened training data -/

variable {α : Type} [Field α] [LinearOrder α] [IsStrictOrderedRing α]

/-- sample covariance (divisor `n - 1`) between columns `a` and `b` of a record matrix -/
def covE (rows : List (List α)) (a b : Nat) : α :=
  (rows.map fun r => (r.getD a 0 - meanCol (col rows a)) * (r.getD b 0 - meanCol (col rows b))).sum /
    ((rows.length : α) - 1)

theorem sum_centred_zero (l : List α) (h : l ≠ []) : (l.map fun x => x - meanCol l).sum = 0 := by
  have e : (l.map fun x => x - meanCol l) = l.map fun x => 1 * x + -meanCol l :=
    List.map_congr_left fun x _ => by rw [one_mul, sub_eq_add_neg]
  rw [e, sum_map_affine, one_mul, mul_neg, meanCol_eq, mul_div_cancel₀ _ (length_pos_cast h).ne',
    add_neg_cancel]

theorem meanCol_whitened_zero (p : Nat) (rows W : List (List α)) (hn : rows ≠ [])
    (hrows : ∀ r ∈ rows, r.length = p) (hW : ∀ w ∈ W, w.length = p) (a : Nat) (ha : a < W.length) :
    meanCol (col (whitenTransform ((cols p rows).map meanCol) W rows) a) = 0 := by
  unfold col whitenTransform
  rw [List.map_map, Function.comp_def,
    List.map_congr_left fun r hr => whitenRow_fitted_getD p rows W hrows hW a ha r hr, meanCol_eq,
    list_sum_finset_comm]
  refine div_eq_zero_iff.mpr (Or.inl (Finset.sum_eq_zero fun i _ => ?_))
  -- `Σ_r (r_i - μ_i) * W_ai`: the deviations of column `i` sum to zero
  have hc : (rows.map fun r => r.getD i 0 - meanCol (col rows i)) =
      (col rows i).map fun x => x - meanCol (col rows i) := by
    unfold col; rw [List.map_map]; rfl
  rw [List.sum_map_mul_right, hc, sum_centred_zero _ (col_ne_nil_of hn i), zero_mul]

theorem covE_whitened (p : Nat) (rows W : List (List α)) (hn : rows ≠ [])
    (hrows : ∀ r ∈ rows, r.length = p) (hW : ∀ w ∈ W, w.length = p) (a b : Nat)
    (ha : a < W.length) (hb : b < W.length) :
    covE (whitenTransform ((cols p rows).map meanCol) W rows) a b =
      ∑ i ∈ Finset.range p, ∑ j ∈ Finset.range p, wE W a i * covE rows i j * wE W b j := by
  unfold covE
  rw [meanCol_whitened_zero p rows W hn hrows hW a ha, meanCol_whitened_zero p rows W hn hrows hW b hb,
    whitenTransform, List.map_map, List.length_map]
  -- the product of two entries of a whitened row, as a double sum over the features
  rw [List.map_congr_left (g := fun r => ∑ i ∈ Finset.range p, ∑ j ∈ Finset.range p,
      wE W a i * wE W b j *
        ((r.getD i 0 - meanCol (col rows i)) * (r.getD j 0 - meanCol (col rows j)))) fun r hr => by
    simp only [Function.comp_def, sub_zero]
    rw [whitenRow_fitted_getD p rows W hrows hW a ha r hr,
      whitenRow_fitted_getD p rows W hrows hW b hb r hr, Finset.sum_mul_sum]
    exact Finset.sum_congr rfl fun i _ => Finset.sum_congr rfl fun j _ => by ring]
  -- exchange the sum over the rows with the sums over the features
  rw [div_eq_mul_inv, list_sum_finset_comm, Finset.sum_mul]
  refine Finset.sum_congr rfl fun i _ => ?_
  rw [list_sum_finset_comm, Finset.sum_mul]
  refine Finset.sum_congr rfl fun j _ => ?_
  rw [List.sum_map_mul_left, div_eq_mul_inv]
  ring

/-! ### the PCA branch of `Whitener::fit`: what `pcaAssemble` makes of the SVD of the centred data -/

section pca
variable [Transc α]
-- `pcaAssemble_entry` and `pca_WSWt` state binders their proofs do not use
set_option linter.unusedSectionVars false
set_option linter.unusedVariables false

/-- entry `(a, i)` of the PCA whitening matrix: `Vᵀ[a][i] * (sqrt(n-1) / max(s_a, floor))` -/
theorem pcaAssemble_entry (floor : α) (n : Nat) (s : List α) (vt : List (List α)) (a i : Nat)
    (ha : a < vt.length) (hs : s.length = vt.length) :
    wE (pcaAssemble floor n s vt) a i =
      wE vt a i * (Transc.sqrt (((n - 1 : Nat)) : α) / maxS (s.getD a 0) floor) := by
  unfold wE pcaAssemble
  rw [getD_zipWith_of_lt _ ha (hs ▸ ha) [] 0 []]
  exact getD_map_zero _ (· * _) (zero_mul _) i

theorem pcaAssemble_length (floor : α) (n : Nat) (s : List α) (vt : List (List α)) (hs : s.length = vt.length) :
    (pcaAssemble floor n s vt).length = vt.length := by
  unfold pcaAssemble; rw [List.length_zipWith, hs, min_self]

theorem pcaAssemble_row_length (floor : α) (n : Nat) (s : List α) (vt : List (List α)) (p : Nat)
    (hvt : ∀ w ∈ vt, w.length = p) : ∀ w ∈ pcaAssemble floor n s vt, w.length = p := by
  intro w hw
  unfold pcaAssemble at hw
  obtain ⟨i, hi, rfl⟩ := List.getElem_of_mem hw
  simp only [List.getElem_zipWith, List.length_map]
  exact hvt _ (List.getElem_mem _)

/-- **what the PCA branch delivers**, from the contract of the SVD of the centred data (Gram identity
`(X-μ)ᵀ(X-μ) = V diag(s²) Vᵀ`, orthonormal rows of `Vᵀ`): `W cov(X) Wᵀ` is diagonal with entries
`s_a² / max(s_a, floor)²`. -/
theorem pca_WSWt (hsq : SqrtContract α) (floor : α) (hf : 0 < floor) (p : Nat) (rows : List (List α))
    (s : List α) (vt : List (List α)) (h2 : 2 ≤ rows.length) (hs : s.length = vt.length)
    (hgram : ∀ i j, i < p → j < p →
      (rows.map fun r => (r.getD i 0 - meanCol (col rows i)) * (r.getD j 0 - meanCol (col rows j))).sum =
        ∑ k ∈ Finset.range vt.length, wE vt k i * (s.getD k 0 * s.getD k 0) * wE vt k j)
    (horth : ∀ a b, a < vt.length → b < vt.length →
      ∑ i ∈ Finset.range p, wE vt a i * wE vt b i = if a = b then 1 else 0)
    (a b : Nat) (ha : a < vt.length) (hb : b < vt.length) :
    ∑ i ∈ Finset.range p, ∑ j ∈ Finset.range p,
        wE (pcaAssemble floor rows.length s vt) a i * covE rows i j *
          wE (pcaAssemble floor rows.length s vt) b j =
      if a = b then (s.getD a 0 * s.getD a 0) / (maxS (s.getD a 0) floor * maxS (s.getD a 0) floor) else 0 := by
  have hm : ((rows.length : α) - 1) = ((rows.length - 1 : Nat) : α) := by
    rw [Nat.cast_sub (by omega), Nat.cast_one]
  have hmpos : (0 : α) < ((rows.length - 1 : Nat) : α) := Nat.cast_pos.mpr (by omega)
  have hcc := (hsq _ hmpos.le).1
  generalize hcdef : Transc.sqrt (((rows.length - 1 : Nat)) : α) = c at hcc
  generalize ((rows.length - 1 : Nat) : α) = m at hcc hmpos hm
  have hG : ∀ i j, i < p → j < p → covE rows i j =
      ∑ k ∈ Finset.range vt.length, wE vt k i * (s.getD k 0 * s.getD k 0 / m) * wE vt k j := by
    intro i j hi hj
    rw [covE, hgram i j hi hj, hm, div_eq_mul_inv, Finset.sum_mul]
    exact Finset.sum_congr rfl fun k _ => by ring
  simp only [fun i => pcaAssemble_entry floor rows.length s vt a i ha hs,
    fun j => pcaAssemble_entry floor rows.length s vt b j hb hs, hcdef]
  rw [orth_sandwich p vt.length (wE vt) (covE rows) (fun k => c / maxS (s.getD k 0) floor) _ hG horth
    a b ha hb]
  by_cases hab : a = b
  · rw [if_pos hab, if_pos hab, div_mul_div_comm, hcc, div_mul_div_comm, mul_comm m,
      mul_div_mul_right _ _ hmpos.ne']
  · rw [if_neg hab, if_neg hab]

end pca

end LinfaSpec.Proofs.Scaling
