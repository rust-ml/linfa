/-
Helper lemmas for C11.  Over a field: what the model's list sums / dot kernels compute, and list linear
algebra (bilinearity, adjoint of `matVec`, residuals).  Over an ordered field: Hölder ∞/1, the scalar
inequalities behind weak duality and the coordinate update, and the residual invariant of
coordinate descent.
-/
import LinfaSpec.Model.LeastSquares
import LinfaSpec.Proofs.Scalar
import Mathlib.Tactic.Ring
import Mathlib.Tactic.Linarith
import Mathlib.Tactic.LinearCombination
import Mathlib.Algebra.Order.Field.Basic
import Mathlib.Algebra.Order.Ring.Abs

namespace LinfaSpec.LeastSquares
open LinfaSpec

variable {α : Type} [Field α] [LinearOrder α] [IsStrictOrderedRing α]

/-- the mathematical dot product the kernels compute -/
def dot (a b : List α) : α := (List.zipWith (· * ·) a b).sum

section
set_option linter.unusedSectionVars false
theorem dotS_eq (a b : List α) : dotS a b = dot a b := by
  unfold dotS dot; rw [sumS_eq_sum]
end

section field
omit [LinearOrder α] [IsStrictOrderedRing α]

theorem sumU8_eq (l : List α) (p0 p1 p2 p3 p4 p5 p6 p7 : α) :
    sumU8 l p0 p1 p2 p3 p4 p5 p6 p7 = (p0 + p1 + p2 + p3 + p4 + p5 + p6 + p7) + l.sum := by
  fun_induction sumU8 l p0 p1 p2 p3 p4 p5 p6 p7 with
  | case1 x0 x1 x2 x3 x4 x5 x6 x7 xs p0 p1 p2 p3 p4 p5 p6 p7 ih =>
    rw [ih]; simp only [List.sum_cons]; ring
  | case2 xs p0 p1 p2 p3 p4 p5 p6 p7 _ =>
    rw [foldl_add_eq]; ring

theorem sumU_eq (l : List α) : sumU l = l.sum := by
  unfold sumU; rw [sumU8_eq]; simp

theorem dotU_eq (a b : List α) : dotU a b = dot a b := by
  unfold dotU dot; rw [sumU_eq]

theorem dotC_eq (c : Bool) (a b : List α) : dotC c a b = dot a b := by
  unfold dotC; split
  · exact dotU_eq a b
  · unfold dotS dot; rw [sumS_eq_sum]

theorem half_eq : (half : α) = 1 / 2 := by
  unfold half; norm_num

@[simp] theorem dot_nil_left (b : List α) : dot [] b = 0 := by simp [dot]
@[simp] theorem dot_nil_right (a : List α) : dot a [] = 0 := by simp [dot]
@[simp] theorem dot_cons (x : α) (xs : List α) (y : α) (ys : List α) :
    dot (x :: xs) (y :: ys) = x * y + dot xs ys := by simp [dot]

theorem dot_comm (a b : List α) : dot a b = dot b a := by
  induction a generalizing b with
  | nil => simp
  | cons x xs ih => cases b with
    | nil => simp
    | cons y ys => simp [ih ys, mul_comm]

theorem dot_add_right (r a b : List α) (h : a.length = b.length) :
    dot r (List.zipWith (· + ·) a b) = dot r a + dot r b := by
  induction r generalizing a b with
  | nil => simp
  | cons x xs ih =>
    cases a with
    | nil => cases b with
      | nil => simp
      | cons _ _ => simp at h
    | cons p ps => cases b with
      | nil => simp at h
      | cons q qs =>
        simp only [List.zipWith_cons_cons, dot_cons]
        rw [ih ps qs (by simpa using h)]; ring

theorem dot_smul_right (k : α) (r a : List α) : dot r (a.map (k * ·)) = k * dot r a := by
  induction r generalizing a with
  | nil => simp
  | cons x xs ih => cases a with
    | nil => simp
    | cons p ps => simp only [List.map_cons, dot_cons, ih ps]; ring

theorem dot_replicate_zero (r : List α) (n : Nat) : dot r (List.replicate n 0) = 0 := by
  induction r generalizing n with
  | nil => simp
  | cons x xs ih => cases n with
    | zero => simp
    | succ m => simp [List.replicate_succ, ih m]

theorem dot_map_mul_right (x : List α) (s : α) : dot x (x.map (· * s)) = s * dot x x := by
  induction x with
  | nil => simp
  | cons a as ih => simp only [List.map_cons, dot_cons, ih]; ring

theorem dot_map_mul_self (x : List α) (s : α) : dot (x.map (· * s)) (x.map (· * s)) = s ^ 2 * dot x x := by
  induction x with
  | nil => simp
  | cons a as ih => simp only [List.map_cons, dot_cons, ih]; ring

theorem dot_map_sub_self (v : List α) (b : α) :
    dot (v.map (· - b)) (v.map (· - b)) = dot v v - 2 * b * v.sum + (v.length : α) * b ^ 2 := by
  induction v with
  | nil => simp
  | cons x xs ih =>
    simp only [List.map_cons, dot_cons, List.sum_cons, List.length_cons, Nat.cast_succ]
    rw [ih]; ring

theorem sum_map_sub (y : List α) (m : α) : (y.map (· - m)).sum = y.sum - (y.length : α) * m := by
  induction y with
  | nil => simp
  | cons p ps ih => simp only [List.map_cons, List.sum_cons, List.length_cons, Nat.cast_succ, ih]; ring

theorem matVec_length (n : Nat) (C : List (List α)) (w : List α) (hC : ∀ c ∈ C, c.length = n) :
    (matVec n C w).length = n := by
  induction C generalizing w with
  | nil => simp [matVec]
  | cons c C ih => cases w with
    | nil => simp [matVec]
    | cons wj w =>
      simp only [matVec, List.length_zipWith, List.length_map]
      rw [ih w (fun c' h => hC c' (List.mem_cons_of_mem _ h)), hC c (List.mem_cons_self)]
      simp

/-- adjoint identity `r · (X w) = (Xᵀ r) · w`; `matVec` and `zipWith` stop at the shorter of `C`, `w` alike -/
theorem dot_matVec_zipWith (n : Nat) (C : List (List α)) (w r : List α) (hC : ∀ c ∈ C, c.length = n) :
    dot r (matVec n C w) = (List.zipWith (fun c wj => dot c r * wj) C w).sum := by
  induction C generalizing w with
  | nil => simp [matVec, dot_replicate_zero]
  | cons c C ih => cases w with
    | nil => simp [matVec, dot_replicate_zero]
    | cons wj w =>
      have hC' : ∀ c' ∈ C, c'.length = n := fun c' h => hC c' (List.mem_cons_of_mem _ h)
      simp only [matVec, List.zipWith_cons_cons, List.sum_cons]
      rw [dot_add_right _ _ _ (by rw [matVec_length n C w hC', List.length_map, hC c List.mem_cons_self]),
        dot_smul_right, ih w hC', dot_comm r c]
      ring

theorem dot_replicate_one (l : List α) (n : Nat) (h : l.length = n) : dot l (List.replicate n 1) = l.sum := by
  subst h
  induction l with
  | nil => simp
  | cons x xs ih => simp [List.replicate_succ, ih]

theorem dot_zipWith_sub (b : α) (r y a : List α) (h : y.length = a.length) (hr : r.length = y.length) :
    dot r (List.zipWith (fun yi xi => yi - xi - b) y a) = dot r y - dot r a - b * r.sum := by
  induction r generalizing y a with
  | nil => simp
  | cons x xs ih => cases y with
    | nil => simp at hr
    | cons p ps => cases a with
      | nil => simp at h
      | cons q qs =>
        simp only [List.zipWith_cons_cons, dot_cons, List.sum_cons]
        rw [ih ps qs (by simpa using h) (by simpa using hr)]; ring

theorem residual_length (C : List (List α)) (y w : List α) (b : α) (hC : ∀ c ∈ C, c.length = y.length) :
    (residual C y w b).length = y.length := by
  simp [residual, matVec_length _ _ _ hC]

theorem residual_zero_eq (C : List (List α)) (y w : List α) :
    residual C y w 0 = List.zipWith (fun yi xi => yi - xi) y (matVec y.length C w) := by
  simp [residual]

theorem residual_shift (C : List (List α)) (y w : List α) (b : α) :
    residual C y w b = (residual C y w 0).map (· - b) := by
  simp [residual, List.map_zipWith]

theorem residual_centre (C : List (List α)) (y w : List α) (m b : α) :
    residual C y w b = (residual C (y.map (· - m)) w 0).map (· - (b - m)) := by
  simp only [residual, List.length_map, List.map_zipWith, List.zipWith_map_left]
  congr 1; funext yi xi; ring

/-- `r · (y − Xw − b) = r·y − (Xᵀr)·w − b·Σr`: how every certificate below reads a residual -/
theorem dot_residual (C : List (List α)) (y w r : List α) (b : α) (hC : ∀ c ∈ C, c.length = y.length)
    (hr : r.length = y.length) :
    dot r (residual C y w b)
      = dot r y - (List.zipWith (fun c wj => dot c r * wj) C w).sum - b * r.sum := by
  unfold residual
  rw [dot_zipWith_sub b r y _ (matVec_length _ _ _ hC).symm hr, dot_matVec_zipWith _ C w r hC]

theorem forall_mem_zipWith {β γ δ : Type} (f : β → γ → δ) (P : δ → Prop) (l1 : List β) (l2 : List γ)
    (h : ∀ p ∈ List.zip l1 l2, P (f p.1 p.2)) : ∀ x ∈ List.zipWith f l1 l2, P x := by
  intro x hx
  rw [← List.map_uncurry_zip_eq_zipWith] at hx
  obtain ⟨p, hp, rfl⟩ := List.mem_map.mp hx
  exact h p hp

theorem sum_zipWith_zero (C : List (List α)) (r w : List α) (h : ∀ c ∈ C, dot c r = 0) :
    (List.zipWith (fun c wj => dot c r * wj) C w).sum = 0 := by
  induction C generalizing w with
  | nil => simp
  | cons c C ih => cases w with
    | nil => simp
    | cons wj w =>
      simp only [List.zipWith_cons_cons, List.sum_cons]
      rw [ih w (fun c' hc => h c' (List.mem_cons_of_mem _ hc)), h c List.mem_cons_self]; ring

theorem sq_residual_intercept (C : List (List α)) (y w : List α) (b : α) (hC : ∀ c ∈ C, c.length = y.length) :
    dot (residual C y w b) (residual C y w b)
      = dot (residual C y w 0) (residual C y w 0) - 2 * b * (residual C y w 0).sum + (y.length : α) * b ^ 2 := by
  rw [residual_shift, dot_map_sub_self, residual_length C y w 0 hC]

theorem zipWith_add_assoc (a b c : List α) (h1 : a.length = b.length) (h2 : b.length = c.length) :
    List.zipWith (· + ·) a (List.zipWith (· + ·) b c) = List.zipWith (· + ·) (List.zipWith (· + ·) a b) c := by
  apply List.ext_getElem (by simp [h1, h2])
  intro i h _
  simp [add_assoc]

theorem matVec_replicate_zero (n : Nat) (C : List (List α)) (hC : ∀ c ∈ C, c.length = n) :
    matVec n C (List.replicate C.length 0) = List.replicate n 0 := by
  induction C with
  | nil => simp [matVec]
  | cons c C ih =>
    have hc : c.length = n := hC c (by simp)
    have hC' : ∀ c ∈ C, c.length = n := fun c hc => hC c (by simp [hc])
    simp only [List.length_cons, List.replicate_succ, matVec, ih hC']
    apply List.ext_getElem (by simp [hc])
    intro i h _
    simp

theorem residual_zero_start (C : List (List α)) (y : List α) (hC : ∀ c ∈ C, c.length = y.length) :
    residual C y (List.replicate C.length 0) 0 = y := by
  unfold residual
  rw [matVec_replicate_zero _ C hC]
  apply List.ext_getElem (by simp)
  intro i h _
  simp

end field

theorem absS_nonpos_iff (x : α) : absS x ≤ 0 ↔ x = 0 := by rw [absS_eq_abs, abs_nonpos_iff]

theorem normL1_eq (w : List α) : normL1 w = (w.map fun x => |x|).sum := by
  unfold normL1; rw [sumS_eq_sum, funext absS_eq_abs]

theorem dot_self_nonneg (a : List α) : 0 ≤ dot a a := by
  induction a with
  | nil => simp
  | cons x xs ih => rw [dot_cons]; exact add_nonneg (mul_self_nonneg x) ih

/-- `‖s·a + t·b‖² ≥ 0` written out; the lists need not be equally long.  Cauchy–Schwarz and the completed
square `half_sq_ge` behind weak duality are both read off this form. -/
theorem dot_quad_nonneg (a b : List α) (s t : α) :
    0 ≤ s ^ 2 * dot a a + 2 * s * t * dot a b + t ^ 2 * dot b b := by
  induction a generalizing b with
  | nil =>
    rw [dot_nil_left, dot_nil_left, mul_zero, mul_zero, zero_add, zero_add]
    exact mul_nonneg (sq_nonneg t) (dot_self_nonneg b)
  | cons x xs ih => cases b with
    | nil =>
      rw [dot_nil_right, dot_nil_right, mul_zero, mul_zero, add_zero, add_zero]
      exact mul_nonneg (sq_nonneg s) (dot_self_nonneg _)
    | cons y ys =>
      simp only [dot_cons]
      linear_combination ih ys + sq_nonneg (s * x + t * y)

section
set_option linter.unusedVariables false
theorem half_sq_ge (c : α) (u r : List α) (h : u.length = r.length) :
    c * dot r u - 1 / 2 * c ^ 2 * dot r r ≤ 1 / 2 * dot u u := by
  rw [dot_comm r u]
  linear_combination 1 / 2 * dot_quad_nonneg u r 1 (-c)
end

section
set_option linter.unusedSectionVars false
set_option linter.unusedVariables false
theorem dot_matVec (n : Nat) (C : List (List α)) (w r : List α) (hC : ∀ c ∈ C, c.length = n)
    (hw : w.length = C.length) :
    dot r (matVec n C w) = (List.zipWith (fun c wj => dot c r * wj) C w).sum :=
  dot_matVec_zipWith n C w r hC
end

theorem le_foldl_normMax (v : List α) (acc : α) :
    acc ≤ v.foldl (fun f x => maxS (absS x) f) acc ∧
      ∀ x ∈ v, |x| ≤ v.foldl (fun f x => maxS (absS x) f) acc := by
  induction v generalizing acc with
  | nil => simp
  | cons y ys ih =>
    simp only [List.foldl_cons, List.mem_cons]
    obtain ⟨h1, h2⟩ := ih (maxS (absS y) acc)
    rw [maxS_eq_max, absS_eq_abs] at h1 h2 ⊢
    refine ⟨le_trans (le_max_right _ _) h1, ?_⟩
    rintro x (rfl | hx)
    · exact le_trans (le_max_left _ _) h1
    · exact h2 x hx

theorem le_normMax (v : List α) : ∀ x ∈ v, |x| ≤ normMax v := (le_foldl_normMax v 0).2
theorem normMax_nonneg (v : List α) : 0 ≤ normMax v := (le_foldl_normMax v 0).1

theorem normMax_le (v : List α) (M : α) (hM0 : 0 ≤ M) (hM : ∀ x ∈ v, |x| ≤ M) : normMax v ≤ M := by
  unfold normMax
  suffices h : ∀ acc, acc ≤ M → v.foldl (fun f x => maxS (absS x) f) acc ≤ M from h 0 hM0
  induction v with
  | nil => intro acc h; simpa using h
  | cons y ys ih =>
    intro acc h
    simp only [List.foldl_cons]
    apply ih (fun x hx => hM x (List.mem_cons_of_mem _ hx))
    rw [maxS_eq_max, absS_eq_abs]
    exact max_le (hM y List.mem_cons_self) h

theorem sum_map_nonneg {γ : Type} (g : γ → α) (hg : ∀ b, 0 ≤ g b) (B : List γ) : 0 ≤ (B.map g).sum := by
  induction B with
  | nil => simp
  | cons b B ih => rw [List.map_cons, List.sum_cons]; exact add_nonneg (hg b) ih

/-- Hölder for a pairing `f` bounded by `M` times a gauge `g` of its second argument: the ∞/1 pair on numbers
(`f = (· * ·)`, `g = |·|`) and the (max row norm, sum of row norms) pair on matrices (`f = dot`, `g = ‖·‖₂`) -/
theorem sum_zipWith_le_mul_sum {β γ : Type} (f : β → γ → α) (g : γ → α) (M : α) (hM : 0 ≤ M)
    (hg : ∀ b, 0 ≤ g b) (A : List β) (B : List γ) (h : ∀ a ∈ A, ∀ b, f a b ≤ M * g b) :
    (List.zipWith f A B).sum ≤ M * (B.map g).sum := by
  induction A generalizing B with
  | nil => exact mul_nonneg hM (sum_map_nonneg g hg B)
  | cons a A ih => cases B with
    | nil => simp
    | cons b B =>
      simp only [List.zipWith_cons_cons, List.sum_cons, List.map_cons, mul_add]
      exact add_le_add (h a List.mem_cons_self b) (ih B fun a' ha' => h a' (List.mem_cons_of_mem _ ha'))

theorem holder (a b : List α) (M : α) (hM0 : 0 ≤ M) (hM : ∀ x ∈ a, |x| ≤ M) :
    dot a b ≤ M * (b.map fun x => |x|).sum :=
  sum_zipWith_le_mul_sum (· * ·) (fun x => |x|) M hM0 abs_nonneg a b fun x hx y =>
    (le_abs_self _).trans ((abs_mul x y).le.trans (mul_le_mul_of_nonneg_right (hM x hx) (abs_nonneg y)))

section
set_option linter.unusedSectionVars false
/-- `(Xᵀr − l2 w) · w' = (Xᵀr)·w' − l2 (w·w')` -/
theorem xta_dot (C : List (List α)) (r w w' : List α) (l2 : α) (hw : w.length = C.length)
    (hw' : w'.length = C.length) :
    (List.zipWith (· * ·) (List.zipWith (fun c wj => dot c r - wj * l2) C w) w').sum =
      (List.zipWith (fun c wj => dot c r * wj) C w').sum - l2 * dot w w' := by
  induction C generalizing w w' with
  | nil =>
    have : w = [] := List.length_eq_zero_iff.mp (by simpa using hw)
    subst this; simp
  | cons c C ih => cases w with
    | nil => simp at hw
    | cons wj w => cases w' with
      | nil => simp at hw'
      | cons vj w' =>
        simp only [List.zipWith_cons_cons, List.sum_cons, dot_cons]
        rw [ih w w' (by simpa using hw) (by simpa using hw')]; ring
end

/-- weak duality up to (not including) Hölder, for one task: two completed squares, one in the residual and
one in the coefficients -/
theorem col_ineq (C : List (List α)) (y w w' r : List α) (l2 c : α)
    (hC : ∀ c ∈ C, c.length = y.length) (hw : w.length = C.length) (hw' : w'.length = C.length)
    (hr : r.length = y.length) (hl2 : 0 ≤ l2) :
    c * dot r y - 1 / 2 * c ^ 2 * dot r r - 1 / 2 * l2 * c ^ 2 * dot w w
        - c * dot (List.zipWith (fun cj wj => dot cj r - wj * l2) C w) w' ≤
      1 / 2 * dot (List.zipWith (fun yi xi => yi - xi) y (matVec y.length C w'))
          (List.zipWith (fun yi xi => yi - xi) y (matVec y.length C w'))
        + 1 / 2 * l2 * dot w' w' := by
  rw [← residual_zero_eq]
  have f1 := half_sq_ge c (residual C y w' 0) r (by rw [residual_length C y w' 0 hC, hr])
  rw [dot_residual C y w' r 0 hC hr] at f1
  have f2 := mul_le_mul_of_nonneg_left (half_sq_ge c w' w (by rw [hw, hw'])) hl2
  have f4 : dot (List.zipWith (fun cj wj => dot cj r - wj * l2) C w) w' = _ := xta_dot C r w w' l2 hw hw'
  rw [f4]
  linear_combination f1 + f2

/-- the last step of weak duality, shared by the single- and the multi-task form: Hölder gives
`X ≤ dn·N`, and the scaling keeps `c·dn ≤ l1` -/
theorem scaled_holder {c dn l1 X N : α} (hX : X ≤ dn * N) (hc : 0 ≤ c) (hcd : c * dn ≤ l1) (hN : 0 ≤ N) :
    c * X ≤ l1 * N :=
  calc c * X ≤ c * (dn * N) := mul_le_mul_of_nonneg_left hX hc
    _ = c * dn * N := (mul_assoc _ _ _).symm
    _ ≤ l1 * N := mul_le_mul_of_nonneg_right hcd hN

/-- **weak duality** for the elastic-net problem: for every scaling `c ≥ 0` of an arbitrary
vector `r` with `c·‖Xᵀr − l2 w‖_∞ ≤ l1`, the dual value is below the primal value at every `w'`. -/
theorem weak_duality (C : List (List α)) (y w w' r : List α) (l1 l2 c dn : α)
    (hC : ∀ c ∈ C, c.length = y.length) (hw : w.length = C.length) (hw' : w'.length = C.length)
    (hr : r.length = y.length) (hl2 : 0 ≤ l2) (hc : 0 ≤ c) (hcd : c * dn ≤ l1)
    (hdn0 : 0 ≤ dn)
    (hdn : ∀ x ∈ List.zipWith (fun cj wj => dot cj r - wj * l2) C w, |x| ≤ dn) :
    c * dot r y - 1 / 2 * c ^ 2 * dot r r - 1 / 2 * l2 * c ^ 2 * dot w w ≤
      1 / 2 * dot (residual C y w' 0) (residual C y w' 0)
        + l1 * (w'.map fun x => |x|).sum + 1 / 2 * l2 * dot w' w' := by
  have f := col_ineq C y w w' r l2 c hC hw hw' hr hl2
  rw [← residual_zero_eq] at f
  have f5 := scaled_holder (holder _ w' dn hdn0 hdn) hc hcd (sum_map_nonneg _ abs_nonneg w')
  linear_combination f + f5

/-- what both gap functions return, as a function of the scalars they compute first: `dn` the dual norm,
`rn = ‖R‖²`, `wn = ‖W‖²`, `ry = ⟨R, Y⟩`, `N` the l1 (group) norm of `W` -/
def gapValue (l1 l2 dn rn wn ry N : α) : α :=
  let cg : α × α :=
    if l1 < dn then
      let c := l1 / dn
      let an := rn * c * c
      (c, 1 / 2 * (rn + an))
    else (1, rn)
  cg.2 + (l1 * N - cg.1 * ry + 1 / 2 * l2 * (1 + cg.1 * cg.1) * wn)

theorem gapValue_of_le {l1 dn : α} (l2 rn wn ry N : α) (h : dn ≤ l1) :
    gapValue l1 l2 dn rn wn ry N = rn + (l1 * N - ry + l2 * wn) := by
  unfold gapValue
  rw [if_neg (not_lt.mpr h)]
  ring

/-- the gap is the primal value `½rn + l1·N + ½l2·wn` minus the dual value at the scaling `c = min(1, l1/dn)`
the code picks; so whatever all admissible dual values bound from below is within the gap of the primal value -/
theorem le_gapValue {l1 dn : α} (l2 rn wn ry N P' : α) (hl1 : 0 ≤ l1) (hdn : 0 ≤ dn)
    (hdual : ∀ c, 0 ≤ c → c * dn ≤ l1 → c * ry - 1 / 2 * c ^ 2 * rn - 1 / 2 * l2 * c ^ 2 * wn ≤ P') :
    1 / 2 * rn + l1 * N + 1 / 2 * l2 * wn - P' ≤ gapValue l1 l2 dn rn wn ry N := by
  unfold gapValue
  by_cases h : l1 < dn
  · rw [if_pos h]
    have key := hdual (l1 / dn) (div_nonneg hl1 hdn) (div_mul_cancel₀ _ (hl1.trans_lt h).ne').le
    linear_combination key
  · rw [if_neg h]
    have key := hdual 1 zero_le_one (by rw [one_mul]; exact not_lt.mp h)
    linear_combination key

theorem dualityGap_eq (contig : Bool) (C : List (List α)) (y w r : List α) (l1r pen n : α) :
    dualityGap contig C y w r l1r pen n
      = gapValue (l1r * pen * n) ((1 - l1r) * pen * n)
          (normMax (List.zipWith (fun c wj => dot c r - wj * ((1 - l1r) * pen * n)) C w))
          (dot r r) (dot w w) (dot r y) (w.map fun x => |x|).sum := by
  simp only [dualityGap, gapValue, dotC_eq, dotU_eq, half_eq, normL1_eq]

theorem objective_eq (C : List (List α)) (y w : List α) (b l1r pen n : α) :
    objective C y w b l1r pen n
      = 1 / 2 * dot (residual C y w b) (residual C y w b) + l1r * pen * n * (w.map fun x => |x|).sum
        + 1 / 2 * ((1 - l1r) * pen * n) * dot w w := by
  simp only [objective, penaltyTerm, dotS_eq, half_eq, normL1_eq, add_assoc]

/-- complementary slackness summed over the coordinates: `(Xᵀr)·w = l1‖w‖₁ + l2‖w‖²` -/
theorem kkt_sum (C : List (List α)) (r w : List α) (l1 l2 : α) (hw : w.length = C.length)
    (h : ∀ p ∈ List.zip C w, p.2 * (dot p.1 r - p.2 * l2) = l1 * |p.2|) :
    (List.zipWith (fun c wj => dot c r * wj) C w).sum = l1 * (w.map fun x => |x|).sum + l2 * dot w w := by
  induction C generalizing w with
  | nil =>
    have : w = [] := List.length_eq_zero_iff.mp (by simpa using hw)
    subst this; simp [dot]
  | cons c C ih => cases w with
    | nil => simp at hw
    | cons wj w =>
      have h0 : wj * (dot c r - wj * l2) = l1 * |wj| := h (c, wj) (by simp)
      have := ih w (by simpa using hw) (fun p hp => h p (by simp only [List.zip_cons_cons]; exact List.mem_cons_of_mem _ hp))
      simp only [List.zipWith_cons_cons, List.sum_cons, List.map_cons, dot_cons, this]
      linear_combination h0

/-- the normal equations in the coefficients alone: if `r = y − Xw − b` is orthogonal to every column, then
`‖r‖² + 2(b − b')·Σr ≤ ‖y − Xw' − b'‖²` for every `(w', b')`; the sum drops out when `Σr = 0` (intercept fitted)
or `b = b'` (no intercept) -/
theorem sq_residual_le_of_orth (C : List (List α)) (y w w' : List α) (b b' : α)
    (hC : ∀ c ∈ C, c.length = y.length) (horth : ∀ c ∈ C, dot c (residual C y w b) = 0) :
    dot (residual C y w b) (residual C y w b) + 2 * (b - b') * (residual C y w b).sum
      ≤ dot (residual C y w' b') (residual C y w' b') := by
  have hlen := residual_length C y w b hC
  have e1 := dot_residual C y w' (residual C y w b) b' hC hlen
  have e2 := dot_residual C y w (residual C y w b) b hC hlen
  rw [sum_zipWith_zero C _ _ horth] at e1 e2
  have h := half_sq_ge 1 (residual C y w' b') (residual C y w b) (by rw [residual_length C y w' b' hC, hlen])
  linear_combination 2 * h + 2 * e2 - 2 * e1

theorem parabola_min_iff (K n S b : α) (hn : 0 < n) :
    (∀ b', K - 2 * b * S + n * b ^ 2 ≤ K - 2 * b' * S + n * b' ^ 2) ↔ b = S / n := by
  obtain ⟨m, rfl⟩ : ∃ m, S = n * m := ⟨S / n, (mul_div_cancel₀ _ hn.ne').symm⟩
  rw [mul_div_cancel_left₀ _ hn.ne']
  constructor
  · intro h
    have h1 : n * (b - m) ^ 2 ≤ 0 := by linear_combination h m
    have h2 : (b - m) ^ 2 ≤ 0 := nonpos_of_mul_nonpos_right h1 hn
    exact sub_eq_zero.mp (pow_eq_zero_iff two_ne_zero |>.mp (le_antisymm h2 (sq_nonneg _)))
  · rintro rfl b'
    linear_combination mul_nonneg hn.le (sq_nonneg (b' - b))

theorem softThreshold_eq (tmp thr den : α) :
    softThreshold tmp thr den = (if tmp < 0 then -1 else 1) * max (|tmp| - thr) 0 / den := by
  unfold softThreshold signumS
  rw [maxS_eq_max, absS_eq_abs]

theorem soft_threshold_zero (tmp thr den : α) (h : |tmp| ≤ thr) : softThreshold tmp thr den = 0 := by
  rw [softThreshold_eq, max_eq_right (sub_nonpos.mpr h), mul_zero, zero_div]

theorem softThreshold_nonneg_arg (a thr den : α) (ha : 0 ≤ a) :
    softThreshold a thr den = max (a - thr) 0 / den := by
  rw [softThreshold_eq, if_neg (not_lt.mpr ha), abs_of_nonneg ha, one_mul]

/-- optimality from a subgradient: if `den·s = tmp − g` with `g ∈ thr·∂|s|` (that is `|g| ≤ thr` and
`g·s = thr·|s|`), then `s` minimises `z ↦ ½·den·z² − tmp·z + thr·|z|`; the difference of the two values is
`½·den·(z − s)² + (thr·|z| − g·z)` -/
theorem quad_abs_argmin (tmp thr den s g z : α) (hden : 0 ≤ den) (hg : |g| ≤ thr) (hgs : g * s = thr * |s|)
    (hk : den * s = tmp - g) :
    1 / 2 * den * s ^ 2 - tmp * s + thr * |s| ≤ 1 / 2 * den * z ^ 2 - tmp * z + thr * |z| := by
  have h1 : g * z ≤ thr * |z| :=
    (le_abs_self _).trans ((abs_mul g z).le.trans (mul_le_mul_of_nonneg_right hg (abs_nonneg z)))
  linear_combination 1 / 2 * mul_nonneg hden (sq_nonneg (z - s)) + h1 + (s - z) * hk - hgs

/-- the scalar problem solved by one coordinate update -/
theorem soft_threshold_argmin (tmp thr den z : α) (hthr : 0 ≤ thr) (hden : 0 < den) :
    1 / 2 * den * (softThreshold tmp thr den) ^ 2 - tmp * softThreshold tmp thr den
        + thr * |softThreshold tmp thr den|
      ≤ 1 / 2 * den * z ^ 2 - tmp * z + thr * |z| := by
  rcases le_or_gt |tmp| thr with h | h
  · -- below the threshold the update is `0`, with subgradient `g = tmp`
    rw [soft_threshold_zero tmp thr den h]
    exact quad_abs_argmin tmp thr den 0 tmp z hden.le h (by rw [mul_zero, abs_zero, mul_zero]) (by ring)
  · -- above it the update is `σ·(|tmp| − thr)/den` with `σ = sign tmp`, and `g = σ·thr`
    rw [softThreshold_eq, max_eq_left (sub_pos.mpr h).le]
    generalize hσ : (if tmp < 0 then (-1 : α) else 1) = σ
    have hσσ : σ * σ = 1 := by rw [← hσ]; split <;> norm_num
    have hσa : |σ| = 1 := by rw [← hσ]; split <;> norm_num
    have hσt : σ * tmp = |tmp| := by
      rw [← hσ]; split
      · rw [abs_of_neg ‹_›]; ring
      · rw [abs_of_nonneg (not_lt.mp ‹_›)]; ring
    have hs : |σ * (|tmp| - thr) / den| = (|tmp| - thr) / den := by
      rw [abs_div, abs_mul, hσa, one_mul, abs_of_pos (sub_pos.mpr h), abs_of_pos hden]
    refine quad_abs_argmin tmp thr den _ (σ * thr) z hden.le ?_ ?_ ?_
    · rw [abs_mul, hσa, one_mul, abs_of_nonneg hthr]
    · rw [hs]; linear_combination (thr * (|tmp| - thr) / den) * hσσ
    · rw [mul_div_cancel₀ _ hden.ne']; linear_combination tmp * hσσ - σ * hσt

/-- on centred columns the residual of the centred target sums to zero: read `Σ` as the product with the
all-ones vector, to which every column is orthogonal -/
theorem sum_residual_centred (C : List (List α)) (y w : List α) (hC : ∀ c ∈ C, c.length = y.length)
    (hy : 0 < y.length) (hcen : ∀ c ∈ C, c.sum = 0) :
    (residual C (y.map (· - y.sum / (y.length : α))) w 0).sum = 0 := by
  have hC' : ∀ c ∈ C, c.length = (y.map (· - y.sum / (y.length : α))).length := by
    simpa only [List.length_map] using hC
  have h := dot_residual C _ w (List.replicate (y.map (· - y.sum / (y.length : α))).length 1) 0 hC'
    List.length_replicate
  rw [sum_zipWith_zero C _ w fun c hc => by rw [dot_replicate_one c _ (hC' c hc), hcen c hc], dot_comm,
    dot_replicate_one _ _ (residual_length C _ w 0 hC'), dot_comm, dot_replicate_one _ _ rfl, sum_map_sub,
    mul_div_cancel₀ _ (Nat.cast_pos.mpr hy).ne'] at h
  rw [h]; ring

section
set_option linter.unusedSectionVars false
theorem sq_centre_eq (C : List (List α)) (y w : List α) (m : α) :
    dot (LeastSquares.residual C y w m) (LeastSquares.residual C y w m)
      = dot (LeastSquares.residual C (y.map (· - m)) w 0) (LeastSquares.residual C (y.map (· - m)) w 0) := by
  rw [residual_centre C y w m m]; simp
end

/-- on centred columns, with `m` the mean of `y`, any intercept `b'` only adds `n·(b' − m)²` -/
theorem sq_centre_le (C : List (List α)) (y w' : List α) (b' : α) (hC : ∀ c ∈ C, c.length = y.length)
    (hy : 0 < y.length) (hcen : ∀ c ∈ C, c.sum = 0) :
    dot (LeastSquares.residual C (y.map (· - y.sum / (y.length : α))) w' 0)
        (LeastSquares.residual C (y.map (· - y.sum / (y.length : α))) w' 0)
      ≤ dot (LeastSquares.residual C y w' b') (LeastSquares.residual C y w' b') := by
  rw [residual_centre C y w' (y.sum / (y.length : α)) b', dot_map_sub_self,
    sum_residual_centred C y w' hC hy hcen, mul_zero, sub_zero]
  exact le_add_of_nonneg_right (mul_nonneg (Nat.cast_nonneg _) (sq_nonneg _))

/-! ### the residual invariant of coordinate descent

`r = y − Xw` is preserved by the loop body, hence by a sweep and by the whole `while`; so when the loop is
left by its `break`, the reported gap is the duality gap of the returned coefficients. -/

section
set_option linter.unusedSectionVars false
theorem matVec_set (n : Nat) (C : List (List α)) (w : List α) (j : Nat) (v : α) (cj : List α)
    (hC : ∀ c ∈ C, c.length = n) (hw : w.length = C.length) (hcj : C[j]? = some cj) :
    matVec n C (w.set j v)
      = List.zipWith (· + ·) (matVec n C w) (cj.map ((v - w.getD j 0) * ·)) := by
  induction C generalizing w j with
  | nil => simp at hcj
  | cons c C ih =>
    cases w with
    | nil => simp at hw
    | cons w0 w =>
      have hc : c.length = n := hC c (by simp)
      have hC' : ∀ c ∈ C, c.length = n := fun c hc => hC c (by simp [hc])
      have hw' : w.length = C.length := by simpa using hw
      have hM : (matVec n C w).length = n := matVec_length n C w hC'
      cases j with
      | zero =>
        simp only [List.getElem?_cons_zero, Option.some.injEq] at hcj
        subst hcj
        simp only [List.set_cons_zero, matVec, List.getD_cons_zero]
        apply List.ext_getElem (by simp [hc, hM])
        intro i h _
        simp only [List.getElem_zipWith, List.getElem_map]
        ring
      | succ j =>
        simp only [List.getElem?_cons_succ] at hcj
        have hcjl : cj.length = n := hC' cj (List.mem_of_getElem? hcj)
        simp only [List.set_cons_succ, matVec, List.getD_cons_succ]
        rw [ih w j hC' hw' hcj]
        apply zipWith_add_assoc
        · simp [hc, hM]
        · simp [hM, hcjl]
end

section
set_option linter.unusedSectionVars false
/-- the algebra of one coordinate step on the residual: add back the old contribution of feature `j`,
subtract the new one -/
theorem residual_set (C : List (List α)) (y w : List α) (j : Nat) (cj : List α) (v : α)
    (hC : ∀ c ∈ C, c.length = y.length) (hw : w.length = C.length) (hcj : C[j]? = some cj) :
    axpy (-v) cj (axpy (w.getD j 0) cj (LeastSquares.residual C y w 0)) = LeastSquares.residual C y (w.set j v) 0 := by
  have hcjl : cj.length = y.length := hC cj (List.mem_of_getElem? hcj)
  have hM : (matVec y.length C w).length = y.length := matVec_length _ C w hC
  unfold LeastSquares.residual
  rw [matVec_set _ C w j v cj hC hw hcj]
  unfold axpy
  apply List.ext_getElem (by simp [hM, hcjl])
  intro i h1 h2
  simp only [List.getElem_zipWith, List.getElem_map]
  ring
end

/-- the guards `old_w_j != 0`, `w[j] != 0` only skip updates that change nothing -/
theorem axpy_if_zero (a b : α) (x r : List α) (h : x.length = r.length) (hb : a = 0 → b = 0) :
    (if absS a ≤ 0 then r else axpy b x r) = axpy b x r := by
  split
  · rw [hb ((absS_nonpos_iff a).mp ‹_›)]
    unfold axpy
    apply List.ext_getElem (by simp [h])
    intro i _ _
    simp
  · rfl

/-- the invariant of the descent: the running residual is the residual of the running coefficients -/
def CdInv (C : List (List α)) (y : List α) (st : CdState α) : Prop :=
  st.r = residual C y st.w 0 ∧ st.w.length = C.length

theorem cdCoord_inv (contig : Bool) (thr denAdd : α) (C : List (List α)) (y : List α) (st : CdState α)
    (j : Nat) (cj : List α) (nrm : α) (hC : ∀ c ∈ C, c.length = y.length) (hcj : C[j]? = some cj)
    (h : CdInv C y st) : CdInv C y (cdCoord contig thr denAdd st j cj nrm) := by
  obtain ⟨hr, hw⟩ := h
  unfold cdCoord
  split
  · exact ⟨hr, hw⟩
  · have hcjl : cj.length = st.r.length := by
      rw [hr, residual_length C y st.w 0 hC]; exact hC cj (List.mem_of_getElem? hcj)
    refine ⟨?_, by simp [hw]⟩
    dsimp only
    rw [axpy_if_zero _ _ cj st.r hcjl id]
    generalize softThreshold (dotC contig cj (axpy (st.w.getD j 0) cj st.r)) thr (nrm + denAdd) = wj
    rw [axpy_if_zero wj (-wj) cj _ (by simp [axpy, hcjl]) neg_eq_zero.mpr, hr]
    exact residual_set C y st.w j cj wj hC hw hcj

theorem cdSweepGo_inv (contig : Bool) (thr denAdd : α) (C : List (List α)) (y : List α)
    (hC : ∀ c ∈ C, c.length = y.length) (Cr : List (List α)) :
    ∀ (j : Nat) (ns : List α) (st : CdState α), (∀ k, Cr[k]? = C[j + k]?) → CdInv C y st →
      CdInv C y (cdSweepGo contig thr denAdd j Cr ns st) := by
  induction Cr with
  | nil => intro j ns st _ h; simpa [cdSweepGo] using h
  | cons c Cr ih =>
    intro j ns st hk h
    cases ns with
    | nil => simpa [cdSweepGo] using h
    | cons nrm ns =>
      simp only [cdSweepGo]
      apply ih
      · intro k
        have := hk (k + 1)
        simp only [List.getElem?_cons_succ] at this
        rw [this]; congr 1; omega
      · apply cdCoord_inv contig thr denAdd C y st j c nrm hC _ h
        have := hk 0
        simpa using this.symm

theorem cdLoop_certificate (contig : Bool) (eps thr denAdd : α) (C : List (List α)) (norms y : List α)
    (n tol tolS l1r pen : α) (maxSteps : Nat) (hC : ∀ c ∈ C, c.length = y.length) :
    ∀ (fuel steps : Nat) (w r : List α) (gap : α) (w' : List α) (g' : α) (s' : Nat),
      r = residual C y w 0 → w.length = C.length →
      cdLoop contig eps thr denAdd C norms y n tol tolS l1r pen maxSteps fuel steps w r gap = (w', g', s') →
      w'.length = C.length ∧ s' ≤ steps + fuel ∧
        (s' < steps + fuel → g' = dualityGap contig C y w' (residual C y w' 0) l1r pen n ∧ g' < tolS) := by
  intro fuel
  induction fuel with
  | zero =>
    intro steps w r gap w' g' s' _ hw h
    simp only [cdLoop, Prod.mk.injEq] at h
    obtain ⟨rfl, rfl, rfl⟩ := h
    exact ⟨hw, le_refl _, fun h => absurd h (lt_irrefl _)⟩
  | succ fuel ih =>
    intro steps w r gap w' g' s' hr hw h
    have hinv : CdInv C y (cdSweep contig thr denAdd C norms w r) := by
      unfold cdSweep
      exact cdSweepGo_inv contig thr denAdd C y hC C 0 norms _ (fun k => by simp) ⟨hr, hw⟩
    simp only [cdLoop] at h
    generalize cdSweep contig thr denAdd C norms w r = st at hinv h
    obtain ⟨hsr, hsw⟩ := hinv
    split at h
    · split at h
      · rename_i hg
        simp only [Prod.mk.injEq] at h
        obtain ⟨rfl, rfl, rfl⟩ := h
        refine ⟨hsw, by omega, fun _ => ⟨by rw [hsr], hg⟩⟩
      · have := ih (steps + 1) st.w st.r _ w' g' s' hsr hsw h
        refine ⟨this.1, by omega, fun hlt => this.2.2 (by omega)⟩
    · have := ih (steps + 1) st.w st.r _ w' g' s' hsr hsw h
      refine ⟨this.1, by omega, fun hlt => this.2.2 (by omega)⟩

theorem coordinateDescent_break (contig : Bool) (eps : α) (C : List (List α)) (y : List α) (n tol : α)
    (maxSteps : Nat) (l1r pen : α) (w : List α) (g : α) (s : Nat) (hC : ∀ c ∈ C, c.length = y.length)
    (h : coordinateDescent contig eps C y n tol maxSteps l1r pen = (w, g, s)) (hs : s < maxSteps) :
    w.length = C.length ∧ g = dualityGap contig C y w (residual C y w 0) l1r pen n ∧ g < tol * dotU y y := by
  obtain ⟨hw, _, hcert⟩ := cdLoop_certificate contig eps _ _ C _ y n tol _ l1r pen maxSteps hC maxSteps 0 _ y _ w g s
    (residual_zero_start C y hC).symm List.length_replicate h
  exact ⟨hw, hcert (by omega)⟩

section
omit [IsStrictOrderedRing α]
theorem fitEnet_eq (contig : Bool) (eps : α) (C : List (List α)) (y : List α) (n tol : α) (maxSteps : Nat)
    (l1r pen : α) (wi : Bool) :
    fitEnet contig eps C y n tol maxSteps l1r pen wi
      = ((computeIntercept wi y n).1,
          coordinateDescent contig eps C (computeIntercept wi y n).2 n tol maxSteps l1r pen) := rfl
end

end LinfaSpec.LeastSquares
