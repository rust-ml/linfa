import LinfaSpec.Model.Kernel
import LinfaSpec.Model.Hier
import Mathlib.Analysis.SpecialFunctions.Pow.Real

/-! The real-number carrier of the `Transc` / `KPow` primitives (used by the C06 theorems that mention `exp` or `ln`),
and the `-ln` transform of `ValidHierarchicalCluster::transform` over it. -/
namespace LinfaSpec.Kernel

noncomputable instance realTransc : Transc ℝ := ⟨Real.sqrt, Real.exp, Real.log⟩
noncomputable instance realKPow : KPow ℝ := ⟨fun x y => x ^ y⟩

theorem real_exp_zero : (Transc.exp (0 : ℝ)) = 1 := Real.exp_zero

end LinfaSpec.Kernel

namespace LinfaSpec.Hier
open LinfaSpec

/-- `if x > thr { -x.ln() } else { -thr.ln() }` is `-ln (max x thr)` -/
theorem real_toDist (thr x : ℝ) : toDist thr x = -Real.log (max x thr) := by
  unfold toDist
  split_ifs with h
  · rw [max_eq_left h.le]; rfl
  · rw [max_eq_right (not_lt.mp h)]; rfl

theorem real_toDist_lt_iff (thr x d : ℝ) (hthr : 0 < thr) :
    toDist thr x < d ↔ Real.exp (-d) < max x thr := by
  rw [real_toDist, neg_lt, Real.lt_log_iff_exp_lt (lt_max_of_lt_right hthr)]

theorem real_toDist_antitone (thr x y : ℝ) (hthr : 0 < thr) (hxy : x ≤ y) : toDist thr y ≤ toDist thr x := by
  rw [real_toDist, real_toDist, neg_le_neg_iff]
  exact Real.log_le_log (lt_max_of_lt_right hthr) (max_le_max_right thr hxy)

end LinfaSpec.Hier
