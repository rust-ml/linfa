import LinfaSpec.Model.Dbscan

/-!
DBSCAN model (`LinfaSpec.Dbscan`), from the inside out: `QInv` (queue bookkeeping: queued samples distinct, unlabelled,
`search_found` = queue membership) kept by every pop (`popStep_spec`); `BInv` (growth of one cluster) kept by every pop
and ended by `bfs_queue_empty`; `GInv`/`OInv` between iterations of the outer scan (`OInv_run`); `Ord`: ids follow the scan;
`labels_eq_of_spec`: partition and order of the ids determine the labels; `table_ok`: the hypotheses on a finite neighbour table.
-/
namespace LinfaSpec.Dbscan

theorem unl_iff (labels : List (Option Nat)) (j : Nat) :
    unl labels j = true ↔ labels[j]? = some none := by
  unfold unl
  split <;> simp_all

theorem unl_lt {labels : List (Option Nat)} {j : Nat} (h : unl labels j = true) :
    j < labels.length := by
  rw [unl_iff] at h
  exact (List.getElem?_eq_some_iff.mp h).1

theorem unl_set_ne (labels : List (Option Nat)) {c j : Nat} (v : Option Nat) (h : c ≠ j) :
    unl (labels.set c v) j = unl labels j := by
  unfold unl
  rw [List.getElem?_set_ne h]

theorem unl_set_some (labels : List (Option Nat)) (c j v : Nat) :
    unl (labels.set c (some v)) j = true ↔ (unl labels j = true ∧ j ≠ c) := by
  by_cases h : c = j
  · subst h
    constructor
    · intro h1
      rw [unl_iff, List.getElem?_set] at h1
      simp at h1
    · intro h1; exact absurd rfl h1.2
  · rw [unl_set_ne _ _ h]
    constructor
    · intro h1; exact ⟨h1, fun e => h e.symm⟩
    · intro h1; exact h1.1

/-- bookkeeping invariant of `search_queue` / `search_found` -/
structure QInv (labels : List (Option Nat)) (found : List Bool) (queue : List Nat) : Prop where
  len : found.length = labels.length
  nd : queue.Nodup
  fq : ∀ j, found[j]?.getD false = true ↔ j ∈ queue
  qu : ∀ j ∈ queue, unl labels j = true

theorem QInv_push {labels : List (Option Nat)} {found : List Bool} {queue : List Nat} {j : Nat}
    (h : QInv labels found queue) (hj : unl labels j = true) (hjq : j ∉ queue) :
    QInv labels (found.set j true) (queue ++ [j]) := by
  have hjlt : j < found.length := by rw [h.len]; exact unl_lt hj
  refine ⟨by simp [h.len], ?_, ?_, ?_⟩
  · rw [List.nodup_append]
    refine ⟨h.nd, by simp, ?_⟩
    intro a ha b hb
    simp at hb
    subst hb
    intro e; subst e; exact hjq ha
  · intro k
    by_cases e : j = k
    · subst e
      simp [List.getElem?_set_self hjlt]
    · rw [List.getElem?_set_ne e, h.fq k, List.mem_append, List.mem_singleton]
      exact ⟨Or.inl, fun a => a.resolve_right fun e' => e e'.symm⟩
  · intro k hk
    rcases List.mem_append.mp hk with a | a
    · exact h.qu k a
    · simp at a; subst a; exact hj

theorem pushAll_nil (found : List Bool) (queue : List Nat) : pushAll [] found queue = (found, queue) := rfl

theorem pushAll_cons (j : Nat) (res : List Nat) (found : List Bool) (queue : List Nat) :
    pushAll (j :: res) found queue =
      if found[j]?.getD false = true then pushAll res found queue
      else pushAll res (found.set j true) (queue ++ [j]) := by
  unfold pushAll
  simp only [List.foldl_cons]
  split <;> rfl

theorem pushAll_spec (labels : List (Option Nat)) :
    ∀ (res : List Nat) (found : List Bool) (queue : List Nat), QInv labels found queue →
      (∀ j ∈ res, unl labels j = true) →
      QInv labels (pushAll res found queue).1 (pushAll res found queue).2 ∧
      ∀ k, k ∈ (pushAll res found queue).2 ↔ (k ∈ queue ∨ k ∈ res) := by
  intro res
  induction res with
  | nil => intro found queue h _; simp [pushAll_nil, h]
  | cons j res ih =>
    intro found queue h hres
    rw [pushAll_cons]
    have hres' : ∀ k ∈ res, unl labels k = true := fun k hk => hres k (List.mem_cons_of_mem _ hk)
    by_cases hf : found[j]?.getD false = true
    · rw [if_pos hf]
      obtain ⟨h1, h2⟩ := ih found queue h hres'
      have : j ∈ queue := (h.fq j).mp hf
      refine ⟨h1, fun k => ?_⟩
      rw [h2 k, List.mem_cons]
      exact ⟨Or.imp_right Or.inr, fun a => a.elim Or.inl fun a => a.elim (fun e => Or.inl (e ▸ this)) Or.inr⟩
    · rw [if_neg hf]
      have hjq : j ∉ queue := fun hq => hf ((h.fq j).mpr hq)
      have hj : unl labels j = true := hres j (List.mem_cons_self ..)
      have h' : QInv labels (found.set j true) (queue ++ [j]) := QInv_push h hj hjq
      obtain ⟨h1, h2⟩ := ih _ _ h' hres'
      refine ⟨h1, fun k => ?_⟩
      rw [h2 k, List.mem_append, List.mem_singleton, List.mem_cons]
      exact or_assoc

theorem popStep_eq (nbrs : Nat → List Nat) (mp cid : Nat) (s : State) (c : Nat) (q : List Nat) :
    popStep nbrs mp cid s c q =
      let fq := if mp ≤ (nbrs c).length then
          pushAll ((nbrs c).filter fun j => unl s.labels j && j != c) (s.found.set c false) q
        else (s.found.set c false, q)
      { labels := s.labels.set c (some cid), found := fq.1, queue := fq.2 } := by
  unfold popStep findNeighbors
  by_cases h : mp ≤ (nbrs c).length
  · simp only [if_pos h]
  · simp only [if_neg h]

theorem popStep_spec (nbrs : Nat → List Nat) (mp cid : Nat) (s : State) (c : Nat) (q : List Nat)
    (h : QInv s.labels s.found s.queue) (hq : s.queue = c :: q) :
    let s' := popStep nbrs mp cid s c q
    s'.labels = s.labels.set c (some cid) ∧
    QInv s'.labels s'.found s'.queue ∧
    ∀ k, k ∈ s'.queue ↔
      (k ∈ q ∨ (mp ≤ (nbrs c).length ∧ k ∈ nbrs c ∧ unl s.labels k = true ∧ k ≠ c)) := by
  intro s'
  have hnd : (c :: q).Nodup := hq ▸ h.nd
  have hcq : c ∉ q := (List.nodup_cons.mp hnd).1
  have hc : unl s.labels c = true := h.qu c (by rw [hq]; exact List.mem_cons_self ..)
  have hclt : c < s.found.length := by rw [h.len]; exact unl_lt hc
  -- invariant after the pop, before the pushes
  have h0 : QInv (s.labels.set c (some cid)) (s.found.set c false) q := by
    refine ⟨by simp [h.len], (List.nodup_cons.mp hnd).2, ?_, ?_⟩
    · intro k
      by_cases e : c = k
      · subst e
        simp [List.getElem?_set_self hclt, hcq]
      · rw [List.getElem?_set_ne e, h.fq k, hq, List.mem_cons]
        exact ⟨fun a => a.resolve_left fun e' => e e'.symm, Or.inr⟩
    · intro k hk
      rw [unl_set_some]
      refine ⟨h.qu k (by rw [hq]; exact List.mem_cons_of_mem _ hk), ?_⟩
      intro e; subst e; exact hcq hk
  by_cases hcore : mp ≤ (nbrs c).length
  · have hres : ∀ j ∈ (nbrs c).filter (fun j => unl s.labels j && j != c),
        unl (s.labels.set c (some cid)) j = true := by
      intro j hj
      simp only [List.mem_filter, Bool.and_eq_true, bne_iff_ne, ne_eq] at hj
      rw [unl_set_some]; exact ⟨hj.2.1, hj.2.2⟩
    obtain ⟨h1, h2⟩ := pushAll_spec _ _ _ _ h0 hres
    rw [show s' = _ from popStep_eq nbrs mp cid s c q, if_pos hcore]
    refine ⟨rfl, h1, fun k => ?_⟩
    rw [h2 k]
    simp only [List.mem_filter, Bool.and_eq_true, bne_iff_ne, ne_eq]
    exact or_congr_right ⟨fun a => ⟨hcore, a⟩, fun a => a.2⟩
  · rw [show s' = _ from popStep_eq nbrs mp cid s c q, if_neg hcore]
    exact ⟨rfl, h0, fun k => ⟨Or.inl, fun a => a.elim id fun a => absurd a.1 hcore⟩⟩

theorem bfs_induct (nbrs : Nat → List Nat) (mp cid : Nat) (P : State → Prop)
    (hstep : ∀ s c q, P s → s.queue = c :: q → P (popStep nbrs mp cid s c q)) :
    ∀ fuel s, P s → P (bfs nbrs mp cid fuel s) := by
  intro fuel
  induction fuel with
  | zero => intro s h; exact h
  | succ fuel ih =>
    intro s h
    unfold bfs
    split
    · exact h
    · rename_i c q hq
      exact ih _ (hstep s c q h hq)

def isLab (L : List (Option Nat)) (x v : Nat) : Prop := L[x]? = some (some v)

/-- core sample: the query for it returns at least `min_points` samples (itself counted when it is in its own
query result) -/
def core (nbrs : Nat → List Nat) (mp x : Nat) : Prop := mp ≤ (nbrs x).length

/-- `Conn s x`: there is a chain of core samples from `s` to `x`, consecutive ones in range -/
inductive Conn (nbrs : Nat → List Nat) (mp : Nat) : Nat → Nat → Prop
  | refl (x : Nat) : Conn nbrs mp x x
  | step {x y z : Nat} : Conn nbrs mp x y → core nbrs mp y → core nbrs mp z → z ∈ nbrs y →
      Conn nbrs mp x z

theorem isLab_set (L : List (Option Nat)) (c cid x v : Nat) :
    isLab (L.set c (some cid)) x v ↔ ((x = c ∧ c < L.length ∧ v = cid) ∨ (x ≠ c ∧ isLab L x v)) := by
  unfold isLab
  rw [List.getElem?_set]
  by_cases h : c = x
  · subst h
    by_cases h2 : c < L.length
    · simp [h2]; constructor <;> (intro e; exact e.symm)
    · simp [h2]
  · have h' : x ≠ c := fun e => h e.symm
    simp [h, h']

theorem unl_not_isLab {L : List (Option Nat)} {x v : Nat} (h : unl L x = true) : ¬ isLab L x v := by
  rw [unl_iff] at h
  unfold isLab
  rw [h]; simp

theorem lab_cases (L : List (Option Nat)) (x : Nat) (hx : x < L.length) :
    unl L x = true ∨ ∃ v, isLab L x v := by
  rw [unl_iff]
  unfold isLab
  rw [List.getElem?_eq_getElem hx]
  cases L[x] with
  | none => exact Or.inl rfl
  | some v => exact Or.inr ⟨v, rfl⟩

theorem unl_iff_not_isLab (L : List (Option Nat)) (x : Nat) :
    unl L x = true ↔ x < L.length ∧ ¬ ∃ v, isLab L x v :=
  ⟨fun h => ⟨unl_lt h, fun ⟨_, hv⟩ => unl_not_isLab h hv⟩,
    fun h => (lab_cases L x h.1).resolve_right h.2⟩

theorem getElem?_eq_of_isLab_iff {L₁ L₂ : List (Option Nat)} {x : Nat} (hlen : L₁.length = L₂.length)
    (h : ∀ v, isLab L₁ x v ↔ isLab L₂ x v) : L₁[x]? = L₂[x]? := by
  by_cases hx : x < L₁.length
  · rcases lab_cases L₁ x hx with u | ⟨v, hv⟩
    · have u' : unl L₂ x = true :=
        (unl_iff_not_isLab L₂ x).mpr ⟨hlen ▸ hx, fun ⟨w, hw⟩ => unl_not_isLab u ((h w).mpr hw)⟩
      rw [(unl_iff _ _).mp u, (unl_iff _ _).mp u']
    · exact hv.trans ((h v).mp hv).symm
  · rw [List.getElem?_eq_none (Nat.le_of_not_lt hx), List.getElem?_eq_none (hlen ▸ Nat.le_of_not_lt hx)]

theorem isLab_inj {L : List (Option Nat)} {x v w : Nat} (h1 : isLab L x v) (h2 : isLab L x w) : v = w := by
  unfold isLab at h1 h2
  rw [h1] at h2
  exact Option.some.inj (Option.some.inj h2)

theorem isLab_lt {L : List (Option Nat)} {x v : Nat} (h : isLab L x v) : x < L.length :=
  (List.getElem?_eq_some_iff.mp h).1

theorem isLab_set_of_unl {L : List (Option Nat)} {c : Nat} (hc : unl L c = true) (cid : Nat) {x v : Nat}
    (hx : isLab L x v) : isLab (L.set c (some cid)) x v :=
  (isLab_set L c cid x v).mpr (Or.inr ⟨fun e => unl_not_isLab hc (e ▸ hx), hx⟩)

theorem isLab_set_self {L : List (Option Nat)} {c : Nat} (hc : unl L c = true) (cid : Nat) :
    isLab (L.set c (some cid)) c cid :=
  (isLab_set L c cid c cid).mpr (Or.inl ⟨rfl, unl_lt hc, rfl⟩)

/-- invariant of the `while let` loop growing cluster `cid` from `seed`; `L0` = labels before -/
structure BInv (nbrs : Nat → List Nat) (mp : Nat) (L0 : List (Option Nat)) (cid seed : Nat)
    (s : State) : Prop where
  q : QInv s.labels s.found s.queue
  len : s.labels.length = L0.length
  keep : ∀ x v, isLab L0 x v → isLab s.labels x v
  new : ∀ x v, isLab s.labels x v → isLab L0 x v ∨ (unl L0 x = true ∧ v = cid)
  seedLab : isLab s.labels seed cid
  seedCore : core nbrs mp seed
  src : ∀ x, isLab s.labels x cid → unl L0 x = true →
    x = seed ∨ ∃ y, core nbrs mp y ∧ isLab s.labels y cid ∧ x ∈ nbrs y
  qsrc : ∀ x ∈ s.queue, ∃ y, core nbrs mp y ∧ isLab s.labels y cid ∧ x ∈ nbrs y
  closed : ∀ x, core nbrs mp x → isLab s.labels x cid → ∀ z ∈ nbrs x,
    (∃ w, isLab s.labels z w) ∨ z ∈ s.queue
  conn : ∀ x, core nbrs mp x → isLab s.labels x cid → Conn nbrs mp seed x

theorem BInv.unl_before {nbrs : Nat → List Nat} {mp : Nat} {L0 : List (Option Nat)} {cid seed : Nat}
    {s : State} (b : BInv nbrs mp L0 cid seed s) {x : Nat} (h : unl s.labels x = true) :
    unl L0 x = true := by
  rcases lab_cases L0 x (b.len ▸ unl_lt h) with a | ⟨v, a⟩
  · exact a
  · exact absurd (b.keep x v a) (unl_not_isLab h)

theorem BInv_popStep (nbrs : Nat → List Nat) (mp n : Nat) (L0 : List (Option Nat)) (cid seed : Nat)
    (hrange : ∀ i, ∀ j ∈ nbrs i, j < n) (hn : L0.length = n)
    (s : State) (c : Nat) (q : List Nat) (h : BInv nbrs mp L0 cid seed s) (hq : s.queue = c :: q) :
    BInv nbrs mp L0 cid seed (popStep nbrs mp cid s c q) := by
  obtain ⟨e1, q', hmem⟩ := popStep_spec nbrs mp cid s c q h.q hq
  have hc : unl s.labels c = true := h.q.qu c (by rw [hq]; exact List.mem_cons_self ..)
  have up : ∀ {x v}, isLab s.labels x v → isLab (popStep nbrs mp cid s c q).labels x v :=
    fun hx => e1 ▸ isLab_set_of_unl hc cid hx
  have hcl : isLab (popStep nbrs mp cid s c q).labels c cid := e1 ▸ isLab_set_self hc cid
  have hc0 : unl L0 c = true := h.unl_before hc
  refine ⟨q', by rw [e1]; simp [h.len], ?_, ?_, ?_, h.seedCore, ?_, ?_, ?_, ?_⟩
  · intro x v hx; exact up (h.keep x v hx)
  · intro x v hx
    rw [e1, isLab_set] at hx
    rcases hx with ⟨rfl, _, rfl⟩ | ⟨_, hx⟩
    · exact Or.inr ⟨hc0, rfl⟩
    · exact h.new x v hx
  · exact up h.seedLab
  · intro x hx hx0
    rw [e1, isLab_set] at hx
    rcases hx with ⟨rfl, _, _⟩ | ⟨_, hx⟩
    · obtain ⟨y, y1, y2, y3⟩ := h.qsrc x (by rw [hq]; exact List.mem_cons_self ..)
      exact Or.inr ⟨y, y1, up y2, y3⟩
    · rcases h.src x hx hx0 with a | ⟨y, y1, y2, y3⟩
      · exact Or.inl a
      · exact Or.inr ⟨y, y1, up y2, y3⟩
  · intro x hx
    rcases (hmem x).mp hx with a | ⟨a1, a2, _, _⟩
    · obtain ⟨y, y1, y2, y3⟩ := h.qsrc x (by rw [hq]; exact List.mem_cons_of_mem _ a)
      exact ⟨y, y1, up y2, y3⟩
    · exact ⟨c, a1, hcl, a2⟩
  · intro x hcx hx z hz
    have hzlt : z < s.labels.length := by rw [h.len, hn]; exact hrange x z hz
    by_cases ezc : z = c
    · subst ezc; exact Or.inl ⟨cid, hcl⟩
    rw [e1, isLab_set] at hx
    rcases hx with ⟨rfl, _, _⟩ | ⟨_, hx⟩
    · rcases lab_cases s.labels z hzlt with a | ⟨w, a⟩
      · exact Or.inr ((hmem z).mpr (Or.inr ⟨hcx, hz, a, ezc⟩))
      · exact Or.inl ⟨w, up a⟩
    · rcases h.closed x hcx hx z hz with ⟨w, a⟩ | a
      · exact Or.inl ⟨w, up a⟩
      · rw [hq] at a
        rcases List.mem_cons.mp a with a | a
        · exact absurd a ezc
        · exact Or.inr ((hmem z).mpr (Or.inl a))
  · intro x hcx hx
    rw [e1, isLab_set] at hx
    rcases hx with ⟨rfl, _, _⟩ | ⟨_, hx⟩
    · obtain ⟨y, y1, y2, y3⟩ := h.qsrc x (by rw [hq]; exact List.mem_cons_self ..)
      exact Conn.step (h.conn y y1 y2) y1 hcx y3
    · exact h.conn x hcx hx

theorem count_none_set {L : List (Option Nat)} {c : Nat} (h : unl L c = true) (v : Nat) :
    (L.set c (some v)).count none + 1 = L.count none := by
  have hlt := unl_lt h
  have hget : L[c] = none := by
    have := (unl_iff L c).mp h
    rw [List.getElem?_eq_getElem hlt] at this; exact Option.some.inj this
  have hpos : 0 < L.count none := List.count_pos_iff.mpr (hget ▸ List.getElem_mem hlt)
  rw [List.count_set hlt, hget]
  simp
  omega

/-- termination: the number of unlabelled samples bounds the number of pops -/
theorem bfs_queue_empty (nbrs : Nat → List Nat) (mp cid : Nat) :
    ∀ fuel s, QInv s.labels s.found s.queue → s.labels.count none ≤ fuel →
      (bfs nbrs mp cid fuel s).queue = [] := by
  intro fuel
  induction fuel with
  | zero =>
    intro s h hc
    unfold bfs
    cases hq : s.queue with
    | nil => rfl
    | cons c q =>
      have := count_none_set (h.qu c (hq ▸ List.mem_cons_self)) cid
      omega
  | succ fuel ih =>
    intro s h hc
    unfold bfs
    split
    · assumption
    · rename_i c q hq
      obtain ⟨e1, q', _⟩ := popStep_spec nbrs mp cid s c q h hq
      apply ih _ q'
      have := count_none_set (h.qu c (hq ▸ List.mem_cons_self)) cid
      rw [e1]
      omega

/-- what holds between two iterations of the outer `for`, `c` = `current_cluster_id` -/
structure GInv (nbrs : Nat → List Nat) (mp n : Nat) (L : List (Option Nat)) (c : Nat) : Prop where
  len : L.length = n
  lt : ∀ x v, isLab L x v → v < c
  seeds : ∀ v, v < c → ∃ s, isLab L s v ∧ core nbrs mp s ∧
    ∀ x, core nbrs mp x → isLab L x v → Conn nbrs mp s x
  sound : ∀ x v, isLab L x v → core nbrs mp x ∨ ∃ y, core nbrs mp y ∧ isLab L y v ∧ x ∈ nbrs y
  closed : ∀ x v, isLab L x v → core nbrs mp x → ∀ z ∈ nbrs x, ∃ w, isLab L z w
  adj : ∀ x y v w, core nbrs mp x → core nbrs mp y → y ∈ nbrs x → isLab L x v → isLab L y w → v = w

theorem GInv_of_BInv (nbrs : Nat → List Nat) (mp n : Nat)
    (hsym : ∀ i j, j ∈ nbrs i → i ∈ nbrs j)
    (L0 : List (Option Nat)) (cid seed : Nat) (s : State)
    (g : GInv nbrs mp n L0 cid) (b : BInv nbrs mp L0 cid seed s) (hq : s.queue = []) :
    GInv nbrs mp n s.labels (cid + 1) := by
  refine ⟨by rw [b.len, g.len], ?_, ?_, ?_, ?_, ?_⟩
  · intro x v hx
    rcases b.new x v hx with a | ⟨_, rfl⟩
    · have := g.lt x v a; omega
    · omega
  · intro v hv
    by_cases e : v = cid
    · subst e
      exact ⟨seed, b.seedLab, b.seedCore, fun x hcx hx => b.conn x hcx hx⟩
    · obtain ⟨s0, a1, a2, a3⟩ := g.seeds v (by omega)
      refine ⟨s0, b.keep _ _ a1, a2, fun x hcx hx => ?_⟩
      rcases b.new x v hx with a | ⟨_, a⟩
      · exact a3 x hcx a
      · exact absurd a e
  · intro x v hx
    rcases b.new x v hx with a | ⟨a, rfl⟩
    · rcases g.sound x v a with c1 | ⟨y, y1, y2, y3⟩
      · exact Or.inl c1
      · exact Or.inr ⟨y, y1, b.keep _ _ y2, y3⟩
    · rcases b.src x hx a with rfl | ⟨y, y1, y2, y3⟩
      · exact Or.inl b.seedCore
      · exact Or.inr ⟨y, y1, y2, y3⟩
  · intro x v hx hcx z hz
    rcases b.new x v hx with a | ⟨_, rfl⟩
    · obtain ⟨w, hw⟩ := g.closed x v a hcx z hz
      exact ⟨w, b.keep _ _ hw⟩
    · rcases b.closed x hcx hx z hz with a | a
      · exact a
      · rw [hq] at a; exact absurd a (List.not_mem_nil)
  · intro x y v w hcx hcy hxy hx hy
    rcases b.new x v hx with a | ⟨a, rfl⟩
    · rcases b.new y w hy with a' | ⟨a', _⟩
      · exact g.adj x y v w hcx hcy hxy a a'
      · obtain ⟨w', hw'⟩ := g.closed x v a hcx y hxy
        exact absurd hw' (unl_not_isLab a')
    · rcases b.new y w hy with a' | ⟨_, rfl⟩
      · obtain ⟨w', hw'⟩ := g.closed y w a' hcy x (hsym x y hxy)
        exact absurd hw' (unl_not_isLab a)
      · rfl

theorem markAll_cons (j : Nat) (res : List Nat) (found : List Bool) :
    markAll (j :: res) found = markAll res (found.set j true) := rfl

/-- `search_found[n] = true` for neighbours that are unlabelled, distinct and not queued is what pushing them does -/
theorem QInv_markAll {labels : List (Option Nat)} : ∀ (res : List Nat) {found : List Bool} {queue : List Nat},
    QInv labels found queue → (∀ j ∈ res, unl labels j = true ∧ j ∉ queue) → res.Nodup →
    QInv labels (markAll res found) (queue ++ res) := by
  intro res
  induction res with
  | nil => intro found queue h _ _; rw [List.append_nil]; exact h
  | cons j res ih =>
    intro found queue h hres hnd
    have hj := hres j List.mem_cons_self
    have hnd' := List.nodup_cons.mp hnd
    rw [markAll_cons, List.append_cons]
    refine ih (QInv_push h hj.1 hj.2) (fun k hk => ⟨(hres k (List.mem_cons_of_mem _ hk)).1, fun hkq => ?_⟩) hnd'.2
    rcases List.mem_append.mp hkq with a | a
    · exact (hres k (List.mem_cons_of_mem _ hk)).2 a
    · exact hnd'.1 (List.mem_singleton.mp a ▸ hk)

theorem BInv_init (nbrs : Nat → List Nat) (mp n : Nat)
    (hrange : ∀ i, ∀ j ∈ nbrs i, j < n) (hnd : ∀ i, (nbrs i).Nodup)
    (L0 : List (Option Nat)) (found0 : List Bool) (cid i : Nat)
    (g : GInv nbrs mp n L0 cid) (hq0 : QInv L0 found0 []) (hi : unl L0 i = true)
    (hcore : core nbrs mp i) :
    BInv nbrs mp L0 cid i
      { labels := L0.set i (some cid),
        found := markAll ((nbrs i).filter fun j => unl L0 j && j != i) found0,
        queue := [] ++ (nbrs i).filter fun j => unl L0 j && j != i } := by
  have hres : ∀ j ∈ (nbrs i).filter (fun j => unl L0 j && j != i),
      unl (L0.set i (some cid)) j = true := by
    intro j hj
    simp only [List.mem_filter, Bool.and_eq_true, bne_iff_ne, ne_eq] at hj
    rw [unl_set_some]; exact ⟨hj.2.1, hj.2.2⟩
  have hq1 : QInv (L0.set i (some cid)) found0 [] :=
    ⟨by simp [hq0.len], List.nodup_nil, hq0.fq, fun j hj => absurd hj List.not_mem_nil⟩
  have p1 := QInv_markAll _ hq1 (fun j hj => ⟨hres j hj, List.not_mem_nil⟩) ((hnd i).filter _)
  have up : ∀ {x v}, isLab L0 x v → isLab (L0.set i (some cid)) x v := isLab_set_of_unl hi cid
  have hil : isLab (L0.set i (some cid)) i cid := isLab_set_self hi cid
  -- a sample labelled `cid` now is the seed
  have only : ∀ {x}, isLab (L0.set i (some cid)) x cid → x = i := by
    intro x hx
    rw [isLab_set] at hx
    rcases hx with ⟨a, _, _⟩ | ⟨_, a⟩
    · exact a
    · have := g.lt x cid a; omega
  refine ⟨p1, by simp, fun x v hx => up hx, ?_, hil, hcore, ?_, ?_, ?_, ?_⟩
  · intro x v hx
    rw [isLab_set] at hx
    rcases hx with ⟨rfl, _, rfl⟩ | ⟨_, hx⟩
    · exact Or.inr ⟨hi, rfl⟩
    · exact Or.inl hx
  · intro x hx _; exact Or.inl (only hx)
  · intro x hx
    exact ⟨i, hcore, hil, (List.mem_filter.mp hx).1⟩
  · intro x _ hx z hz
    have := only hx; subst this
    by_cases ez : z = x
    · subst ez; exact Or.inl ⟨cid, hil⟩
    have hzlt : z < L0.length := by rw [g.len]; exact hrange x z hz
    rcases lab_cases L0 z hzlt with a | ⟨w, a⟩
    · exact Or.inr (List.mem_filter.mpr ⟨hz, by simp [a, ez]⟩)
    · exact Or.inl ⟨w, up a⟩
  · intro x _ hx
    have := only hx; subst this
    exact Conn.refl _

/-- state between two iterations of the outer `for`, before index `i` -/
structure OInv (nbrs : Nat → List Nat) (mp n : Nat) (sc : State × Nat) (i : Nat) : Prop where
  g : GInv nbrs mp n sc.1.labels sc.2
  q : QInv sc.1.labels sc.1.found []
  qe : sc.1.queue = []
  scanned : ∀ j, j < i → unl sc.1.labels j = true → ¬ core nbrs mp j

theorem outerStep_of_not (nbrs : Nat → List Nat) (mp n : Nat) (sc : State × Nat) (i : Nat)
    (h : unl sc.1.labels i = true → ¬ core nbrs mp i) : outerStep nbrs mp n sc i = sc := by
  unfold outerStep
  by_cases hu : unl sc.1.labels i = true
  · have hc : (nbrs i).length < mp := Nat.lt_of_not_le (h hu)
    simp only [hu, Bool.not_true, Bool.false_eq_true, if_false, findNeighbors, hc, if_true]
  · simp only [hu, Bool.not_false, if_true]

theorem outerStep_of_core (nbrs : Nat → List Nat) (mp n : Nat) (sc : State × Nat) (i : Nat)
    (hu : unl sc.1.labels i = true) (hc : core nbrs mp i) :
    outerStep nbrs mp n sc i =
      (bfs nbrs mp sc.2 n
        { labels := sc.1.labels.set i (some sc.2),
          found := markAll ((nbrs i).filter fun j => unl sc.1.labels j && j != i) sc.1.found,
          queue := sc.1.queue ++ (nbrs i).filter fun j => unl sc.1.labels j && j != i }, sc.2 + 1) := by
  unfold outerStep
  simp only [hu, Bool.not_true, Bool.false_eq_true, if_false, findNeighbors, Nat.not_lt.mpr hc]

/-- the outer step at `i`: nothing changes unless `i` is an unlabelled core sample; then cluster `sc.2` is grown
from `i` until the queue is empty -/
theorem outerStep_spec (nbrs : Nat → List Nat) (mp n : Nat)
    (hrange : ∀ i, ∀ j ∈ nbrs i, j < n) (hnd : ∀ i, (nbrs i).Nodup)
    (sc : State × Nat) (i : Nat) (h : OInv nbrs mp n sc i) :
    (outerStep nbrs mp n sc i = sc ∧ (unl sc.1.labels i = true → ¬ core nbrs mp i)) ∨
    (unl sc.1.labels i = true ∧ core nbrs mp i ∧ (outerStep nbrs mp n sc i).2 = sc.2 + 1 ∧
      BInv nbrs mp sc.1.labels sc.2 i (outerStep nbrs mp n sc i).1 ∧
      (outerStep nbrs mp n sc i).1.queue = []) := by
  by_cases hn : unl sc.1.labels i = true → ¬ core nbrs mp i
  · exact Or.inl ⟨outerStep_of_not nbrs mp n sc i hn, hn⟩
  · obtain ⟨hu, hcore⟩ := Classical.not_imp.mp hn
    have hcore := Classical.not_not.mp hcore
    have b0 := BInv_init nbrs mp n hrange hnd sc.1.labels sc.1.found sc.2 i h.g h.q hu hcore
    rw [outerStep_of_core nbrs mp n sc i hu hcore, h.qe]
    generalize State.mk (sc.1.labels.set i (some sc.2)) _ _ = s1 at b0 ⊢
    refine Or.inr ⟨hu, hcore, rfl, ?_, ?_⟩
    · exact bfs_induct nbrs mp sc.2 (BInv nbrs mp sc.1.labels sc.2 i)
        (fun s c q hs hq => BInv_popStep nbrs mp n sc.1.labels sc.2 i hrange h.g.len s c q hs hq) n s1 b0
    · -- the fuel `n` covers the unlabelled samples
      apply bfs_queue_empty nbrs mp sc.2 n s1 b0.q
      have := List.count_le_length (a := (none : Option Nat)) (l := s1.labels)
      rw [b0.len, h.g.len] at this
      exact this

theorem OInv_step (nbrs : Nat → List Nat) (mp n : Nat)
    (hrange : ∀ i, ∀ j ∈ nbrs i, j < n) (hnd : ∀ i, (nbrs i).Nodup)
    (hsym : ∀ i j, j ∈ nbrs i → i ∈ nbrs j)
    (sc : State × Nat) (i : Nat) (h : OInv nbrs mp n sc i) :
    OInv nbrs mp n (outerStep nbrs mp n sc i) (i + 1) := by
  rcases outerStep_spec nbrs mp n hrange hnd sc i h with ⟨e, hnc⟩ | ⟨_, _, e2, b1, hqe⟩
  · rw [e]
    refine ⟨h.g, h.q, h.qe, fun j hj hju => ?_⟩
    by_cases e : j = i
    · subst e; exact hnc hju
    · exact h.scanned j (by omega) hju
  · refine ⟨e2 ▸ GInv_of_BInv nbrs mp n hsym sc.1.labels sc.2 i _ h.g b1 hqe, hqe ▸ b1.q, hqe,
      fun j hj hju => ?_⟩
    by_cases e : j = i
    · subst e; exact absurd b1.seedLab (unl_not_isLab hju)
    · exact h.scanned j (by omega) (b1.unl_before hju)

theorem OInv_init (nbrs : Nat → List Nat) (mp n : Nat) : OInv nbrs mp n (init n, 0) 0 := by
  have nolab : ∀ x v, ¬ isLab (List.replicate n (none : Option Nat)) x v := by
    intro x v h
    unfold isLab at h
    rw [List.getElem?_replicate] at h
    split at h <;> simp at h
  refine ⟨⟨by simp [init], ?_, ?_, ?_, ?_, ?_⟩, ⟨by simp [init], List.nodup_nil, ?_, ?_⟩, rfl, ?_⟩
  · intro x v h; exact absurd h (nolab x v)
  · intro v hv; omega
  · intro x v h; exact absurd h (nolab x v)
  · intro x v h; exact absurd h (nolab x v)
  · intro x y v w _ _ _ h; exact absurd h (nolab x v)
  · intro j
    simp only [init, List.getElem?_replicate]
    split <;> simp
  · intro j hj; exact absurd hj List.not_mem_nil
  · intro j hj; omega

theorem OInv_run (nbrs : Nat → List Nat) (mp n : Nat)
    (hrange : ∀ i, ∀ j ∈ nbrs i, j < n) (hnd : ∀ i, (nbrs i).Nodup)
    (hsym : ∀ i j, j ∈ nbrs i → i ∈ nbrs j) :
    ∀ k, OInv nbrs mp n ((List.range k).foldl (outerStep nbrs mp n) (init n, 0)) k := by
  intro k
  induction k with
  | zero => exact OInv_init nbrs mp n
  | succ k ih =>
    rw [List.range_succ, List.foldl_append]
    exact OInv_step nbrs mp n hrange hnd hsym _ k ih

theorem dbscan_isLab_lt (nbrs : Nat → List Nat) (mp n : Nat)
    (hrange : ∀ i, ∀ j ∈ nbrs i, j < n) (hnd : ∀ i, (nbrs i).Nodup)
    (hsym : ∀ i j, j ∈ nbrs i → i ∈ nbrs j) {x v : Nat} (h : isLab (dbscan (some nbrs) mp n) x v) : x < n :=
  (OInv_run nbrs mp n hrange hnd hsym n).g.len ▸ isLab_lt h

/-- every id `v` in use has a core sample `s` (the sample that started the cluster) that precedes every
core sample carrying a larger id -/
def Ord (nbrs : Nat → List Nat) (mp : Nat) (L : List (Option Nat)) (c k : Nat) : Prop :=
  ∀ v, v < c → ∃ s, s < k ∧ core nbrs mp s ∧ isLab L s v ∧
    ∀ y w, core nbrs mp y → isLab L y w → v < w → s < y

theorem Ord_step (nbrs : Nat → List Nat) (mp n : Nat)
    (hrange : ∀ i, ∀ j ∈ nbrs i, j < n) (hnd : ∀ i, (nbrs i).Nodup)
    (sc : State × Nat) (i : Nat) (h : OInv nbrs mp n sc i) (ho : Ord nbrs mp sc.1.labels sc.2 i) :
    Ord nbrs mp (outerStep nbrs mp n sc i).1.labels (outerStep nbrs mp n sc i).2 (i + 1) := by
  have weaken : Ord nbrs mp sc.1.labels sc.2 (i + 1) := by
    intro v hv
    obtain ⟨s, s1, s2⟩ := ho v hv
    exact ⟨s, by omega, s2⟩
  rcases outerStep_spec nbrs mp n hrange hnd sc i h with ⟨e, _⟩ | ⟨_, hcore, e2, b1, _⟩
  · rw [e]; exact weaken
  · rw [e2]
    intro v hv
    by_cases hvc : v < sc.2
    · obtain ⟨s, s1', s2, s3, s4⟩ := ho v hvc
      refine ⟨s, by omega, s2, b1.keep s v s3, fun y w hy hyw hvw => ?_⟩
      rcases b1.new y w hyw with a | ⟨a, _⟩
      · exact s4 y w hy a hvw
      · -- `y` was unlabelled before this cluster and is core: the scan has not passed it
        have : ¬ y < i := fun hlt => h.scanned y hlt a hy
        omega
    · have hveq : v = sc.2 := by omega
      subst hveq
      refine ⟨i, by omega, hcore, b1.seedLab, fun y w _ hyw hvw => ?_⟩
      rcases b1.new y w hyw with a | ⟨_, a⟩
      · have := h.g.lt y w a; omega
      · omega

theorem Ord_run (nbrs : Nat → List Nat) (mp n : Nat)
    (hrange : ∀ i, ∀ j ∈ nbrs i, j < n) (hnd : ∀ i, (nbrs i).Nodup)
    (hsym : ∀ i j, j ∈ nbrs i → i ∈ nbrs j) :
    ∀ k, Ord nbrs mp ((List.range k).foldl (outerStep nbrs mp n) (init n, 0)).1.labels
      ((List.range k).foldl (outerStep nbrs mp n) (init n, 0)).2 k := by
  intro k
  induction k with
  | zero => intro v hv; simp [init] at hv
  | succ k ih =>
    rw [List.range_succ, List.foldl_append]
    exact Ord_step nbrs mp n hrange hnd _ k (OInv_run nbrs mp n hrange hnd hsym k) ih

/-- one direction of the induction step of `labels_eq_of_spec` -/
theorem labels_eq_dir (C : Nat → Prop) (L₁ L₂ : List (Option Nat))
    (lab₁ : ∀ x, C x → ∃ v, isLab L₁ x v) (lab₂ : ∀ x, C x → ∃ v, isLab L₂ x v)
    (part : ∀ x y, C x → C y →
      ((∃ v, isLab L₁ x v ∧ isLab L₁ y v) ↔ (∃ v, isLab L₂ x v ∧ isLab L₂ y v)))
    (o₁ : ∀ v w y, v < w → C y → isLab L₁ y w →
      ∃ s, C s ∧ isLab L₁ s v ∧ ∀ y', C y' → isLab L₁ y' w → s < y')
    (o₂ : ∀ v w y, v < w → C y → isLab L₂ y w →
      ∃ s, C s ∧ isLab L₂ s v ∧ ∀ y', C y' → isLab L₂ y' w → s < y')
    (v : Nat) (ih : ∀ u, u < v → ∀ x, C x → (isLab L₁ x u ↔ isLab L₂ x u))
    (x : Nat) (hx : C x) (h1 : isLab L₁ x v) : isLab L₂ x v := by
  obtain ⟨w, hw⟩ := lab₂ x hx
  rcases Nat.lt_trichotomy w v with hlt | heq | hgt
  · have := (ih w hlt x hx).mpr hw
    have := isLab_inj this h1; omega
  · subst heq; exact hw
  · obtain ⟨s₂, c2, l2, m2⟩ := o₂ v w x hgt hx hw
    obtain ⟨u, hu⟩ := lab₁ s₂ c2
    rcases Nat.lt_trichotomy u v with ult | ueq | ugt
    · have := (ih u ult s₂ c2).mp hu
      have := isLab_inj this l2; omega
    · subst ueq
      obtain ⟨v', a, b⟩ := (part s₂ x c2 hx).mp ⟨u, hu, h1⟩
      have e1 := isLab_inj a l2
      have e2 := isLab_inj b hw
      omega
    · obtain ⟨s₁, c1, l1, m1⟩ := o₁ v u s₂ ugt c2 hu
      have lt1 : s₁ < s₂ := m1 s₂ c2 hu
      obtain ⟨v', a, b⟩ := (part s₁ x c1 hx).mp ⟨v, l1, h1⟩
      have e2 := isLab_inj b hw
      subst e2
      have lt2 : s₂ < s₁ := m2 s₁ c1 a
      omega

/-- two labellings of the same samples `C` that induce the same partition of `C` and both number their
classes in the order of the smallest member are equal on `C` -/
theorem labels_eq_of_spec (C : Nat → Prop) (L₁ L₂ : List (Option Nat))
    (lab₁ : ∀ x, C x → ∃ v, isLab L₁ x v) (lab₂ : ∀ x, C x → ∃ v, isLab L₂ x v)
    (part : ∀ x y, C x → C y →
      ((∃ v, isLab L₁ x v ∧ isLab L₁ y v) ↔ (∃ v, isLab L₂ x v ∧ isLab L₂ y v)))
    (o₁ : ∀ v w y, v < w → C y → isLab L₁ y w →
      ∃ s, C s ∧ isLab L₁ s v ∧ ∀ y', C y' → isLab L₁ y' w → s < y')
    (o₂ : ∀ v w y, v < w → C y → isLab L₂ y w →
      ∃ s, C s ∧ isLab L₂ s v ∧ ∀ y', C y' → isLab L₂ y' w → s < y') :
    ∀ v x, C x → (isLab L₁ x v ↔ isLab L₂ x v) := by
  intro v
  induction v using Nat.strongRecOn with
  | _ v ih =>
    intro x hx
    constructor
    · exact labels_eq_dir C L₁ L₂ lab₁ lab₂ part o₁ o₂ v ih x hx
    · exact labels_eq_dir C L₂ L₁ lab₂ lab₁ (fun x y a b => (part x y a b).symm) o₂ o₁ v
        (fun u hu x hx => (ih u hu x hx).symm) x hx

/-- for a neighbour table that is empty from row `n` on, the three hypotheses on `nbrs` are a finite check of
the rows below `n` -/
theorem table_ok (f : Nat → List Nat) (n : Nat) (hout : ∀ i, f (i + n) = [])
    (h : ∀ i < n, (f i).Nodup ∧ ∀ j ∈ f i, j < n ∧ i ∈ f j) :
    (∀ i, ∀ j ∈ f i, j < n) ∧ (∀ i, (f i).Nodup) ∧ (∀ i j, j ∈ f i → i ∈ f j) := by
  have row : ∀ i, i < n ∨ f i = [] := fun i =>
    (Nat.lt_or_ge i n).imp_right fun hi => by rw [← Nat.sub_add_cancel hi]; exact hout _
  refine ⟨fun i j hj => ?_, fun i => ?_, fun i j hj => ?_⟩ <;> rcases row i with hi | hi
  · exact ((h i hi).2 j hj).1
  · rw [hi] at hj; cases hj
  · exact (h i hi).1
  · rw [hi]; exact List.nodup_nil
  · exact ((h i hi).2 j hj).2
  · rw [hi] at hj; cases hj

end LinfaSpec.Dbscan
