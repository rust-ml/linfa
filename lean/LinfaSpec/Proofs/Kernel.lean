import LinfaSpec.Model.Kernel
import LinfaSpec.Proofs.Scalar
import LinfaSpec.Proofs.Lists
import Mathlib.Tactic.Ring
import Mathlib.Tactic.Abel
import Mathlib.Algebra.BigOperators.Group.List.Basic
import Mathlib.Algebra.BigOperators.Ring.Finset
import Mathlib.Algebra.BigOperators.Group.Finset.Sigma

/-! Dense kernels: the summation orders of the model (`sumS`, `ndSum`) against `List.sum`, symmetry of the two distance
functions, and the quadratic form of the linear kernel matrix as a sum of squares. -/
namespace LinfaSpec.Kernel
open LinfaSpec

section sums
variable {α : Type} [AddCommMonoid α]

/-- the last line of `unrolled_fold`: the eight partial sums are added up in the pairs `(p0 + p4) + (p1 + p5) + …` -/
def lanes : α × α × α × α × α × α × α × α → α
  | (p0, p1, p2, p3, p4, p5, p6, p7) => p0 + p4 + (p1 + p5) + (p2 + p6) + (p3 + p7)

theorem unrolled8_sum (xs : List α) (p : α × α × α × α × α × α × α × α) :
    lanes (unrolled8 xs p).1 + (unrolled8 xs p).2.sum = lanes p + xs.sum := by
  fun_induction unrolled8 xs p with
  | case1 x0 x1 x2 x3 x4 x5 x6 x7 rest p0 p1 p2 p3 p4 p5 p6 p7 ih =>
    rw [ih]
    simp only [lanes, List.sum_cons]
    abel
  | case2 xs p h => rfl

/-- ndarray's eightfold unrolled sum is the sum -/
theorem ndSum_eq_sum (xs : List α) : ndSum xs = xs.sum := by
  have h := unrolled8_sum xs (0, 0, 0, 0, 0, 0, 0, 0)
  unfold ndSum
  generalize unrolled8 xs (0, 0, 0, 0, 0, 0, 0, 0) = r at h ⊢
  obtain ⟨⟨p0, p1, p2, p3, p4, p5, p6, p7⟩, rest⟩ := r
  simp only [lanes, zero_add] at h
  dsimp only
  rw [foldl_add_eq, zero_add, h]

end sums

section symm
variable {α : Type} [CommRing α]

theorem sqDist_comm (a b : List α) : sqDist a b = sqDist b a :=
  congrArg sumS (List.zipWith_comm_of_comm fun x y => by ring)

theorem ndDot_comm (a b : List α) : ndDot a b = ndDot b a :=
  congrArg ndSum (List.zipWith_comm_of_comm mul_comm)

theorem sqDist_self (a : List α) : sqDist a a = 0 := by
  rw [sqDist, sumS_eq_sum, List.zipWith_self]
  simp only [sub_self, mul_zero, List.sum_map_zero]

end symm

theorem getD_mem {β : Type} (l : List β) (i : Nat) (h : i < l.length) (e : β) : l.getD i e ∈ l := by
  simp [List.getD_eq_getElem?_getD, h]

section finsum
open Finset
variable {α : Type} [CommRing α]

theorem list_sum_eq_range (l : List α) : l.sum = ∑ i ∈ range l.length, l.getD i 0 := by
  induction l with
  | nil => simp
  | cons x xs ih =>
    rw [List.length_cons, Finset.sum_range_succ', List.sum_cons, ih, add_comm]
    rfl

theorem zipWith_sum_range {β γ : Type} (f : β → γ → α) (a : List β) (b : List γ) (n : Nat)
    (ha : a.length = n) (hb : b.length = n) (da : β) (db : γ) :
    (List.zipWith f a b).sum = ∑ i ∈ range n, f (a.getD i da) (b.getD i db) := by
  rw [list_sum_eq_range]
  have hl : (List.zipWith f a b).length = n := by simp [ha, hb]
  rw [hl]
  apply Finset.sum_congr rfl
  intro c hc
  have hc' : c < n := Finset.mem_range.mp hc
  simp [List.getD_eq_getElem?_getD, ha, hb, hc']

theorem sum_gram (n p : Nat) (v : Nat → α) (x : Nat → Nat → α) :
    ∑ i ∈ range n, v i * ∑ j ∈ range n, (∑ c ∈ range p, x i c * x j c) * v j =
      ∑ c ∈ range p, (∑ i ∈ range n, v i * x i c) ^ 2 := by
  simp only [sq, Finset.sum_mul_sum]
  rw [Finset.sum_comm]
  refine Finset.sum_congr rfl fun i _ => ?_
  rw [Finset.mul_sum, Finset.sum_comm]
  refine Finset.sum_congr rfl fun j _ => ?_
  rw [Finset.sum_mul, Finset.mul_sum]
  exact Finset.sum_congr rfl fun c _ => by ring

/-- `vᵀ K v = Σ_c (Σ_i v_i x_ic)²` for the linear kernel matrix of records with `p` features -/
theorem quadForm_linear [Div α] [Transc α] [KPow α] (X : List (List α)) (p : Nat)
    (hX : ∀ r ∈ X, r.length = p) (v : List α) (hv : v.length = X.length) :
    quadForm v (dense Method.linear X) =
      ∑ c ∈ range p, (∑ i ∈ range X.length, v.getD i 0 * (X.getD i []).getD c 0) ^ 2 := by
  refine Eq.trans ?_ (sum_gram X.length p (fun i => v.getD i 0) fun i c => (X.getD i []).getD c 0)
  rw [quadForm, sumS_eq_sum, zipWith_sum_range _ v _ X.length hv (by rw [dense, List.length_map]) 0 []]
  refine Finset.sum_congr rfl fun i hi => congrArg _ ?_
  have hi := Finset.mem_range.mp hi
  rw [dense, getD_map_of_lt _ hi [] [], dotS, sumS_eq_sum, zipWith_sum_range _ _ v X.length (List.length_map _) hv 0 0]
  refine Finset.sum_congr rfl fun j hj => congrArg (· * _) ?_
  have hj := Finset.mem_range.mp hj
  rw [getD_map_of_lt _ hj [] 0, kernelFn, ndDot, ndSum_eq_sum,
    zipWith_sum_range _ _ _ p (hX _ (getD_mem X i hi [])) (hX _ (getD_mem X j hj [])) 0 0]

end finsum
end LinfaSpec.Kernel
