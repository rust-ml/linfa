import LinfaSpec.Model.Vectorizer
import LinfaSpec.Proofs.Lists
import Mathlib.Order.Defs.LinearOrder
import Mathlib.Algebra.Order.Field.Basic
import Mathlib.Data.List.Perm.Subperm

/-! Lemmas for C17 about the model `LinfaSpec.Vectorizer`: the vocabulary map as an association list whose keys stay
distinct (`keys`, `addKey`), count rows as maps over the vocabulary vector, the cap order read lexicographically
and what a capped selection surely contains (`top_sure`), the loop invariant of `ngram_items`, the sparse row,
the relative document-frequency window. -/
namespace LinfaSpec.Vectorizer

section
variable {γ : Type} [DecidableEq γ]

/-! ### re-indexing and lookup -/

set_option linter.unusedSectionVars false in
theorem reindex_map_fst (l : List (Entry γ)) (k : Nat) : (reindex l k).map (·.1) = l.map (·.1) := by
  induction l generalizing k with
  | nil => rfl
  | cons e t ih => simp only [reindex, List.map_cons, ih]

-- keeps the section's `[DecidableEq γ]`: the statement of `reindex_getElem` mentions this lemma with that argument
set_option linter.unusedSectionVars false in
theorem reindex_length (l : List (Entry γ)) (k : Nat) : (reindex l k).length = l.length := by
  induction l generalizing k with
  | nil => rfl
  | cons e t ih => simp only [reindex, List.length_cons, ih]

theorem reindex_getElem (l : List (Entry γ)) (k j : Nat) (h : j < l.length) :
    (reindex l k)[j]'(by rw [reindex_length]; exact h) = (l[j].1, k + j, l[j].2.2) := by
  induction l generalizing k j with
  | nil => cases h
  | cons e t ih =>
    cases j with
    | zero => rfl
    | succ j =>
      simp only [reindex, List.getElem_cons_succ]
      rw [ih (k + 1) j (Nat.lt_of_succ_lt_succ h), Nat.add_assoc, Nat.add_comm 1 j]

theorem lookupIdx_reindex (l : List (Entry γ)) (k : Nat) (g : γ) :
    lookupIdx (reindex l k) g =
      if g ∈ l.map (·.1) then some (k + List.idxOf g (l.map (·.1))) else none := by
  induction l generalizing k with
  | nil => rfl
  | cons e t ih =>
    simp only [lookupIdx, reindex, List.find?_cons, List.map_cons, List.idxOf_cons, List.mem_cons] at ih ⊢
    by_cases h : e.1 = g
    · simp only [h, beq_self_eq_true, true_or, if_true, cond_true, Option.map_some, Nat.add_zero]
    · have h' : ¬ g = e.1 := fun x => h x.symm
      simp only [beq_false_of_ne h, ih, h', false_or, cond_false, Nat.add_assoc, Nat.add_comm 1]

/-! ### the vocabulary map while reading the corpus -/

/-- document frequency of `w` over a corpus of entry lists: the number of documents in which it occurs -/
def docFreq (docs : List (List γ)) (w : γ) : Nat := docs.countP fun d => 0 < d.count w

def keys (voc : List (Entry γ)) : List γ := voc.map (·.1)

omit [DecidableEq γ] in
theorem mem_keys {voc : List (Entry γ)} {g : γ} : g ∈ keys voc ↔ ∃ e ∈ voc, e.1 = g :=
  List.mem_map

theorem any_key_iff (voc : List (Entry γ)) (g : γ) : (voc.any fun e => e.1 == g) = true ↔ g ∈ keys voc := by
  simp only [List.any_eq_true, beq_iff_eq, mem_keys]

/-- what both insertion loops do to the key list -/
def addKey (ks : List γ) (g : γ) : List γ := if g ∈ ks then ks else ks ++ [g]

theorem mem_addKey {ks : List γ} {g x : γ} : x ∈ addKey ks g ↔ x ∈ ks ∨ x = g := by
  unfold addKey
  split
  · rename_i hg
    exact ⟨Or.inl, fun h => h.elim id (· ▸ hg)⟩
  · rw [List.mem_append, List.mem_singleton]

theorem nodup_addKey {ks : List γ} (h : ks.Nodup) (g : γ) : (addKey ks g).Nodup := by
  unfold addKey
  split
  · exact h
  · rename_i hg
    exact List.nodup_append.mpr ⟨h, List.pairwise_singleton _ g, fun x hx y hy => by
      rw [List.mem_singleton.mp hy]; rintro rfl; exact hg hx⟩

theorem keys_bump (voc : List (Entry γ)) (g : γ) : keys (bump voc g) = addKey (keys voc) g := by
  unfold bump addKey
  simp only [any_key_iff]
  split
  · -- a bump changes no key
    rw [keys, List.map_map]
    refine List.map_congr_left fun e _ => ?_
    rw [Function.comp_apply]
    split <;> rfl
  · exact List.map_append ..

theorem keys_insertWord (voc : List (Entry γ)) (w : γ) : keys (insertWord voc w) = addKey (keys voc) w := by
  unfold insertWord addKey
  simp only [any_key_iff]
  split
  · rfl
  · exact List.map_append ..

theorem keys_foldl {f : List (Entry γ) → γ → List (Entry γ)}
    (hf : ∀ voc g, keys (f voc g) = addKey (keys voc) g) (l : List γ) (voc : List (Entry γ))
    (h : (keys voc).Nodup) :
    (keys (l.foldl f voc)).Nodup ∧ ∀ g, g ∈ keys (l.foldl f voc) ↔ g ∈ keys voc ∨ g ∈ l := by
  induction l generalizing voc with
  | nil => exact ⟨h, fun g => (or_iff_left List.not_mem_nil).symm⟩
  | cons a t ih =>
    obtain ⟨i1, i2⟩ := ih (f voc a) (hf voc a ▸ nodup_addKey h a)
    refine ⟨i1, fun g => ?_⟩
    rw [List.foldl_cons, i2, hf, List.mem_cons, ← or_assoc, mem_addKey]

theorem keys_foldl_nil {f : List (Entry γ) → γ → List (Entry γ)}
    (hf : ∀ voc g, keys (f voc g) = addKey (keys voc) g) (l : List γ) :
    (keys (l.foldl f [])).Nodup ∧ ∀ g, g ∈ keys (l.foldl f []) ↔ g ∈ l :=
  (keys_foldl hf l [] List.nodup_nil).imp_right fun h g => (h g).trans (or_iff_right List.not_mem_nil)

/-- one `bump` keeps "every stored frequency is the number `c` of sightings of its word" -/
theorem bump_freq {voc : List (Entry γ)} {c : γ → Nat} (hk : ∀ x, x ∉ keys voc → c x = 0)
    (hf : ∀ e ∈ voc, e.2.2 = c e.1) (g : γ) :
    ∀ e ∈ bump voc g, e.2.2 = c e.1 + if g = e.1 then 1 else 0 := by
  intro e he
  by_cases hg : g ∈ keys voc
  · rw [bump, if_pos ((any_key_iff ..).mpr hg)] at he
    obtain ⟨e0, h0, rfl⟩ := List.mem_map.mp he
    by_cases h : e0.1 = g
    · rw [if_pos h, if_pos h.symm]; exact congrArg (· + 1) (hf e0 h0)
    · rw [if_neg h, if_neg (Ne.symm h)]; exact hf e0 h0
  · rw [bump, if_neg (mt (any_key_iff ..).mp hg)] at he
    rcases List.mem_append.mp he with h0 | h0
    · rw [if_neg fun h => hg (mem_keys.mpr ⟨e, h0, h.symm⟩)]; exact hf e h0
    · rw [List.mem_singleton.mp h0, if_pos rfl, hk g hg]

theorem foldl_bump_freq (l : List γ) {voc : List (Entry γ)} {c : γ → Nat}
    (hk : ∀ x, x ∉ keys voc → c x = 0) (hf : ∀ e ∈ voc, e.2.2 = c e.1) :
    ∀ e ∈ l.foldl bump voc, e.2.2 = c e.1 + l.count e.1 := by
  induction l generalizing voc c with
  | nil => exact hf
  | cons g t ih =>
    intro e he
    rw [ih (c := fun x => c x + if g = x then 1 else 0) ?_ (bump_freq hk hf g) e he,
      List.count_cons, Nat.add_assoc, Nat.add_comm (List.count ..)]
    · simp only [beq_iff_eq]
    · intro x hx
      rw [keys_bump, mem_addKey, not_or] at hx
      rw [hk x hx.1, if_neg (Ne.symm hx.2)]

theorem count_eraseDups (l : List γ) (h : γ) : l.eraseDups.count h = if h ∈ l then 1 else 0 := by
  rw [(nodup_eraseDups l).count]
  simp only [List.mem_eraseDups]

/-- the corpus loop is one run of `bump` over the documents' entry sets laid end to end -/
theorem readCorpus_eq (docs : List (List γ)) :
    readCorpus docs = (docs.flatMap List.eraseDups).foldl bump [] :=
  List.foldl_flatMap.symm

theorem count_flatMap_eraseDups (docs : List (List γ)) (w : γ) :
    (docs.flatMap List.eraseDups).count w = docFreq docs w := by
  unfold docFreq
  induction docs with
  | nil => rfl
  | cons d ds ih =>
    rw [List.flatMap_cons, List.count_append, ih, count_eraseDups, List.countP_cons, Nat.add_comm]
    simp only [List.count_pos_iff, decide_eq_true_eq]

theorem readCorpus_spec (docs : List (List γ)) :
    (keys (readCorpus docs)).Nodup ∧
    (∀ g, g ∈ keys (readCorpus docs) ↔ ∃ d ∈ docs, g ∈ d) ∧
    ∀ e ∈ readCorpus docs, e.2.2 = docFreq docs e.1 := by
  rw [readCorpus_eq]
  obtain ⟨hnd, hmem⟩ := keys_foldl_nil keys_bump (docs.flatMap List.eraseDups)
  refine ⟨hnd, fun g => ?_, fun e he => ?_⟩
  · simp only [hmem, List.mem_flatMap, List.mem_eraseDups]
  · rw [foldl_bump_freq _ (c := fun _ => 0) (fun _ _ => rfl) (fun _ h => absurd h List.not_mem_nil) e he,
      Nat.zero_add, count_flatMap_eraseDups]

/-! ### consistent vectorisers and their count matrix -/

/-- the two views of a fitted vectoriser describe the same bijection word ↔ column -/
structure Consistent (F : Fitted γ) : Prop where
  nodup : F.vec.Nodup
  lookup : ∀ g, lookupIdx F.vocabulary g = if g ∈ F.vec then some (List.idxOf g F.vec) else none
  len : F.vocabulary.length = F.vec.length

theorem hashmapToVocabulary_consistent (order : List (Entry γ) → List (Entry γ)) (voc : List (Entry γ))
    (hperm : (order voc).Perm voc) (hnd : (keys voc).Nodup) :
    Consistent (hashmapToVocabulary order voc) :=
  ⟨(hperm.map _).nodup_iff.mpr hnd,
    fun g => (lookupIdx_reindex _ 0 g).trans (by simp only [Nat.zero_add]; rfl),
    (reindex_length _ 0).trans (List.length_map _).symm⟩

theorem consistent_index (F : Fitted γ) (hF : Consistent F) :
    (∀ j (h : j < F.vec.length), lookupIdx F.vocabulary F.vec[j] = some j) ∧
    (∀ g j, lookupIdx F.vocabulary g = some j → ∃ h : j < F.vec.length, F.vec[j] = g) := by
  constructor
  · intro j h
    rw [hF.lookup, if_pos (List.getElem_mem h), hF.nodup.idxOf_getElem j h]
  · intro g j hj
    rw [hF.lookup] at hj
    by_cases hg : g ∈ F.vec
    · rw [if_pos hg] at hj
      cases hj
      exact ⟨List.idxOf_lt_length_iff.mpr hg, List.getElem_idxOf _⟩
    · rw [if_neg hg] at hj; cases hj

/-- a row is kept in the form `vec.map c` (`c w` = the count so far in the column of `w`): counting one
more entry `g` adds one in the column of `g`, if it has one -/
theorem countStep_map {F : Fitted γ} (hF : Consistent F) (c : γ → Nat) (g : γ) :
    countStep F.vocabulary (F.vec.map c) g = F.vec.map fun w => c w + if g = w then 1 else 0 := by
  obtain ⟨voc, vec⟩ := F
  have hnd : vec.Nodup := hF.nodup
  unfold countStep
  rw [hF.lookup g]
  by_cases hg : g ∈ vec
  · rw [if_pos hg]
    apply List.ext_getElem (by simp only [List.length_modify, List.length_map])
    intro j h1 h2
    have hj : j < vec.length := by simpa only [List.length_map] using h2
    -- in a duplicate-free list `g` sits at position `j` iff `j` is its first position
    have : List.idxOf g vec = j ↔ g = vec[j] :=
      ⟨fun h => by subst h; exact (List.getElem_idxOf hj).symm, fun h => h ▸ hnd.idxOf_getElem j hj⟩
    simp only [List.getElem_modify, List.getElem_map, this]
    split <;> rfl
  · rw [if_neg hg]
    exact List.map_congr_left fun w hw => by rw [if_neg fun h : g = w => hg (h ▸ hw)]; rfl

theorem foldl_countStep_map {F : Fitted γ} (hF : Consistent F) (grams : List γ) (c : γ → Nat) :
    grams.foldl (countStep F.vocabulary) (F.vec.map c) = F.vec.map fun w => c w + grams.count w := by
  induction grams generalizing c with
  | nil => rfl
  | cons g gs ih =>
    rw [List.foldl_cons, countStep_map hF, ih]
    exact List.map_congr_left fun w _ => by
      rw [List.count_cons, Nat.add_assoc, Nat.add_comm (List.count ..)]; simp only [beq_iff_eq]

theorem analyzeDocument_eq (F : Fitted γ) (hF : Consistent F) (grams : List γ) :
    analyzeDocument F grams = F.vec.map fun w => grams.count w := by
  unfold analyzeDocument
  rw [hF.len, ← List.map_const', foldl_countStep_map hF]
  simp only [Nat.zero_add]

/-- the loop of `get_term_and_document_frequencies`, the document frequencies kept as a map over the vocabulary -/
theorem foldl_tdStep {F : Fitted γ} (hF : Consistent F) (docs : List (List γ)) (rows : List (List Nat))
    (a : γ → Nat) :
    docs.foldl (tdStep F) (rows, F.vec.map a) =
      (rows ++ docs.map fun d => F.vec.map fun w => d.count w, F.vec.map fun w => a w + docFreq docs w) := by
  unfold docFreq
  induction docs generalizing rows a with
  | nil => exact Prod.ext (List.append_nil _).symm rfl
  | cons d ds ih =>
    rw [List.foldl_cons, tdStep, analyzeDocument_eq F hF, bumpDocFreqs, List.zipWith_map, List.zipWith_self, ih,
      List.append_assoc, List.map_cons, List.singleton_append]
    refine Prod.ext rfl (List.map_congr_left fun w _ => ?_)
    rw [List.countP_cons]
    by_cases h : 0 < d.count w
    · rw [if_pos h, if_pos (decide_eq_true h), Nat.add_right_comm, Nat.add_assoc]
    · rw [if_neg h, if_neg (by rw [decide_eq_false h]; exact Bool.false_ne_true)]; rfl

theorem termAndDocFreqs_eq (F : Fitted γ) (hF : Consistent F) (docs : List (List γ)) :
    termAndDocFreqs F docs =
      (docs.map fun d => F.vec.map fun w => d.count w, F.vec.map fun w => docFreq docs w) := by
  unfold termAndDocFreqs
  rw [hF.len, ← List.map_const', foldl_tdStep hF]
  simp only [List.nil_append, Nat.zero_add]

theorem transform_eq (F : Fitted γ) (hF : Consistent F) (docs : List (List γ)) :
    transform F docs = docs.map fun d => F.vec.map fun w => d.count w :=
  congrArg Prod.fst (termAndDocFreqs_eq F hF docs)

theorem transformTfIdf_eq {α : Type} [Add α] [Mul α] [Div α] [OfNat α 0] [OfNat α 1] [NatCast α] [Transc α]
    (m : Method) (F : Fitted γ) (hF : Consistent F) (docs : List (List γ)) :
    transformTfIdf (α := α) m F docs = docs.map fun d => F.vec.map fun w =>
      if d.count w = 0 then (0 : α) else (d.count w : α) * computeIdf m docs.length (docFreq docs w) := by
  unfold transformTfIdf applyTfIdf
  rw [termAndDocFreqs_eq F hF]
  simp only [List.map_map, List.length_map, List.zipWith_map, List.zipWith_self, Function.comp_def]

/-! ### filtering, and the vocabulary vector of a fit -/

/-- without a cap `filter_vocabulary` keeps the entries inside the window and outside the stop list; its shortcut
for the window `0 ..= nDocs` (no frequency test at all) keeps the same entries, because no stored frequency
exceeds the number of documents -/
theorem mem_filterVocab_none [LT γ] [DecidableLT γ] (voc : List (Entry γ)) (n minAbs maxAbs : Nat)
    (stop : Option (List γ)) (hdf : ∀ e ∈ voc, e.2.2 ≤ n) (e : Entry γ) :
    e ∈ filterVocab voc n minAbs maxAbs stop none ↔
      e ∈ voc ∧ minAbs ≤ e.2.2 ∧ e.2.2 ≤ maxAbs ∧ ∀ s, stop = some s → e.1 ∉ s := by
  unfold filterVocab
  split
  · rename_i hb
    obtain ⟨rfl, rfl⟩ := hb
    have : ∀ p : Prop, (e ∈ voc ∧ 0 ≤ e.2.2 ∧ e.2.2 ≤ maxAbs ∧ p) ↔ e ∈ voc ∧ p := fun p =>
      and_congr_right fun he => ⟨fun h => h.2.2, fun h => ⟨Nat.zero_le _, hdf e he, h⟩⟩
    rw [this]
    cases stop with
    | none => simp only [reduceCtorEq, false_implies, implies_true, and_true]
    | some s =>
      simp only [List.mem_filter, List.contains_eq_mem, Bool.not_eq_true', decide_eq_false_iff_not,
        Option.some.injEq, forall_eq']
  · cases stop with
    | none =>
      simp only [List.mem_filter, ge_iff_le, Bool.and_eq_true, decide_eq_true_eq, reduceCtorEq, false_implies,
        implies_true, and_true]
    | some s =>
      simp only [List.mem_filter, ge_iff_le, Bool.and_eq_true, decide_eq_true_eq, and_assoc, List.contains_eq_mem,
        Bool.not_eq_true', decide_eq_false_iff_not, Option.some.injEq, forall_eq']

theorem filterVocab_none_sublist [LT γ] [DecidableLT γ] (voc : List (Entry γ)) (n minAbs maxAbs : Nat)
    (stop : Option (List γ)) : (filterVocab voc n minAbs maxAbs stop none).Sublist voc := by
  unfold filterVocab
  split <;> cases stop
  · exact List.Sublist.refl _
  · exact List.filter_sublist
  · exact List.filter_sublist
  · exact List.filter_sublist

theorem filtered_spec [LT γ] [DecidableLT γ] (docs : List (List γ)) (minAbs maxAbs : Nat) (stop : Option (List γ)) :
    let V := filterVocab (readCorpus docs) docs.length minAbs maxAbs stop none
    (keys V).Nodup ∧
    (∀ e ∈ V, e.2.2 = docFreq docs e.1) ∧
    ∀ g, g ∈ keys V ↔ (∃ d ∈ docs, g ∈ d) ∧ minAbs ≤ docFreq docs g ∧ docFreq docs g ≤ maxAbs ∧
      ∀ s, stop = some s → g ∉ s := by
  intro V
  obtain ⟨hnd, hmem, hfreq⟩ := readCorpus_spec docs
  have hV : ∀ e, e ∈ V ↔ e ∈ readCorpus docs ∧ minAbs ≤ e.2.2 ∧ e.2.2 ≤ maxAbs ∧ ∀ s, stop = some s → e.1 ∉ s :=
    mem_filterVocab_none _ _ _ _ _ fun e he => hfreq e he ▸ List.countP_le_length
  refine ⟨((filterVocab_none_sublist ..).map _).nodup hnd, fun e he => hfreq e ((hV e).mp he).1, fun g => ?_⟩
  rw [← hmem]
  constructor
  · intro hg
    obtain ⟨e, he, rfl⟩ := mem_keys.mp hg
    obtain ⟨h1, h2⟩ := (hV e).mp he
    exact ⟨mem_keys.mpr ⟨e, h1, rfl⟩, hfreq e h1 ▸ h2⟩
  · rintro ⟨h1, h2⟩
    obtain ⟨e, he, rfl⟩ := mem_keys.mp h1
    exact mem_keys.mpr ⟨e, (hV e).mpr ⟨he, (hfreq e he).symm ▸ h2⟩, rfl⟩

theorem fit_vec_perm [LT γ] [DecidableLT γ] (order : List (Entry γ) → List (Entry γ))
    (horder : ∀ l, (order l).Perm l) (docs : List (List γ)) (minAbs maxAbs : Nat) (stop : Option (List γ))
    (cap : Option Nat) :
    (fit order docs minAbs maxAbs stop cap).vec.Perm
      (keys (filterVocab (readCorpus docs) docs.length minAbs maxAbs stop cap)) :=
  (horder _).map _

end

/-! ### the order of the feature cap -/

/-- the sort key read lexicographically: frequency descending, then word descending, then index ascending -/
theorem capLe_iff {γ} [LinearOrder γ] (a b : Nat × γ × Nat) :
    capLe a b = true ↔ b.1 < a.1 ∨ b.1 = a.1 ∧ (b.2.1 < a.2.1 ∨ b.2.1 = a.2.1 ∧ a.2.2 ≤ b.2.2) := by
  unfold capLe
  rcases Nat.lt_trichotomy b.1 a.1 with h | h | h
  · simp only [gt_iff_lt, h, if_true, true_or]
  · rcases lt_trichotomy b.2.1 a.2.1 with h2 | h2 | h2
    · simp only [gt_iff_lt, h, Nat.lt_irrefl, if_false, h2, if_true, true_and, true_or, false_or]
    · simp only [gt_iff_lt, h, if_false, h2, lt_irrefl, true_and, false_or, decide_eq_true_eq]
    · simp only [gt_iff_lt, h, Nat.lt_irrefl, if_false, h2, lt_asymm h2, ne_of_gt h2, if_true, true_and,
        false_and, or_false, Bool.false_eq_true]
  · simp only [gt_iff_lt, Nat.lt_asymm h, h, (Nat.ne_of_lt h).symm, if_false, if_true, false_or, false_and,
      Bool.false_eq_true]

theorem capLe_total {γ} [LinearOrder γ] (a b : Nat × γ × Nat) : (capLe a b || capLe b a) = true := by
  rw [Bool.or_eq_true, capLe_iff, capLe_iff]
  rcases Nat.lt_trichotomy b.1 a.1 with h | h | h
  · exact .inl (.inl h)
  · rcases lt_trichotomy b.2.1 a.2.1 with h2 | h2 | h2
    · exact .inl (.inr ⟨h, .inl h2⟩)
    · exact (Nat.le_total a.2.2 b.2.2).imp (fun h3 => .inr ⟨h, .inr ⟨h2, h3⟩⟩)
        fun h3 => .inr ⟨h.symm, .inr ⟨h2.symm, h3⟩⟩
    · exact .inr (.inr ⟨h.symm, .inl h2⟩)
  · exact .inr (.inl h)

theorem capLe_trans {γ} [LinearOrder γ] (a b c : Nat × γ × Nat) (h1 : capLe a b = true) (h2 : capLe b c = true) :
    capLe a c = true := by
  rw [capLe_iff] at *
  rcases h1 with h1 | ⟨e1, h1⟩
  · exact .inl (h2.elim (fun h => Nat.lt_trans h h1) fun h => h.1 ▸ h1)
  rcases h2 with h2 | ⟨e2, h2⟩
  · exact .inl (e1 ▸ h2)
  refine .inr ⟨e2.trans e1, ?_⟩
  rcases h1 with h1 | ⟨f1, h1⟩
  · exact .inl (h2.elim (fun h => lt_trans h h1) fun h => h.1 ▸ h1)
  rcases h2 with h2 | ⟨f2, h2⟩
  · exact .inl (f1 ▸ h2)
  exact .inr ⟨f2.trans f1, Nat.le_trans h1 h2⟩

section
variable {γ : Type} [LinearOrder γ]

def toKey (e : Entry γ) : Nat × γ × Nat := (e.2.2, e.1, e.2.1)
def ofKey (k : Nat × γ × Nat) : Entry γ := (k.2.1, k.2.2, k.1)

/-- the cap step of `filter_vocabulary` on an already filtered map -/
def capTop (m : Nat) (v : List (Entry γ)) : List (Entry γ) :=
  (((v.map toKey).mergeSort capLe).take m).map ofKey

theorem filterVocab_some (voc : List (Entry γ)) (n a b : Nat) (stop : Option (List γ)) (m : Nat) :
    filterVocab voc n a b stop (some m) = capTop m (filterVocab voc n a b stop none) := rfl

theorem capSorted_perm (v : List (Entry γ)) : (((v.map toKey).mergeSort capLe).map ofKey).Perm v := by
  have h := (List.mergeSort_perm (v.map toKey) capLe).map ofKey
  rwa [List.map_map, List.map_congr_left (f := ofKey ∘ toKey) (g := id) fun _ _ => rfl, List.map_id] at h

theorem capTop_sublist (m : Nat) (v : List (Entry γ)) :
    (capTop m v).Sublist (((v.map toKey).mergeSort capLe).map ofKey) :=
  (List.take_sublist _ _).map _

theorem capTop_subset (m : Nat) (v : List (Entry γ)) (e : Entry γ) (he : e ∈ capTop m v) : e ∈ v :=
  (capSorted_perm v).mem_iff.mp ((capTop_sublist m v).subset he)

theorem capTop_keys_nodup (m : Nat) (v : List (Entry γ)) (h : (keys v).Nodup) : (keys (capTop m v)).Nodup :=
  ((capTop_sublist m v).map _).nodup (((capSorted_perm v).map _).nodup_iff.mpr h)

theorem capTop_top (m : Nat) (v : List (Entry γ)) (a b : Entry γ)
    (ha : a ∈ capTop m v) (hb : b ∈ v) (hnb : b ∉ capTop m v) (hne : a.1 ≠ b.1) :
    b.2.2 < a.2.2 ∨ (b.2.2 = a.2.2 ∧ b.1 < a.1) := by
  have hs := List.pairwise_mergeSort (le := capLe) capLe_trans capLe_total (v.map toKey)
  rw [← List.take_append_drop m ((v.map toKey).mergeSort capLe), List.pairwise_append] at hs
  obtain ⟨k, hk, rfl⟩ := List.mem_map.mp ha
  have hbk : toKey b ∈ (v.map toKey).mergeSort capLe :=
    (List.mergeSort_perm _ _).mem_iff.mpr (List.mem_map_of_mem hb)
  rw [← List.take_append_drop m ((v.map toKey).mergeSort capLe), List.mem_append] at hbk
  rcases hbk with h | h
  · exact absurd (List.mem_map_of_mem (f := ofKey) h) hnb
  · rcases (capLe_iff ..).mp (hs.2.2 k hk (toKey b) h) with h | ⟨e, h | ⟨e2, _⟩⟩
    · exact .inl h
    · exact .inr ⟨e, h⟩
    · exact absurd e2.symm hne

theorem capTop_keys_spec (m : Nat) (v : List (Entry γ)) (hnd : (keys v).Nodup) (f : γ → Nat)
    (hf : ∀ e ∈ v, e.2.2 = f e.1) :
    (keys (capTop m v)).Nodup ∧ (keys (capTop m v)).length = min m (keys v).length ∧
    (∀ g ∈ keys (capTop m v), g ∈ keys v) ∧
    ∀ a ∈ keys (capTop m v), ∀ b ∈ keys v, b ∉ keys (capTop m v) → f b < f a ∨ (f b = f a ∧ b < a) := by
  refine ⟨capTop_keys_nodup m v hnd, ?_, ?_, ?_⟩
  · rw [keys, keys, capTop, List.length_map, List.length_map, List.length_map, List.length_take,
      (List.mergeSort_perm ..).length_eq, List.length_map]
  · intro g hg
    obtain ⟨e, he, rfl⟩ := mem_keys.mp hg
    exact mem_keys.mpr ⟨e, capTop_subset m v e he, rfl⟩
  · intro a ha b hb hnb
    obtain ⟨ea, hea, rfl⟩ := mem_keys.mp ha
    obtain ⟨eb, heb, rfl⟩ := mem_keys.mp hb
    have := capTop_top m v ea eb hea heb (fun h => hnb (mem_keys.mpr ⟨eb, h, rfl⟩)) fun h => hnb (h ▸ ha)
    rwa [hf ea (capTop_subset m v ea hea), hf eb heb] at this

end

/-- what a selection `V` of `min m |A|` elements of `A` that are greatest under a score `f` surely contains and
surely leaves out, whatever the choice among equals: an element with fewer than `m` rivals of at least its score
is in, one with at least `m` elements of strictly higher score is out -/
theorem top_sure {γ : Type} [DecidableEq γ] {A V : List γ} {f : γ → Nat} {m : Nat} (hV : V.Nodup) (hA : A.Nodup)
    (hlen : V.length = min m A.length) (hsub : ∀ g ∈ V, g ∈ A)
    (htop : ∀ a ∈ V, ∀ b ∈ A, b ∉ V → f b ≤ f a) (a : γ) (ha : a ∈ A) :
    ((A.filter fun b => decide (b ≠ a) && decide (f a ≤ f b)).length < m → a ∈ V) ∧
    (m ≤ (A.filter fun b => decide (f a < f b)).length → a ∉ V) := by
  have card : ∀ {l l' : List γ}, l.Nodup → (∀ x ∈ l, x ∈ l') → l.length ≤ l'.length :=
    fun hn hs => (List.subperm_of_subset hn hs).length_le
  constructor
  · intro hlt
    by_contra hna
    -- every chosen element is a rival of `a`, so fewer than `m` are chosen …
    have h1 : V.length < m := Nat.lt_of_le_of_lt (card hV fun v hv => List.mem_filter.mpr ⟨hsub v hv, by
      rw [Bool.and_eq_true]
      exact ⟨decide_eq_true fun h : v = a => hna (h ▸ hv), decide_eq_true (htop v hv a ha hna)⟩⟩) hlt
    -- … although `a` is left over
    have h2 : V.length < A.length := card (l := a :: V) (List.nodup_cons.mpr ⟨hna, hV⟩)
      fun v hv => (List.mem_cons.mp hv).elim (· ▸ ha) (hsub v)
    rcases Nat.le_total m A.length with hm | hm
    · exact Nat.lt_irrefl _ ((hlen.trans (Nat.min_eq_left hm)) ▸ h1)
    · exact Nat.lt_irrefl _ ((hlen.trans (Nat.min_eq_right hm)) ▸ h2)
  · intro hge hav
    -- `a` and the `m` elements above it would all be among the at most `m` chosen ones
    have h1 : (a :: A.filter fun b => decide (f a < f b)).length ≤ V.length :=
      card (List.nodup_cons.mpr
          ⟨fun h => Nat.lt_irrefl _ (of_decide_eq_true (List.mem_filter.mp h).2), hA.filter _⟩) fun b hb => by
        rcases List.mem_cons.mp hb with rfl | hb
        · exact hav
        · obtain ⟨hbA, hlt⟩ := List.mem_filter.mp hb
          by_contra hnb
          exact Nat.not_le.mpr (of_decide_eq_true hlt) (htop a hav b hbA hnb)
    have hVm : V.length ≤ m := hlen ▸ Nat.min_le_left ..
    exact Nat.lt_irrefl _ (Nat.lt_of_lt_of_le (Nat.lt_of_succ_le h1) (Nat.le_trans hVm hge))

/-! ### `NGramList` -/
section
variable {ω γ : Type}

/-- the entry denoted by first token `w0` followed by `rest` -/
def gram (J : Joiner ω γ) (w0 : ω) (rest : List ω) : γ := rest.foldl J.push (J.single w0)

theorem joinW_cons (J : Joiner ω γ) (w : ω) (rest : List ω) : joinW J (w :: rest) = some (gram J w rest) := rfl

theorem gram_concat (J : Joiner ω γ) (w0 : ω) (rest : List ω) (w : ω) :
    gram J w0 (rest ++ [w]) = J.push (gram J w0 rest) w := by
  unfold gram; rw [List.foldl_append]; rfl

/-- the windows starting at `i`: lengths `nmin … min nmax (len - i)` -/
def itemsAt (J : Joiner ω γ) (ws : List ω) (nmin nmax i : Nat) (w0 : ω) : List γ :=
  (List.range (min (i + nmax) ws.length - (i + nmin) + 1)).map fun k =>
    gram J w0 ((ws.drop (i + 1)).take (nmin - 1 + k))

/-- invariant of the loop `for j in min_end..max_end` of `ngram_items`, run on the tokens `t` after the first
one: once `a` tokens are joined, `c` further steps leave the item of `a + c` tokens and have pushed the items
of `a, …, a + c` tokens -/
theorem items_loop (J : Joiner ω γ) (w0 : ω) (t : List ω) (a c : Nat) (h : a + c ≤ t.length) :
    ((t.drop a).take c).foldl (fun (st : γ × List γ) w => let it := J.push st.1 w; (it, st.2 ++ [it]))
        (gram J w0 (t.take a), [gram J w0 (t.take a)])
      = (gram J w0 (t.take (a + c)), (List.range (c + 1)).map fun k => gram J w0 (t.take (a + k))) := by
  induction c with
  | zero => rfl
  | succ c ih =>
    have hac : a + c < t.length := h
    have hlt : c < (t.drop a).length := by
      rw [List.length_drop]; exact Nat.lt_sub_of_add_lt (Nat.add_comm a c ▸ hac)
    rw [List.take_succ_eq_append_getElem hlt, List.foldl_append, ih (Nat.le_of_lt hac), List.foldl_cons,
      List.foldl_nil, List.getElem_drop, List.range_succ (n := c + 1), List.map_append, List.map_cons, List.map_nil,
      ← Nat.add_assoc, List.take_succ_eq_append_getElem hac, gram_concat]

/-- the windows starting at index `i` (empty if `i` is out of range) -/
def itemsAtIdx (J : Joiner ω γ) (ws : List ω) (nmin nmax i : Nat) : List γ :=
  match ws[i]? with
  | some w0 => itemsAt J ws nmin nmax i w0
  | none => []

theorem itemsAtIdx_of_lt (J : Joiner ω γ) (ws : List ω) (nmin nmax i : Nat) (h : i < ws.length) :
    itemsAtIdx J ws nmin nmax i = itemsAt J ws nmin nmax i ws[i] := by
  unfold itemsAtIdx; rw [List.getElem?_eq_getElem h]

theorem ngramItems_eq (J : Joiner ω γ) (ws : List ω) (nmin nmax i : Nat) (h1 : 1 ≤ nmin) (h2 : nmin ≤ nmax) :
    ngramItems J ws nmin nmax i =
      if i + nmin ≤ ws.length then some (itemsAtIdx J ws nmin nmax i) else none := by
  unfold ngramItems
  by_cases hlt : i < ws.length
  · rw [itemsAtIdx_of_lt J ws nmin nmax i hlt, List.getElem?_eq_getElem hlt]
    dsimp only
    by_cases hm : nmax = 1
    · -- the shortcut for unigrams: one window, of one token
      have : nmin = 1 := Nat.le_antisymm (hm ▸ h2) h1
      subst hm this
      rw [if_pos rfl, if_pos (Nat.succ_le_of_lt hlt), itemsAt, Nat.min_eq_left (Nat.succ_le_of_lt hlt),
        Nat.sub_self (i + 1)]
      rfl
    · rw [if_neg hm]
      by_cases hi : i + nmin ≤ ws.length
      · -- the longest window ends inside the list
        have hfit : nmin - 1 + (min (i + nmax) ws.length - (i + nmin)) ≤ (ws.drop (i + 1)).length := by
          rw [List.length_drop, ← Nat.sub_add_sub_cancel hi (Nat.add_le_add_left h1 i), Nat.add_sub_add_left,
            Nat.add_comm]
          exact Nat.add_le_add_right (Nat.sub_le_sub_right (Nat.min_le_right ..) _) _
        rw [if_neg (Nat.not_lt.mpr hi), if_pos hi, Nat.add_sub_add_left,
          show ws.drop (i + nmin) = (ws.drop (i + 1)).drop (nmin - 1) by
            rw [List.drop_drop, Nat.add_assoc, Nat.add_sub_cancel' h1]]
        exact congrArg (fun r => some r.2) (items_loop J ws[i] (ws.drop (i + 1)) (nmin - 1) _ hfit)
      · rw [if_pos (Nat.lt_of_not_le hi), if_neg hi]
  · rw [List.getElem?_eq_none (Nat.le_of_not_lt hlt),
      if_neg fun h => hlt (Nat.lt_of_lt_of_le (Nat.lt_add_of_pos_right h1) h)]

theorem ngramIter_eq (J : Joiner ω γ) (ws : List ω) (nmin nmax : Nat) (h1 : 1 ≤ nmin) (h2 : nmin ≤ nmax)
    (fuel index : Nat) (hf : ws.length ≤ fuel + index) :
    ngramIter J ws nmin nmax fuel index =
      (List.range' index (ws.length + 1 - nmin - index)).map (itemsAtIdx J ws nmin nmax) := by
  -- `K` start indices have a window of the minimum length
  have hK : ∀ j, j + nmin ≤ ws.length ↔ j < ws.length + 1 - nmin := fun j =>
    (Nat.lt_sub_iff_add_lt.trans Nat.lt_succ_iff).symm
  have hlen : ws.length + 1 - nmin ≤ ws.length := Nat.sub_le_of_le_add (Nat.add_le_add_left h1 _)
  generalize ws.length + 1 - nmin = K at hK hlen ⊢
  induction fuel generalizing index with
  | zero => rw [Nat.sub_eq_zero_of_le (Nat.le_trans hlen (Nat.zero_add index ▸ hf))]; rfl
  | succ f ih =>
    rw [ngramIter, ngramItems_eq J ws nmin nmax index h1 h2]
    simp only [hK]
    by_cases hi : index < K
    · have hf' : ws.length ≤ f + (index + 1) := by rw [← Nat.add_assoc, Nat.add_right_comm]; exact hf
      rw [if_neg (Nat.not_le.mpr (Nat.lt_of_lt_of_le hi hlen)), if_pos hi, ih (index + 1) hf',
        show K - index = (K - (index + 1)) + 1 from (Nat.succ_pred_eq_of_pos (Nat.sub_pos_of_lt hi)).symm]
      rfl
    · rw [if_neg hi, Nat.sub_eq_zero_of_le (Nat.le_of_not_lt hi)]
      split <;> rfl

theorem docGrams_eq (J : Joiner ω γ) (ws : List ω) (nmin nmax : Nat) (h1 : 1 ≤ nmin) (h2 : nmin ≤ nmax) :
    docGrams J nmin nmax ws =
      ((List.range (ws.length + 1 - nmin)).map (itemsAtIdx J ws nmin nmax)).flatten := by
  unfold docGrams ngramList
  rw [ngramIter_eq J ws nmin nmax h1 h2 ws.length 0 (Nat.le_refl _), List.range_eq_range']
  rfl

theorem joinW_window (J : Joiner ω γ) (ws : List ω) (i L : Nat) (h : i < ws.length) (hL : 1 ≤ L) :
    joinW J ((ws.drop i).take L) = some (gram J ws[i] ((ws.drop (i + 1)).take (L - 1))) := by
  obtain ⟨n, rfl⟩ := Nat.exists_eq_add_of_le' hL
  rw [List.drop_eq_getElem_cons h, List.take_succ_cons, joinW_cons]; rfl

theorem mem_itemsAtIdx (J : Joiner ω γ) (ws : List ω) (nmin nmax i : Nat) (h1 : 1 ≤ nmin) (h2 : nmin ≤ nmax)
    (hi : i + nmin ≤ ws.length) (g : γ) :
    g ∈ itemsAtIdx J ws nmin nmax i ↔
      ∃ L, nmin ≤ L ∧ L ≤ nmax ∧ i + L ≤ ws.length ∧ joinW J ((ws.drop i).take L) = some g := by
  have hlt : i < ws.length := Nat.lt_of_lt_of_le (Nat.lt_add_of_pos_right h1) hi
  have hy : i + nmin ≤ min (i + nmax) ws.length := Nat.le_min.mpr ⟨Nat.add_le_add_left h2 i, hi⟩
  -- the `k`-th window at `i` has `nmin + k` tokens
  have hk : ∀ k, k < min (i + nmax) ws.length - (i + nmin) + 1 ↔ nmin + k ≤ nmax ∧ i + (nmin + k) ≤ ws.length :=
    fun k => by
      rw [Nat.lt_succ_iff, Nat.le_sub_iff_add_le hy, Nat.le_min, Nat.add_comm k, Nat.add_assoc,
        Nat.add_le_add_iff_left]
  have hw : ∀ k, joinW J ((ws.drop i).take (nmin + k)) = some (gram J ws[i] ((ws.drop (i + 1)).take (nmin - 1 + k))) :=
    fun k => by rw [joinW_window J ws i _ hlt (Nat.le_trans h1 (Nat.le_add_right ..)), Nat.sub_add_comm h1]
  rw [itemsAtIdx_of_lt J ws nmin nmax i hlt, itemsAt]
  simp only [List.mem_map, List.mem_range, hk]
  constructor
  · rintro ⟨k, ⟨hk1, hk2⟩, rfl⟩
    exact ⟨nmin + k, Nat.le_add_right .., hk1, hk2, hw k⟩
  · rintro ⟨L, hL1, hL2, hiL, hj⟩
    obtain ⟨k, rfl⟩ := Nat.exists_eq_add_of_le hL1
    exact ⟨k, ⟨hL2, hiL⟩, Option.some.inj ((hw k).symm.trans hj)⟩

theorem mem_docGrams (J : Joiner ω γ) (ws : List ω) (nmin nmax : Nat) (h1 : 1 ≤ nmin) (h2 : nmin ≤ nmax) (g : γ) :
    g ∈ docGrams J nmin nmax ws ↔
      ∃ i L, nmin ≤ L ∧ L ≤ nmax ∧ i + L ≤ ws.length ∧ joinW J ((ws.drop i).take L) = some g := by
  have hK : ∀ j, j < ws.length + 1 - nmin ↔ j + nmin ≤ ws.length := fun j =>
    Nat.lt_sub_iff_add_lt.trans Nat.lt_succ_iff
  rw [docGrams_eq J ws nmin nmax h1 h2]
  simp only [List.mem_flatten, List.mem_map, List.mem_range, hK]
  constructor
  · rintro ⟨_, ⟨i, hi, rfl⟩, hg⟩
    exact ⟨i, (mem_itemsAtIdx J ws nmin nmax i h1 h2 hi g).mp hg⟩
  · rintro ⟨i, L, hL, h3, h4, h5⟩
    have hi : i + nmin ≤ ws.length := Nat.le_trans (Nat.add_le_add_left hL i) h4
    exact ⟨_, ⟨i, hi, rfl⟩, (mem_itemsAtIdx J ws nmin nmax i h1 h2 hi g).mpr ⟨L, hL, h3, h4, h5⟩⟩

end

/-! ### the loops over files -/

theorem foldl_map_some {σ α β : Type} (f : σ → β → σ) (g : Option σ → Option α → Option σ) (h : α → β)
    (hg : ∀ s a, g (some s) (some a) = some (f s (h a))) (l : List α) (s : σ) :
    (l.map some).foldl g (some s) = some ((l.map h).foldl f s) := by
  induction l generalizing s with
  | nil => rfl
  | cons a t ih => rw [List.map_cons, List.foldl_cons, hg, ih, List.map_cons, List.foldl_cons]

/-! ### the sparse row -/

theorem find_of_mem_sorted (l : List (Nat × Nat)) (h : (l.map (·.1)).Pairwise (· < ·)) (j c : Nat)
    (hm : (j, c) ∈ l) : l.find? (fun p => p.1 == j) = some (j, c) := by
  induction l with
  | nil => cases hm
  | cons x t ih =>
    rw [List.map_cons, List.pairwise_cons] at h
    rcases List.mem_cons.mp hm with rfl | hm'
    · rw [List.find?_cons, beq_self_eq_true]
    · have : x.1 < j := h.1 j (List.mem_map_of_mem (f := (·.1)) hm')
      rw [List.find?_cons, beq_false_of_ne (Nat.ne_of_lt this)]; exact ih h.2 hm'

theorem sparseGet_eq_some_iff {sp : List (Nat × Nat)} (h : (sp.map (·.1)).Pairwise (· < ·)) (j c : Nat) :
    sparseGet sp j = some c ↔ (j, c) ∈ sp := by
  unfold sparseGet
  constructor
  · intro hs
    obtain ⟨p, hp, rfl⟩ := Option.map_eq_some_iff.mp hs
    have hj : (p.1 == j) = true := List.find?_some (p := fun q : Nat × Nat => q.1 == j) hp
    exact beq_iff_eq.mp hj ▸ List.mem_of_find?_eq_some hp
  · intro hm
    rw [find_of_mem_sorted sp h j c hm]; rfl

theorem mem_sparseRow (row : List Nat) (j c : Nat) :
    (j, c) ∈ sparseRow row ↔ 0 < c ∧ row[j]? = some c := by
  simp only [sparseRow, List.mem_map, List.mem_filter, Prod.mk.injEq, Prod.exists]
  constructor
  · rintro ⟨a, i, ⟨hm, hp⟩, rfl, rfl⟩
    exact ⟨of_decide_eq_true hp, List.mem_zipIdx_iff_getElem?.mp hm⟩
  · rintro ⟨hc, hj⟩
    exact ⟨c, j, ⟨List.mem_zipIdx_iff_getElem?.mpr hj, decide_eq_true hc⟩, rfl, rfl⟩

theorem sparseRow_sorted (row : List Nat) : ((sparseRow row).map (·.1)).Pairwise (· < ·) := by
  have h1 : (sparseRow row).map (·.1) = (row.zipIdx.filter fun p => decide (p.1 > 0)).map (·.2) :=
    List.map_map ..
  have h2 : (row.zipIdx.map (·.2)).Pairwise (· < ·) := by
    rw [List.zipIdx_map_snd]
    exact List.pairwise_lt_range'
  exact h1 ▸ h2.sublist ((List.filter_sublist (l := row.zipIdx)).map _)

theorem sparseRow_length (row : List Nat) : (sparseRow row).length = row.countP (fun c => decide (0 < c)) := by
  rw [sparseRow, List.length_map, ← List.countP_eq_length_filter]
  conv_rhs => rw [← List.zipIdx_map_fst 0 row, List.countP_map]
  rfl

/-! ### the relative window -/

/-- the absolute window is the relative one for ANY pair of roundings with the adjunction properties of
ceiling and floor -/
theorem absBoundsWith_window {α : Type} [Field α] [LinearOrder α] [IsStrictOrderedRing α]
    (ceilU floorU : α → Nat) (hc : ∀ (x : α) (k : Nat), ceilU x ≤ k ↔ x ≤ k)
    (hf : ∀ (x : α) (k : Nat), 0 ≤ x → (k ≤ floorU x ↔ (k : α) ≤ x))
    (lo hi : α) (n df : Nat) (hn : 0 < n) (hhi : 0 ≤ hi) :
    let b := absBoundsWith (Nat.cast : Nat → α) ceilU floorU lo hi n
    (b.1 ≤ df ∧ df ≤ b.2) ↔ (lo ≤ (df : α) / n ∧ (df : α) / n ≤ hi) := by
  have hn' : (0 : α) < n := Nat.cast_pos.mpr hn
  show ceilU (lo * n) ≤ df ∧ df ≤ floorU (hi * n) ↔ _
  rw [hc, hf _ _ (mul_nonneg hhi hn'.le), le_div_iff₀ hn', div_le_iff₀ hn']

end LinfaSpec.Vectorizer
