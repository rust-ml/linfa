import Lean.Meta.Tactic.Simp.RegisterCommand

/-- what turns a generated `check p = .ok ()` into the conjunction of the documented ranges: the guard chain, and for each guard
idiom that needs no finiteness hypothesis the range its firing refutes (a module of its own: an attribute cannot be used in the
module that registers it) -/
register_simp_attr guard_simps
