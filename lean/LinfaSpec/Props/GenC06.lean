import LinfaSpec.Gen.Vectors
import LinfaSpec.Proofs.Kernel
import Mathlib.Algebra.Order.Field.Basic

/-!
# C06 — obligations about the kernel functions GENERATED from the Rust source

`LinfaSpec.Gen.Vectors.Kernel` is regenerated from `algorithms/linfa-kernel/src/lib.rs`
(`KernelMethod::distance`, one definition per match arm) on every check by `tools/vec2lean.py`.
The theorems state that the generated arms are the model's `Kernel.kernelFn` — the function every
C06 theorem about kernel matrices is about.
-/
set_option linter.unusedSectionVars false
namespace LinfaSpec.Props.GenC06
open LinfaSpec LinfaSpec.Kernel LinfaSpec.Gen.Vectors

/-- the source matches exactly the three variants the model has -/
theorem variants_are_model : Gen.Vectors.Kernel.distance_variants = ["Gaussian", "Linear", "Polynomial"] := rfl

section generic
variable {α : Type} [Add α] [Sub α] [Mul α] [Div α] [Neg α] [LT α] [DecidableLT α] [LE α] [DecidableLE α]
  [DecidableEq α] [OfNat α 0] [OfNat α 1] [NatCast α] [OfScientific α] [Transc α] [KPow α]

/-- the Gaussian arm: `exp(-Σ(x-y)² / eps)`, the squared distance summed left to right — the model's
`kernelFn (.gaussian eps)` in every scalar carrier (also `Float`) -/
theorem gaussian_is_model (eps : α) (a b : List α) :
    Gen.Vectors.Kernel.distance_Gaussian eps a b = kernelFn (.gaussian eps) a b := by
  unfold Gen.Vectors.Kernel.distance_Gaussian kernelFn sqDist
  rw [List.map_zip_eq_zipWith]
  rfl
end generic

section field
variable {α : Type} [Field α] [LinearOrder α] [IsStrictOrderedRing α] [Transc α] [KPow α]

/-- the translator reads `a.mul(&b).sum()` as the left-to-right sum; the model follows ndarray's
unrolled eight-lane sum.  Over a commutative ring they are the same number. -/
theorem linear_is_model (a b : List α) :
    Gen.Vectors.Kernel.distance_Linear a b = kernelFn .linear a b :=
  (sumS_eq_sum _).trans (ndSum_eq_sum _).symm

theorem polynomial_is_model (c d : α) (a b : List α) :
    Gen.Vectors.Kernel.distance_Polynomial KPow.powf c d a b = kernelFn (.poly c d) a b :=
  congrArg (KPow.powf · d) (congrArg (· + c) (linear_is_model a b))
end field

example : Gen.Vectors.Kernel.distance_Linear ([1, 2, 3] : List Rat) [4, 5, 6] = 32 := by decide +kernel

end LinfaSpec.Props.GenC06
