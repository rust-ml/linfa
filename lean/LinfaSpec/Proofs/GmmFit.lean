import LinfaSpec.Model.Gmm
import LinfaSpec.Proofs.Scalar
import Mathlib.Algebra.Order.Field.Basic

/-!
Invariants of the loop of `GmmValidParams::fit` (`runLoop`, `fitRuns`, `fitOutcome` of `Model/Gmm.lean`)
over an abstract trace of lower bounds, and the chain of EM states `chainFrom` that supplies the trace.
-/
namespace LinfaSpec.Gmm
open LinfaSpec

section
variable {α : Type} [Field α] [LinearOrder α] [IsStrictOrderedRing α]

/-- "the state with chain index `i` was accepted as converged": the two steps that led to it are
consecutive error-free steps whose lower bounds differ by less than the tolerance -/
def ConvergedAt (tol : α) (tr : List (Except String α)) (i : Nat) : Prop :=
  2 ≤ i ∧ ∃ p v, tr[i - 2]? = some (.ok p) ∧ tr[i - 1]? = some (.ok v) ∧ |v - p| < tol

/-- every step of the chain in `[lo, hi)` succeeded -/
def StepsOk (tr : List (Except String α)) (lo hi : Nat) : Prop :=
  ∀ t, lo ≤ t → t < hi → ∃ v, tr[t]? = some (.ok v)

/-- invariant of one run -/
theorem runLoop_ok (tol : α) (tr : List (Except String α)) :
    ∀ (fuel iter pos : Nat) (prev : Option α) (pos' : Nat) (lb : Option α) (conv : Option Nat),
      (∀ p, prev = some p → 1 ≤ pos ∧ tr[pos - 1]? = some (.ok p)) →
      runLoop tol tr fuel iter pos prev = .ok (pos', lb, conv) →
      pos ≤ pos' ∧ pos' ≤ pos + fuel ∧ StepsOk tr pos pos' ∧
      (∀ it, conv = some it → ConvergedAt tol tr pos') ∧
      (lb = none → pos' = pos ∧ prev = none) := by
  intro fuel
  induction fuel with
  | zero =>
    intro iter pos prev pos' lb conv _ h
    simp only [runLoop, Except.ok.injEq, Prod.mk.injEq] at h
    obtain ⟨rfl, rfl, rfl⟩ := h
    refine ⟨le_refl _, le_refl _, ?_, ?_, ?_⟩
    · intro t h1 h2; omega
    · intro it hit; cases hit
    · intro hp; exact ⟨rfl, hp⟩
  | succ fuel ih =>
    intro iter pos prev pos' lb conv hprev h
    rw [runLoop] at h
    split at h
    · cases h
    · cases h
    · rename_i v htr
      split at h
      · -- the test passed at this step: `prev = some p` with `|v − p| < tol`
        rename_i hconv
        cases h
        refine ⟨by omega, by omega, fun t h1 h2 => ⟨v, by rwa [show t = pos by omega]⟩, fun it _ => ?_,
          fun hn => by cases hn⟩
        cases prev with
        | none => cases hconv
        | some p =>
          obtain ⟨h1, h2⟩ := hprev p rfl
          refine ⟨by omega, p, v, h2, htr, ?_⟩
          rw [← absS_eq_abs]
          exact of_decide_eq_true hconv
      · -- next iteration, with `v` as the previous lower bound
        obtain ⟨h1, h2, h3, h4, h5⟩ := ih (iter + 1) (pos + 1) (some v) pos' lb conv
          (fun p hp => by cases hp; exact ⟨by omega, htr⟩) h
        refine ⟨by omega, by omega, fun t ht1 ht2 => ?_, h4, fun hn => by cases (h5 hn).2⟩
        by_cases ht : t = pos
        · exact ⟨v, by rwa [ht]⟩
        · exact h3 t (by omega) ht2

/-- bookkeeping invariant of the loop over the runs -/
def BestInv (tol : α) (tr : List (Except String α)) (pos : Nat) (b : Best α) : Prop :=
  (∀ it, b.bestIter = some it → ∃ i, b.best = some i) ∧
  (∀ i, b.best = some i → i ≤ pos) ∧
  (∀ i it, b.best = some i → b.bestIter = some it → ConvergedAt tol tr i)

theorem fitRuns_ok (tol : α) (maxIter : Nat) (tr : List (Except String α)) :
    ∀ (runs pos : Nat) (b b' : Best α) (posEnd : Nat),
      StepsOk tr 0 pos → BestInv tol tr pos b →
      fitRuns tol maxIter tr runs pos b = .ok (b', posEnd) →
      pos ≤ posEnd ∧ posEnd ≤ pos + runs * maxIter ∧ StepsOk tr 0 posEnd ∧ BestInv tol tr posEnd b' := by
  intro runs
  induction runs with
  | zero =>
    intro pos b b' posEnd hs hb h
    cases h
    exact ⟨le_rfl, by omega, hs, hb⟩
  | succ runs ih =>
    intro pos b b' posEnd hs hb h
    rw [fitRuns] at h
    split at h
    · cases h
    · rename_i pos' lb conv hr
      obtain ⟨h1, h2, h3, h4, _⟩ :=
        runLoop_ok tol tr maxIter 0 pos none pos' lb conv (fun p hp => by cases hp) hr
      have hs' : StepsOk tr 0 pos' := fun t ht1 ht2 =>
        if hlt : t < pos then hs t ht1 hlt else h3 t (by omega) ht2
      have hb' : BestInv tol tr pos'
          (if lbGreater lb b.maxLb then (⟨lb, some pos', conv⟩ : Best α) else b) := by
        split
        · exact ⟨fun it _ => ⟨pos', rfl⟩, fun i hi => by cases hi; exact le_rfl,
            fun i it hi hit => by cases hi; exact h4 it hit⟩
        · exact ⟨hb.1, fun i hi => le_trans (hb.2.1 i hi) h1, hb.2.2⟩
      obtain ⟨k1, k2, k3, k4⟩ := ih pos' _ b' posEnd hs' hb' h
      rw [Nat.succ_mul]
      exact ⟨by omega, by omega, k3, k4⟩

end

section chain
variable {α σ : Type}

theorem chainFrom_error (step : σ → Except String (α × σ)) (fuel : Nat) (s : σ) (e : String)
    (h : step s = .error e) : chainFrom step (fuel + 1) s = ([.error e], [s]) := by
  rw [chainFrom, h]

theorem chainFrom_ok (step : σ → Except String (α × σ)) (fuel : Nat) (s s' : σ) (lb : α)
    (h : step s = .ok (lb, s')) :
    chainFrom step (fuel + 1) s =
      (.ok lb :: (chainFrom step fuel s').1, s :: (chainFrom step fuel s').2) := by
  rw [chainFrom, h]

theorem chainFrom_head (step : σ → Except String (α × σ)) (fuel : Nat) (s : σ) :
    (chainFrom step fuel s).2[0]? = some s := by
  cases fuel with
  | zero => rfl
  | succ fuel =>
    cases hs : step s with
    | error e => rw [chainFrom_error step fuel s e hs]; rfl
    | ok r => rw [chainFrom_ok step fuel s r.2 r.1 hs]; rfl

/-- every state of the chain but the first is the output of a successful step from its predecessor, and
the trace records the lower bound of that step -/
theorem chainFrom_succ (step : σ → Except String (α × σ)) :
    ∀ (fuel : Nat) (s0 : σ) (t : Nat) (b : σ), (chainFrom step fuel s0).2[t + 1]? = some b →
      ∃ a lb, (chainFrom step fuel s0).2[t]? = some a ∧ step a = .ok (lb, b) ∧
        (chainFrom step fuel s0).1[t]? = some (.ok lb) := by
  intro fuel
  induction fuel with
  | zero => intro s0 t b h; cases h
  | succ fuel ih =>
    intro s0 t b h
    cases hs : step s0 with
    | error e => rw [chainFrom_error step fuel s0 e hs] at h; cases h
    | ok r =>
      obtain ⟨lb, s'⟩ := r
      rw [chainFrom_ok step fuel s0 s' lb hs] at h ⊢
      cases t with
      | zero =>
        have h' : (chainFrom step fuel s').2[0]? = some b := h
        rw [chainFrom_head] at h'
        cases h'
        exact ⟨s0, lb, rfl, hs, rfl⟩
      | succ t => exact ih s' t b h

theorem chainFrom_inv (step : σ → Except String (α × σ)) (Inv : σ → Prop) (fuel : Nat) (s0 : σ)
    (h0 : Inv s0) (hstep : ∀ a lb b, Inv a → step a = .ok (lb, b) → Inv b) :
    ∀ (t : Nat) (a : σ), (chainFrom step fuel s0).2[t]? = some a → Inv a := by
  intro t
  induction t with
  | zero => intro a h; rw [chainFrom_head] at h; cases h; exact h0
  | succ t ih =>
    intro b h
    obtain ⟨a, lb, h1, h2, _⟩ := chainFrom_succ step fuel s0 t b h
    exact hstep a lb b (ih a h1) h2

end chain

end LinfaSpec.Gmm
