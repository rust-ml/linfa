import LinfaSpec.Model.Incremental
import LinfaSpec.Proofs.Scalar
import LinfaSpec.Proofs.Lists
import Mathlib.Algebra.Order.Field.Basic
import Mathlib.Tactic.Ring
import Mathlib.Tactic.FieldSimp
import Mathlib.Tactic.Linarith
import Mathlib.Tactic.Positivity

/-!
What all incremental learners of C15 share: induction over a history of batches, folds that keep the
better of two elements (`foldl_select_spec`), mean and variance of a column, columns of concatenated row
blocks, the sequential sum `sumS`.
-/
namespace LinfaSpec.Incremental
open LinfaSpec


/-- induction over a history fed batch by batch: a property of (batches seen, state) that holds at the
start and survives one more batch holds after every history -/
theorem foldl_history {σ β : Type} (step : σ → β → σ) (s₀ : σ) (P : List β → σ → Prop)
    (h₀ : P [] s₀) (hs : ∀ past s b, P past s → P (past ++ [b]) (step s b)) (hist : List β) :
    P hist (hist.foldl step s₀) := by
  induction hist using List.reverseRecOn with
  | nil => exact h₀
  | append_singleton past b ih => rw [List.foldl_append]; exact hs past _ b ih

section Order
variable {α : Type} [LinearOrder α]

/-- folds that keep the better of the running choice and the next element (`argmax`, `min_by`,
`closest_centroid`): the result is one of the elements and its key is at most every key -/
theorem foldl_select_spec {β : Type} (sel : β → β → β) (key : β → α)
    (hsel : ∀ a b, sel a b = a ∧ key a ≤ key b ∨ sel a b = b ∧ key b ≤ key a)
    (l : List β) (x : β) :
    l.foldl sel x ∈ x :: l ∧ ∀ y ∈ x :: l, key (l.foldl sel x) ≤ key y := by
  induction l generalizing x with
  | nil => exact ⟨List.mem_singleton.mpr rfl, fun y hy => (List.mem_singleton.mp hy) ▸ le_refl _⟩
  | cons y rest ih =>
    obtain ⟨hmem, hle⟩ := ih (sel x y)
    have hs : key (rest.foldl sel (sel x y)) ≤ key (sel x y) := hle _ List.mem_cons_self
    have hxy : sel x y ∈ [x, y] ∧ key (sel x y) ≤ key x ∧ key (sel x y) ≤ key y := by
      rcases hsel x y with ⟨e, h⟩ | ⟨e, h⟩
      · rw [e]; exact ⟨List.mem_cons_self, le_refl _, h⟩
      · rw [e]; exact ⟨List.mem_cons_of_mem _ List.mem_cons_self, h, le_refl _⟩
    constructor
    · rcases List.mem_cons.mp hmem with e | h
      · rw [List.foldl_cons, e]; exact List.mem_append_left rest hxy.1
      · exact List.mem_cons_of_mem _ (List.mem_cons_of_mem _ h)
    · intro w hw
      rcases List.mem_cons.mp hw with rfl | hw
      · exact hs.trans hxy.2.1
      · rcases List.mem_cons.mp hw with rfl | hw
        · exact hs.trans hxy.2.2
        · exact hle w (List.mem_cons_of_mem _ hw)

end Order

section Field
variable {α : Type} [Field α]

theorem meanL_nil : meanL ([] : List α) = 0 := by simp [meanL, sumS]
theorem varL_nil : varL ([] : List α) = 0 := by simp [varL, sumS]

theorem column_append (j : Nat) (r1 r2 : List (List α)) :
    column j (r1 ++ r2) = column j r1 ++ column j r2 := List.map_append

theorem column_length (j : Nat) (r : List (List α)) : (column j r).length = r.length :=
  List.length_map _

theorem column_ne_nil (j : Nat) (r : List (List α)) (h : r ≠ []) : column j r ≠ [] :=
  fun e => h (List.map_eq_nil_iff.mp e)

end Field

section OrderedField
variable {α : Type} [Field α] [LinearOrder α] [IsStrictOrderedRing α]

section
-- stated for ordered fields like their users, though they need less
set_option linter.unusedSectionVars false

theorem sumS_nil : sumS ([] : List α) = 0 := rfl

theorem sumS_cons (x : α) (l : List α) : sumS (x :: l) = x + sumS l :=
  LinfaSpec.sumS_cons x l

theorem sumS_cons' (x : α) (l : List α) : sumS (x :: l) = x + sumS l := sumS_cons x l

theorem meanL_def (l : List α) : meanL l = sumS l / (l.length : α) := rfl

end

theorem sumS_nonneg (l : List α) (h : ∀ x ∈ l, 0 ≤ x) : 0 ≤ sumS l := by
  rw [sumS_eq_sum]; exact List.sum_nonneg h

theorem sumS_le_sumS_map {β : Type} (l : List β) (f g : β → α) (h : ∀ x ∈ l, f x ≤ g x) :
    sumS (l.map f) ≤ sumS (l.map g) := by
  rw [sumS_eq_sum, sumS_eq_sum]; exact List.sum_le_sum h

end OrderedField
end LinfaSpec.Incremental
