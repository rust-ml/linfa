/-
The list model `LinfaSpec.Pca` in Mathlib's terms: the vocabulary `Shape` / `toM` / `toV`, what guard and
floor compute, the `Matrix` expressions of `Proofs/PcaMatrix.lean` that `transform`, `center`, `backRows`,
`inverseTransform`, `whiten` compute, and the column mean in every memory layout.
-/
import LinfaSpec.Model.Pca
import LinfaSpec.Proofs.PcaMatrix
import LinfaSpec.Proofs.Lists
import LinfaSpec.Proofs.Scalar
import Mathlib.Algebra.BigOperators.Fin
import Mathlib.Tactic.Abel

namespace LinfaSpec.Pca
open Matrix LinfaSpec.PcaMatrix

variable {α : Type} [Field α]

/-- a list of `r` rows of width `c` -/
def Shape (L : List (List α)) (r c : Nat) : Prop := L.length = r ∧ ∀ x ∈ L, x.length = c

/-- the matrix a list of rows stands for -/
def toM (L : List (List α)) (r c : Nat) : Matrix (Fin r) (Fin c) α :=
  Matrix.of fun i j => (L.getD i []).getD j 0

def toV (v : List α) (c : Nat) : Fin c → α := fun j => v.getD j 0

theorem guard_eq_none_iff {ε : Type} (n p k : Nat) :
    guard (ε := ε) n p k = none ↔ 0 < n ∧ 1 ≤ k ∧ k ≤ p := by
  unfold guard
  split_ifs
  · exact iff_of_false nofun (by omega)
  · exact iff_of_false nofun (by omega)
  · exact iff_of_true rfl (by omega)

theorem floorSigma_eq_map_max {β : Type} [LinearOrder β] (fl : β) (σ : List β) :
    floorSigma fl σ = σ.map (max · fl) :=
  List.map_congr_left fun x _ => maxS_eq_max x fl

/-! The model builds its matrices with `map` and `zipWith`; `toM` reads them with `getD` (`Proofs/Lists.lean`). -/

theorem Shape.row {β : Type} {L : List (List β)} {r c : Nat} (h : Shape L r c) (i : Fin r) :
    (L.getD i []).length = c :=
  length_getD_of_forall h.2 (h.1 ▸ i.2)

theorem Shape.of_getD {β : Type} {L : List (List β)} {r c : Nat} (hl : L.length = r)
    (hr : ∀ i : Fin r, (L.getD i []).length = c) : Shape L r c := by
  refine ⟨hl, fun x hx => ?_⟩
  obtain ⟨i, hi, rfl⟩ := List.getElem_of_mem hx
  rw [← getD_of_lt _ [] hi]
  exact hr ⟨i, hl ▸ hi⟩

theorem sum_eq_fin_sum (l : List α) (k : Nat) (h : l.length = k) :
    l.sum = ∑ i : Fin k, l.getD i 0 := by
  subst h
  rw [← Fin.sum_univ_getElem]
  exact Finset.sum_congr rfl fun i _ => (getD_of_lt _ _ i.2).symm

theorem dotS_eq (a b : List α) (c : Nat) (ha : a.length = c) (hb : b.length = c) :
    dotS a b = ∑ j : Fin c, a.getD j 0 * b.getD j 0 := by
  unfold dotS
  rw [sumS_eq_sum, sum_eq_fin_sum _ c (by rw [List.length_zipWith, ha, hb, min_self])]
  exact Finset.sum_congr rfl fun j _ => getD_zipWith_of_lt _ (ha ▸ j.2) (hb ▸ j.2) 0 0 0

theorem vsub_getD (a b : List α) (c : Nat) (ha : a.length = c) (hb : b.length = c) (j : Fin c) :
    (vsub a b).getD j 0 = a.getD j 0 - b.getD j 0 :=
  getD_zipWith_of_lt _ (ha ▸ j.2) (hb ▸ j.2) 0 0 0

theorem vsub_length (a b : List α) (c : Nat) (ha : a.length = c) (hb : b.length = c) :
    (vsub a b).length = c := by rw [vsub, List.length_zipWith, ha, hb, min_self]

theorem vadd_getD (a b : List α) (c : Nat) (ha : a.length = c) (hb : b.length = c) (j : Fin c) :
    (vadd a b).getD j 0 = a.getD j 0 + b.getD j 0 :=
  getD_zipWith_of_lt _ (ha ▸ j.2) (hb ▸ j.2) 0 0 0

theorem vadd_length (a b : List α) (c : Nat) (ha : a.length = c) (hb : b.length = c) :
    (vadd a b).length = c := by rw [vadd, List.length_zipWith, ha, hb, min_self]

theorem transform_toM (m : Model α) (X : List (List α)) (n k p : Nat)
    (hX : Shape X n p) (hW : Shape m.embedding k p) (hμ : m.mean.length = p) :
    toM (transform m X) n k = transformM (toM m.embedding k p) (toV m.mean p) (toM X n p) := by
  ext i j
  have hrow : (transform m X).getD i [] =
      m.embedding.map fun v => dotS (vsub (X.getD i []) m.mean) v :=
    getD_map_of_lt _ (hX.1 ▸ i.2) [] []
  simp only [toM, transformM, Matrix.of_apply, Matrix.mul_apply, Matrix.sub_apply,
    Matrix.transpose_apply, rowConst, toV]
  rw [hrow, getD_map_of_lt _ (hW.1 ▸ j.2) [],
    dotS_eq _ _ p (vsub_length _ _ p (hX.row i) hμ) (hW.row j)]
  exact Finset.sum_congr rfl fun l _ => by rw [vsub_getD _ _ p (hX.row i) hμ]

/-- `center X μ` — the argument `fit` hands to the solver — is the matrix `X - 1·μᵀ` -/
theorem center_toM (X : List (List α)) (μ : List α) (n p : Nat) (hX : Shape X n p)
    (hμ : μ.length = p) :
    Shape (center X μ) n p ∧ toM (center X μ) n p = toM X n p - rowConst n (toV μ p) := by
  have hrow : ∀ i : Fin n, (center X μ).getD i [] = vsub (X.getD i []) μ :=
    fun i => getD_map_of_lt _ (hX.1 ▸ i.2) [] []
  refine ⟨Shape.of_getD (by rw [center, List.length_map, hX.1]) fun i => ?_, ?_⟩
  · rw [hrow i, vsub_length _ _ p (hX.row i) hμ]
  · ext i j
    simp only [toM, Matrix.of_apply, Matrix.sub_apply, rowConst, toV]
    rw [hrow i, vsub_getD _ _ p (hX.row i) hμ]

theorem foldl_vadd (rows : List (List α)) (c : Nat) (hr : ∀ x ∈ rows, x.length = c) :
    ∀ (acc : List α), acc.length = c →
      (rows.foldl vadd acc).length = c ∧
      ∀ j : Fin c, (rows.foldl vadd acc).getD j 0
        = acc.getD j 0 + ∑ i : Fin rows.length, (rows.getD i []).getD j 0 := by
  induction rows with
  | nil => exact fun acc h => ⟨h, fun j => by rw [List.length_nil, Fin.sum_univ_zero, add_zero]; rfl⟩
  | cons x rows ih =>
    intro acc h
    have hx : x.length = c := hr x List.mem_cons_self
    have := ih (fun y hy => hr y (List.mem_cons_of_mem x hy)) (vadd acc x) (vadd_length _ _ c h hx)
    refine ⟨this.1, fun j => ?_⟩
    rw [List.foldl_cons, this.2 j, vadd_getD _ _ c h hx, List.length_cons, Fin.sum_univ_succ]
    exact add_assoc _ _ _

/-- `combo p z B` is the row `z · B` -/
theorem combo_spec (z : List α) (B : List (List α)) (k p : Nat) (hz : z.length = k)
    (hB : Shape B k p) :
    (combo p z B).length = p ∧
    ∀ j : Fin p, (combo p z B).getD j 0 = ∑ i : Fin k, z.getD i 0 * (B.getD i []).getD j 0 := by
  have hlen : (List.zipWith (fun zi row => row.map (zi * ·)) z B).length = k := by
    rw [List.length_zipWith, hz, hB.1, min_self]
  have hrow : ∀ i : Fin k, (List.zipWith (fun zi row => row.map (zi * ·)) z B).getD i []
      = (B.getD i []).map (z.getD i 0 * ·) :=
    fun i => getD_zipWith_of_lt _ (hz ▸ i.2) (hB.1 ▸ i.2) 0 [] []
  have hS := Shape.of_getD hlen fun i => by rw [hrow i, List.length_map, hB.row i]
  have := foldl_vadd _ p hS.2 (List.replicate p 0) List.length_replicate
  refine ⟨this.1, fun j => ?_⟩
  unfold combo
  rw [this.2 j, getD_replicate_self, zero_add, ← Fin.sum_congr' _ hlen.symm]
  refine Finset.sum_congr rfl fun i _ => ?_
  rw [Fin.val_cast, hrow i, getD_map_of_lt _ ((hB.row i).symm ▸ j.2) 0]

theorem backRows_spec (W : List (List α)) (k p : Nat) (hW : Shape W k p) :
    Shape (backRows W) k p ∧ toM (backRows W) k p = backM (toM W k p) := by
  have hrow : ∀ i : Fin k, (backRows W).getD i []
      = (W.getD i []).map (· / sqNorm (W.getD i [])) :=
    fun i => getD_map_of_lt _ (hW.1 ▸ i.2) [] []
  refine ⟨Shape.of_getD (by rw [backRows, List.length_map, hW.1]) fun i => ?_, ?_⟩
  · rw [hrow i, List.length_map, hW.row i]
  · ext i j
    simp only [toM, backM, Matrix.of_apply]
    rw [hrow i, getD_map_of_lt _ ((hW.row i).symm ▸ j.2) 0, sqNorm,
      dotS_eq _ _ p (hW.row i) (hW.row i)]

theorem inverseTransform_toM (m : Model α) (Z : List (List α)) (n k p : Nat)
    (hZ : Shape Z n k) (hW : Shape m.embedding k p) (hμ : m.mean.length = p) :
    toM (inverseTransform m Z) n p = inverseM (toM m.embedding k p) (toV m.mean p) (toM Z n k) := by
  obtain ⟨hB, hBm⟩ := backRows_spec m.embedding k p hW
  ext i j
  have hrow : (inverseTransform m Z).getD i [] =
      vadd (combo m.mean.length (Z.getD i []) (backRows m.embedding)) m.mean :=
    getD_map_of_lt _ (hZ.1 ▸ i.2) [] []
  obtain ⟨hcl, hcv⟩ := combo_spec (Z.getD i []) (backRows m.embedding) k p (hZ.row i) hB
  rw [inverseM, ← hBm]
  simp only [toM, Matrix.add_apply, Matrix.mul_apply, rowConst, Matrix.of_apply, toV]
  rw [hrow, hμ, vadd_getD _ _ p hcl hμ, hcv j]

/-- the whitening loop multiplies row `i` by `sqrt(n-1)/sigma_i` -/
theorem whiten_spec [Transc α] (nS : Nat) (V : List (List α)) (σ : List α) (k p : Nat)
    (hV : Shape V k p) (hσ : σ.length = k) :
    Shape (whiten nS V σ) k p ∧
    toM (whiten nS V σ) k p
      = diagonal (fun i : Fin k => Transc.sqrt ((nS : α) - 1) / σ.getD i 0) * toM V k p := by
  have hrow : ∀ i : Fin k, (whiten nS V σ).getD i []
      = (V.getD i []).map (· * (Transc.sqrt ((nS : α) - 1) / σ.getD i 0)) :=
    fun i => getD_zipWith_of_lt _ (hV.1 ▸ i.2) (hσ ▸ i.2) [] 0 []
  refine ⟨Shape.of_getD (by rw [whiten, List.length_zipWith, hV.1, hσ, min_self]) fun i => ?_, ?_⟩
  · rw [hrow i, List.length_map, hV.row i]
  · ext i j
    simp only [toM, Matrix.of_apply, Matrix.diagonal_mul]
    rw [hrow i, getD_map_of_lt _ ((hV.row i).symm ▸ j.2) 0, mul_comm]

/-- the eight partial sums of `unrolled8` added up -/
def sum8 : α × α × α × α × α × α × α × α → α
  | (p0, p1, p2, p3, p4, p5, p6, p7) => p0 + p1 + p2 + p3 + p4 + p5 + p6 + p7

/-- the unrolled loop moves elements of the list into the partial sums -/
theorem unrolled8_spec (xs : List α) (q : α × α × α × α × α × α × α × α) :
    sum8 (unrolled8 xs q).1 + (unrolled8 xs q).2.sum = sum8 q + xs.sum := by
  fun_induction unrolled8 xs q with
  | case1 x0 x1 x2 x3 x4 x5 x6 x7 rest p0 p1 p2 p3 p4 p5 p6 p7 ih =>
    rw [ih]
    simp only [sum8, List.sum_cons]
    abel
  | case2 xs q h => rfl

/-- ndarray's eightfold unrolled sum is the sum (real-arithmetic semantics) -/
theorem ndSum_eq_sum (xs : List α) : ndSum xs = xs.sum := by
  have h := unrolled8_spec xs (0, 0, 0, 0, 0, 0, 0, 0)
  unfold ndSum
  generalize unrolled8 xs (0, 0, 0, 0, 0, 0, 0, 0) = r at h
  obtain ⟨⟨p0, p1, p2, p3, p4, p5, p6, p7⟩, rest⟩ := r
  simp only [sum8, add_zero, zero_add] at h ⊢
  rw [foldl_add_eq, ← h]
  abel

theorem colMean_spec (X : List (List α)) (n p : Nat) (hX : Shape X n p) :
    (colMean p X).length = p ∧
    ∀ j : Fin p, (colMean p X).getD j 0 = (∑ i : Fin n, (X.getD i []).getD j 0) / (n : α) := by
  obtain ⟨hl, hv⟩ := foldl_vadd X p hX.2 (List.replicate p 0) List.length_replicate
  refine ⟨by rw [colMean, List.length_map, hl], fun j => ?_⟩
  rw [colMean, getD_map_of_lt _ (hl.symm ▸ j.2) 0, hv j, getD_replicate_self, zero_add, hX.1]

theorem column_sum (X : List (List α)) (n : Nat) (hX : X.length = n) (j : Nat) :
    (column X j).sum = ∑ i : Fin n, (X.getD i []).getD j 0 := by
  rw [sum_eq_fin_sum _ n (by rw [column, List.length_map, hX])]
  exact Finset.sum_congr rfl fun i _ => getD_map_of_lt _ (hX ▸ i.2) [] 0

/-- over a field the column mean does not depend on the memory layout: the unrolled lane sums of a
Fortran-order matrix and the row-by-row additions give the same list -/
theorem colMeanL_eq_colMean (lay : Layout) (X : List (List α)) (n p : Nat) (hX : Shape X n p) :
    colMeanL lay p X = colMean p X := by
  cases lay with
  | f =>
    simp only [colMeanL]
    split
    · obtain ⟨hl, hv⟩ := colMean_spec X n p hX
      refine List.ext_getElem (by rw [List.length_map, List.length_range, hl]) fun j _ h2 => ?_
      rw [List.getElem_map, List.getElem_range, ndSum_eq_sum, column_sum X n hX.1 j, hX.1,
        ← getD_of_lt _ 0 h2]
      exact (hv ⟨j, hl ▸ h2⟩).symm
    · rfl
  | _ => rfl

/-- **the projected training data is centred**: when the stored mean is the column mean of the
training matrix (what `fit` stores, in every layout) every coordinate of `predict(X)` sums to zero
over the training rows — so the scatter `ZᵀZ` of the theorems in `Props/C18.lean` is `(n-1)` times
the sample covariance of the projection. -/
theorem transform_colsum_zero (m : Model α) (X : List (List α)) (n k p : Nat)
    (hX : Shape X n p) (hW : Shape m.embedding k p) (hmean : m.mean = colMean p X)
    (hn : (n : α) ≠ 0) (j : Fin k) :
    ∑ i : Fin n, toM (transform m X) n k i j = 0 := by
  obtain ⟨hl, hv⟩ := colMean_spec X n p hX
  have hμ : m.mean.length = p := by rw [hmean]; exact hl
  rw [transform_toM m X n k p hX hW hμ]
  simp only [transformM, Matrix.mul_apply, Matrix.sub_apply, Matrix.transpose_apply, rowConst,
    Matrix.of_apply, toM, toV]
  rw [Finset.sum_comm]
  refine Finset.sum_eq_zero fun l _ => ?_
  rw [← Finset.sum_mul, Finset.sum_sub_distrib, hmean, hv l, Fin.sum_const, nsmul_eq_mul,
    mul_div_cancel₀ _ hn, sub_self, zero_mul]

end LinfaSpec.Pca
