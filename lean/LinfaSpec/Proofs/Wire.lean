import LinfaSpec.Model.Wire

/-!
Helper lemmas for the MessagePack wire model (C19): big-endian fields, headers, and the
decoder's behaviour on each header range, the round trip.  Core Lean only.
-/
namespace LinfaSpec.Wire

theorem length_beBytes (k n : Nat) : (beBytes k n).length = k := by
  induction k generalizing n with
  | zero => rfl
  | succ k ih => simp [beBytes, ih]

theorem beNat_append (xs : Bytes) (b : UInt8) : beNat (xs ++ [b]) = beNat xs * 256 + b.toNat := by
  simp [beNat, List.foldl_append]

theorem beNat_beBytes (k n : Nat) (h : n < 256 ^ k) : beNat (beBytes k n) = n := by
  induction k generalizing n with
  | zero => simp at h; subst h; rfl
  | succ k ih =>
    have h1 : n / 256 < 256 ^ k := by
      rw [Nat.div_lt_iff_lt_mul (by decide)]; rw [Nat.pow_succ] at h; exact h
    rw [beBytes, beNat_append, ih _ h1]
    have : (UInt8.ofNat (n % 256)).toNat = n % 256 := by
      simp [UInt8.toNat_ofNat']
    rw [this]; omega

theorem readBE_beBytes (k n : Nat) (rest : Bytes) (h : n < 256 ^ k) :
    readBE k (beBytes k n ++ rest) = some (n, rest) := by
  have hl := length_beBytes k n
  unfold readBE
  have : ¬ ((beBytes k n ++ rest).length < k) := by simp [hl]
  rw [if_neg this]
  have ht : (beBytes k n ++ rest).take k = beBytes k n := by
    rw [List.take_append_of_le_length (by omega)]; rw [List.take_of_length_le (by omega)]
  have hd : (beBytes k n ++ rest).drop k = rest := by
    rw [List.drop_append_of_le_length (by omega)]; rw [List.drop_of_length_le (by omega)]; simp
  rw [ht, hd, beNat_beBytes k n h]

theorem readBytes_append (s rest : Bytes) : readBytes s.length (s ++ rest) = some (s, rest) := by
  unfold readBytes
  have : ¬ ((s ++ rest).length < s.length) := by simp
  rw [if_neg this]
  simp

theorem withLen_beBytes (k n : Nat) (rest : Bytes) (f : Nat → Bytes → Option (Val × Bytes)) (h : n < 256 ^ k) :
    withLen k (beBytes k n ++ rest) f = f n rest := by
  simp [withLen, readBE_beBytes k n rest h]

theorem strBody_append (s rest : Bytes) : strBody s.length (s ++ rest) = some (.str s, rest) := by
  simp [strBody, readBytes_append]
theorem binBody_append (s rest : Bytes) : binBody s.length (s ++ rest) = some (.bin s, rest) := by
  simp [binBody, readBytes_append]

theorem toNat_ofNat_lt (n : Nat) (h : n < 256) : (UInt8.ofNat n).toNat = n := by
  simp [UInt8.toNat_ofNat']; omega

/-! The decoder on the five header ranges, for any byte `b` of value `t`.  (On a literal header byte
`simp [decode]` evaluates the dispatch.)  The tests of `decode` that come before the one that fires are
refuted one at a time.  The value is a separate `t` with `b.toNat = t` because the callers pass
`toNat_ofNat_lt n _ : (UInt8.ofNat n).toNat = n`, so that the conclusion speaks of `n`. -/

theorem decode_posfix (f : Nat) (b : UInt8) (r : Bytes) (t : Nat) (ht : b.toNat = t) (h : t < 0x80) :
    decode (f+1) (b :: r) = some (.uint t, r) := by
  subst ht; rw [decode]; exact if_pos h

theorem decode_fixmap (f : Nat) (b : UInt8) (r : Bytes) (t : Nat) (ht : b.toNat = t) (h : 0x80 ≤ t)
    (h' : t < 0x90) : decode (f+1) (b :: r) = mapBody (decode f) (t - 0x80) r := by
  subst ht; rw [decode]
  repeat (refine (if_neg (by omega)).trans ?_)
  exact if_pos h'

theorem decode_fixarr (f : Nat) (b : UInt8) (r : Bytes) (t : Nat) (ht : b.toNat = t) (h : 0x90 ≤ t)
    (h' : t < 0xa0) : decode (f+1) (b :: r) = arrBody (decode f) (t - 0x90) r := by
  subst ht; rw [decode]
  repeat (refine (if_neg (by omega)).trans ?_)
  exact if_pos h'

theorem decode_fixstr (f : Nat) (b : UInt8) (r : Bytes) (t : Nat) (ht : b.toNat = t) (h : 0xa0 ≤ t)
    (h' : t < 0xc0) : decode (f+1) (b :: r) = strBody (t - 0xa0) r := by
  subst ht; rw [decode]
  repeat (refine (if_neg (by omega)).trans ?_)
  exact if_pos h'

theorem decode_negfix (f : Nat) (b : UInt8) (r : Bytes) (t : Nat) (ht : b.toNat = t) (h : 0xe0 ≤ t) :
    decode (f+1) (b :: r) = some (.nint (255 - t), r) := by
  subst ht; rw [decode]
  repeat (refine (if_neg (by omega)).trans ?_)
  exact if_pos h

/-- along the encoder's `if` chains a decoding result is established branch by branch -/
theorem decode_ite {c : Prop} [Decidable c] {f : Nat} {a b rest : Bytes} {r : Option (Val × Bytes)}
    (ha : c → decode f (a ++ rest) = r) (hb : ¬c → decode f (b ++ rest) = r) :
    decode f ((if c then a else b) ++ rest) = r := by
  split
  · exact ha ‹_›
  · exact hb ‹_›

theorem dec_uint (n : Nat) (rest : Bytes) (f : Nat) (h : n < 18446744073709551616) :
    decode (f+1) (encUInt n ++ rest) = some (.uint n, rest) := by
  unfold encUInt
  refine decode_ite (fun h1 => ?_) fun _ => decode_ite (fun h2 => ?_) fun _ => decode_ite (fun h3 => ?_) fun _ =>
    decode_ite (fun h4 => ?_) fun _ => ?_
  · exact decode_posfix f _ rest n (toNat_ofNat_lt n (by omega)) h1
  · simp [decode, withLen_beBytes 1 n rest _ h2]
  · simp [decode, withLen_beBytes 2 n rest _ h3]
  · simp [decode, withLen_beBytes 4 n rest _ h4]
  · simp [decode, withLen_beBytes 8 n rest _ h]

/-- a `k`-byte two's-complement field holding `-(n+1)` reads back as `nint n` -/
theorem signedVal_neg (k n : Nat) (h : n < 256 ^ k / 2) : signedVal k (256 ^ k - 1 - n) = .nint n := by
  unfold signedVal
  generalize 256 ^ k = m at h ⊢
  rw [if_neg (by omega)]; congr 1; omega

theorem dec_nint (n : Nat) (rest : Bytes) (f : Nat) (h : n < 9223372036854775808) :
    decode (f+1) (encNInt n ++ rest) = some (.nint n, rest) := by
  unfold encNInt
  refine decode_ite (fun h1 => ?_) fun _ => decode_ite (fun h2 => ?_) fun _ => decode_ite (fun h3 => ?_) fun _ =>
    decode_ite (fun h4 => ?_) fun _ => ?_
  · rw [List.singleton_append, decode_negfix f _ rest (255 - n) (toNat_ofNat_lt _ (by omega)) (by omega),
      Nat.sub_sub_self (by omega)]
  · simp [decode, withLen_beBytes 1 (255 - n) rest _ (by omega)]; exact signedVal_neg 1 n h2
  · simp [decode, withLen_beBytes 2 (65535 - n) rest _ (by omega)]; exact signedVal_neg 2 n h3
  · simp [decode, withLen_beBytes 4 (4294967295 - n) rest _ (by omega)]; exact signedVal_neg 4 n h4
  · simp [decode, withLen_beBytes 8 (18446744073709551615 - n) rest _ (by omega)]; exact signedVal_neg 8 n h

theorem dec_f32 (b : UInt32) (rest : Bytes) (f : Nat) :
    decode (f+1) ((0xca :: beBytes 4 b.toNat) ++ rest) = some (.f32 b, rest) := by
  simp [decode, withLen_beBytes 4 _ rest _ b.toNat_lt]

theorem dec_f64 (b : UInt64) (rest : Bytes) (f : Nat) :
    decode (f+1) ((0xcb :: beBytes 8 b.toNat) ++ rest) = some (.f64 b, rest) := by
  simp [decode, withLen_beBytes 8 _ rest _ b.toNat_lt]

theorem dec_str (s rest : Bytes) (f : Nat) (h : s.length < 4294967296) :
    decode (f+1) (strHdr s.length ++ s ++ rest) = some (.str s, rest) := by
  rw [strHdr, List.append_assoc]
  refine decode_ite (fun h1 => ?_) fun _ => decode_ite (fun h2 => ?_) fun _ => decode_ite (fun h3 => ?_) fun _ => ?_
  · rw [List.singleton_append, decode_fixstr f _ _ _ (toNat_ofNat_lt _ (by omega)) (by omega) (by omega),
      Nat.add_sub_cancel_left]
    exact strBody_append s rest
  · simp [decode, withLen_beBytes 1 _ _ _ h2, strBody_append]
  · simp [decode, withLen_beBytes 2 _ _ _ h3, strBody_append]
  · simp [decode, withLen_beBytes 4 _ _ _ h, strBody_append]

theorem dec_bin (s rest : Bytes) (f : Nat) (h : s.length < 4294967296) :
    decode (f+1) (binHdr s.length ++ s ++ rest) = some (.bin s, rest) := by
  rw [binHdr, List.append_assoc]
  refine decode_ite (fun h1 => ?_) fun _ => decode_ite (fun h2 => ?_) fun _ => ?_
  · simp [decode, withLen_beBytes 1 _ _ _ h1, binBody_append]
  · simp [decode, withLen_beBytes 2 _ _ _ h2, binBody_append]
  · simp [decode, withLen_beBytes 4 _ _ _ h, binBody_append]

theorem dec_arrHdr (n : Nat) (tail : Bytes) (f : Nat) (h : n < 4294967296) :
    decode (f+1) (arrHdr n ++ tail) = arrBody (decode f) n tail := by
  unfold arrHdr
  refine decode_ite (fun h1 => ?_) fun _ => decode_ite (fun h2 => ?_) fun _ => ?_
  · rw [List.singleton_append, decode_fixarr f _ _ _ (toNat_ofNat_lt _ (by omega)) (by omega) (by omega),
      Nat.add_sub_cancel_left]
  · simp [decode, withLen_beBytes 2 n tail _ h2]
  · simp [decode, withLen_beBytes 4 n tail _ h]

theorem dec_mapHdr (n : Nat) (tail : Bytes) (f : Nat) (h : n < 4294967296) :
    decode (f+1) (mapHdr n ++ tail) = mapBody (decode f) n tail := by
  unfold mapHdr
  refine decode_ite (fun h1 => ?_) fun _ => decode_ite (fun h2 => ?_) fun _ => ?_
  · rw [List.singleton_append, decode_fixmap f _ _ _ (toNat_ofNat_lt _ (by omega)) (by omega) (by omega),
      Nat.add_sub_cancel_left]
  · simp [decode, withLen_beBytes 2 n tail _ h2]
  · simp [decode, withLen_beBytes 4 n tail _ h]


theorem depth_pos (v : Val) : 1 ≤ v.depth := by
  cases v <;> simp [Val.depth]

mutual
theorem dec_enc : (v : Val) → ∀ (rest : Bytes) (f : Nat), v.wf = true → v.depth ≤ f →
    decode f (encode v ++ rest) = some (v, rest)
  | v, _, 0, _, hd => absurd (Nat.le_trans (depth_pos v) hd) (Nat.lt_irrefl 0)
  | .nil, rest, f+1, _, _ => by rw [encode]; rfl
  | .bool false, rest, f+1, _, _ => by rw [encode]; rfl
  | .bool true, rest, f+1, _, _ => by rw [encode]; rfl
  | .uint n, rest, f+1, hw, _ => dec_uint n rest f (of_decide_eq_true hw)
  | .nint n, rest, f+1, hw, _ => dec_nint n rest f (of_decide_eq_true hw)
  | .f32 b, rest, f+1, _, _ => dec_f32 b rest f
  | .f64 b, rest, f+1, _, _ => dec_f64 b rest f
  | .str s, rest, f+1, hw, _ => dec_str s rest f (of_decide_eq_true hw)
  | .bin s, rest, f+1, hw, _ => dec_bin s rest f (of_decide_eq_true hw)
  | .arr xs, rest, f+1, hw, hd => by
    rw [Val.wf, Bool.and_eq_true, decide_eq_true_eq] at hw
    rw [encode, List.append_assoc, dec_arrHdr _ _ f hw.1, arrBody,
      dec_encList xs rest f hw.2 (Nat.le_of_succ_le_succ hd)]
  | .map kvs, rest, f+1, hw, hd => by
    rw [Val.wf, Bool.and_eq_true, decide_eq_true_eq] at hw
    rw [encode, List.append_assoc, dec_mapHdr _ _ f hw.1, mapBody,
      dec_encPairs kvs rest f hw.2 (Nat.le_of_succ_le_succ hd)]
theorem dec_encList : (xs : List Val) → ∀ (rest : Bytes) (f : Nat), wfList xs = true → depthList xs ≤ f →
    listOf (decode f) xs.length (encodeList xs ++ rest) = some (xs, rest)
  | [], rest, f, _, _ => rfl
  | x :: xs, rest, f, hw, hd => by
    rw [wfList, Bool.and_eq_true] at hw
    have hd := Nat.max_le.mp hd
    rw [encodeList, List.length_cons, listOf, List.append_assoc, dec_enc x _ f hw.1 hd.1]
    dsimp only
    rw [dec_encList xs rest f hw.2 hd.2]
theorem dec_encPairs : (kvs : List (Val × Val)) → ∀ (rest : Bytes) (f : Nat), wfPairs kvs = true → depthPairs kvs ≤ f →
    pairsOf (decode f) kvs.length (encodePairs kvs ++ rest) = some (kvs, rest)
  | [], rest, f, _, _ => rfl
  | (k, v) :: r, rest, f, hw, hd => by
    rw [wfPairs, Bool.and_eq_true, Bool.and_eq_true] at hw
    have hd := Nat.max_le.mp hd
    have hd' := Nat.max_le.mp hd.2
    rw [encodePairs, List.length_cons, pairsOf, List.append_assoc, dec_enc k _ f hw.1 hd.1]
    dsimp only
    rw [List.append_assoc, dec_enc v _ f hw.2.1 hd'.1]
    dsimp only
    rw [dec_encPairs r rest f hw.2.2 hd'.2]
end


theorem ite_ne_nil {α} {c : Prop} [Decidable c] {a b : List α} (ha : a ≠ []) (hb : b ≠ []) :
    (if c then a else b) ≠ [] := by split <;> assumption

/-! Every header the encoder writes is non-empty: each branch of its `if` chain is a `cons`. -/

theorem encUInt_ne_nil (n : Nat) : encUInt n ≠ [] := by
  unfold encUInt; repeat' apply ite_ne_nil
  all_goals exact List.cons_ne_nil _ _
theorem encNInt_ne_nil (n : Nat) : encNInt n ≠ [] := by
  unfold encNInt; repeat' apply ite_ne_nil
  all_goals exact List.cons_ne_nil _ _
theorem strHdr_ne_nil (n : Nat) : strHdr n ≠ [] := by
  unfold strHdr; repeat' apply ite_ne_nil
  all_goals exact List.cons_ne_nil _ _
theorem binHdr_ne_nil (n : Nat) : binHdr n ≠ [] := by
  unfold binHdr; repeat' apply ite_ne_nil
  all_goals exact List.cons_ne_nil _ _
theorem arrHdr_ne_nil (n : Nat) : arrHdr n ≠ [] := by
  unfold arrHdr; repeat' apply ite_ne_nil
  all_goals exact List.cons_ne_nil _ _
theorem mapHdr_ne_nil (n : Nat) : mapHdr n ≠ [] := by
  unfold mapHdr; repeat' apply ite_ne_nil
  all_goals exact List.cons_ne_nil _ _

theorem encode_ne_nil : ∀ v : Val, encode v ≠ []
  | .nil | .bool true | .bool false | .f32 _ | .f64 _ => List.cons_ne_nil _ _
  | .uint n => encUInt_ne_nil n
  | .nint n => encNInt_ne_nil n
  | .str _ => List.append_ne_nil_of_left_ne_nil (strHdr_ne_nil _) _
  | .bin _ => List.append_ne_nil_of_left_ne_nil (binHdr_ne_nil _) _
  | .arr _ => List.append_ne_nil_of_left_ne_nil (arrHdr_ne_nil _) _
  | .map _ => List.append_ne_nil_of_left_ne_nil (mapHdr_ne_nil _) _

theorem encode_length_pos (v : Val) : 1 ≤ (encode v).length := List.length_pos_iff.mpr (encode_ne_nil v)

mutual
theorem depth_le : (v : Val) → v.depth ≤ (encode v).length
  | .arr xs => by
    simp only [Val.depth, encode, List.length_append]
    have := List.length_pos_iff.mpr (arrHdr_ne_nil xs.length); have := depthList_le xs; omega
  | .map kvs => by
    simp only [Val.depth, encode, List.length_append]
    have := List.length_pos_iff.mpr (mapHdr_ne_nil kvs.length); have := depthPairs_le kvs; omega
  | .nil | .bool _ | .uint _ | .nint _ | .f32 _ | .f64 _ | .str _ | .bin _ => encode_length_pos _
theorem depthList_le : (xs : List Val) → depthList xs ≤ (encodeList xs).length
  | [] => by simp [depthList]
  | x :: xs => by
    simp only [depthList, encodeList, List.length_append]
    have := depth_le x; have := depthList_le xs; omega
theorem depthPairs_le : (kvs : List (Val × Val)) → depthPairs kvs ≤ (encodePairs kvs).length
  | [] => by simp [depthPairs]
  | (k, v) :: r => by
    simp only [depthPairs, encodePairs, List.length_append]
    have := depth_le k; have := depth_le v; have := depthPairs_le r; omega
end


end LinfaSpec.Wire
