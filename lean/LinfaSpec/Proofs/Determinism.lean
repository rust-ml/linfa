import LinfaSpec.Model.Determinism

/-!
Core-Lean facts for C20: the disjoint-write loop cell by cell, the event machine below the task
level, and the invariant of the hierarchical merge loop.
-/
namespace LinfaSpec.Determinism
open List

/-! ### two facts about cells of a list -/

/-- a list is determined by its length and its cells -/
theorem eq_map_range {β} {l : List β} {n : Nat} {f : Nat → β} (hlen : l.length = n)
    (h : ∀ i, i < n → l[i]? = some (f i)) : l = (List.range n).map f := by
  refine List.ext_getElem (by rw [hlen, List.length_map, List.length_range]) fun i hi _ => ?_
  rw [List.getElem_map, List.getElem_range]
  exact Option.some.inj ((List.getElem?_eq_getElem hi).symm.trans (h i (hlen ▸ hi)))

/-- Overwriting position `j` leaves position `i` holding `x`, unless `j = i` and another value is
written. -/
theorem getElem?_set_stable {γ} {l : List γ} {i j : Nat} {x y : γ} (h : l[i]? = some x)
    (hy : j = i → y = x) : (l.set j y)[i]? = some x := by
  rw [List.getElem?_set]
  split
  next hji =>
    subst hji
    rw [if_pos (List.getElem?_eq_some_iff.mp h).1, hy rfl]
  next => exact h

/-! ### disjoint-write loop -/

theorem parFor_cons {β} (f : Nat → β) (j : Nat) (js : List Nat) (init : List β) :
    parFor f (j :: js) init = parFor f js (init.set j (f j)) := rfl

theorem parFor_length {β} (f : Nat → β) (sched : List Nat) (init : List β) :
    (parFor f sched init).length = init.length := by
  induction sched generalizing init with
  | nil => rfl
  | cons j js ih => rw [parFor_cons, ih, List.length_set]

/-- cell `i` after the loop: written iff some task `i` ran -/
theorem parFor_getElem? {β} (f : Nat → β) (sched : List Nat) (init : List β) (i : Nat) :
    (parFor f sched init)[i]? =
      if i ∈ sched ∧ i < init.length then some (f i) else init[i]? := by
  induction sched generalizing init with
  | nil => simp [parFor]
  | cons j js ih =>
    rw [parFor_cons, ih, List.length_set, List.getElem?_set]
    by_cases hji : j = i
    · subst hji
      by_cases hl : j < init.length <;> simp [hl]
    · simp [hji, Ne.symm hji]

/-! ### event-level interleavings -/

section Events
variable {β : Type} (f : Nat → β) (n : Nat)

/-- slots only ever hold the task's own value; array lengths are fixed -/
def EvGood (s : EvState β) : Prop :=
  s.slots.length = n ∧ s.cells.length = n ∧ ∀ i v, s.slots[i]? = some (some v) → v = f i

theorem evGood_init (init : List β) :
    EvGood f init.length { slots := List.replicate init.length none, cells := init } := by
  refine ⟨List.length_replicate, rfl, fun i v hv => ?_⟩
  rw [List.getElem?_replicate] at hv
  split at hv <;> cases hv

theorem evStep_write_some (s : EvState β) (j : Nat) (v : β) (h : s.slots[j]? = some (some v)) :
    evStep f s (.write j) = { s with cells := s.cells.set j v } := by
  simp [evStep, h]

variable {f n} {s : EvState β} (hg : EvGood f n s)
include hg

/-- in a good state a write event stores the task's own value, or does nothing -/
theorem evStep_write_cases (j : Nat) :
    evStep f s (.write j) = { s with cells := s.cells.set j (f j) } ∨ evStep f s (.write j) = s := by
  cases hs : s.slots[j]? with
  | none => exact .inr (by simp only [evStep, hs])
  | some o =>
    cases o with
    | none => exact .inr (by simp only [evStep, hs])
    | some v => exact .inl (hg.2.2 j v hs ▸ evStep_write_some f s j v hs)

theorem evGood_step (e : Event) : EvGood f n (evStep f s e) := by
  cases e with
  | compute j =>
    refine ⟨(List.length_set ..).trans hg.1, hg.2.1, fun i v hv => ?_⟩
    by_cases hji : j = i
    · subst hji
      have hj : j < s.slots.length := List.length_set ▸ (List.getElem?_eq_some_iff.mp hv).1
      exact (Option.some.inj (Option.some.inj ((List.getElem?_set_self hj).symm.trans hv))).symm
    · exact hg.2.2 i v ((List.getElem?_set_ne hji).symm.trans hv)
  | write j =>
    rcases evStep_write_cases hg j with hw | hw <;> rw [hw]
    · exact ⟨hg.1, (List.length_set ..).trans hg.2.1, hg.2.2⟩
    · exact hg

/-- a property that every step preserves in good states holds, with goodness, after any run -/
theorem foldl_stable {Q : EvState β → Prop}
    (hQ : ∀ s e, EvGood f n s → Q s → Q (evStep f s e)) (evs : List Event) (h : Q s) :
    EvGood f n (evs.foldl (evStep f) s) ∧ Q (evs.foldl (evStep f) s) :=
  List.foldlRecOn (motive := fun s => EvGood f n s ∧ Q s) evs _ ⟨hg, h⟩
    fun s hs e _ => ⟨evGood_step hs.1 e, hQ s e hs.1 hs.2⟩

theorem evGood_foldl (evs : List Event) : EvGood f n (evs.foldl (evStep f) s) :=
  (foldl_stable (Q := fun _ => True) hg (fun _ _ _ h => h) evs trivial).1

omit hg in
/-- once task `i` has computed, its slot keeps `f i` -/
theorem slot_stable_step (s : EvState β) (e : Event) {i : Nat}
    (h : s.slots[i]? = some (some (f i))) : (evStep f s e).slots[i]? = some (some (f i)) := by
  cases e with
  | compute j => exact getElem?_set_stable h (fun hji => by rw [hji])
  | write j =>
    simp only [evStep]
    split <;> exact h

/-- once cell `i` holds `f i`, it keeps it: the only event that touches it writes `f i` again -/
theorem cell_stable_step (e : Event) {i : Nat} (h : s.cells[i]? = some (f i)) :
    (evStep f s e).cells[i]? = some (f i) := by
  cases e with
  | compute j => exact h
  | write j =>
    rcases evStep_write_cases hg j with hw | hw <;> rw [hw]
    · exact getElem?_set_stable h (fun hji => by rw [hji])
    · exact h

/-- a task whose compute event precedes its write event leaves `f i` in its cell, whatever the
other tasks' events do in between and afterwards -/
theorem events_cell {i : Nat} (hi : i < n) (p1 p2 post : List Event) :
    ((p1 ++ .compute i :: p2 ++ .write i :: post).foldl (evStep f) s).cells[i]? = some (f i) := by
  rw [List.foldl_append, List.foldl_cons, List.foldl_append, List.foldl_cons]
  -- three stretches: good; good and slot `i` computed; good and cell `i` written
  have g1 := evGood_foldl hg p1
  have ⟨g2, h2⟩ := foldl_stable (evGood_step g1 (.compute i)) (fun s e _ => slot_stable_step s e) p2
    (List.getElem?_set_self (g1.1 ▸ hi))
  exact (foldl_stable (evGood_step g2 (.write i)) (fun _ e hs => cell_stable_step hs e) post
    (evStep_write_some f _ i (f i) h2 ▸ List.getElem?_set_self (g2.2.1 ▸ hi))).2

end Events

/-! ### hierarchical clustering -/

/-- the member lists of two `(id, members)` entries are disjoint (`List.Disjoint`, spelled out: no
Mathlib here) -/
def Disj (a b : Nat × List Nat) : Prop := ∀ x, x ∈ a.2 → x ∈ b.2 → False

theorem Disj.symm {a b} (h : Disj a b) : Disj b a := fun x hb ha => h x ha hb

/-- invariant of the merge loop: clusters are non-empty and pairwise disjoint -/
def ClInv (cl : List (Nat × List Nat)) : Prop :=
  (∀ c ∈ cl, c.2 ≠ []) ∧ cl.Pairwise Disj

theorem removeKey_perm {id : Nat} {cl : List (Nat × List Nat)} {v rest}
    (h : removeKey id cl = some (v, rest)) : cl ~ (id, v) :: rest := by
  fun_induction removeKey id cl generalizing v rest with
  | case1 => cases h
  | case2 e es he => cases h; rw [← he]
  | case3 e es he hr => cases h
  | case4 e es he v' rest' hr ih => cases h; exact ((ih hr).cons e).trans (.swap _ _ _)

theorem ClInv.perm {a b : List (Nat × List Nat)} (p : a ~ b) (h : ClInv a) : ClInv b :=
  ⟨fun c hc => h.1 c (p.symm.subset hc), (p.pairwise_iff (fun hab => Disj.symm hab)).mp h.2⟩

theorem ClInv.merge {c1 c2 ct : Nat} {a b : List Nat} {rest : List (Nat × List Nat)}
    (h : ClInv ((c1, a) :: (c2, b) :: rest)) : ClInv (rest ++ [(ct, a ++ b)]) := by
  obtain ⟨hne, hpw⟩ := h
  rw [List.pairwise_cons, List.pairwise_cons] at hpw
  obtain ⟨ha, hb, hrest⟩ := hpw
  refine ClInv.perm (List.perm_append_singleton _ _).symm ⟨?_, List.pairwise_cons.mpr ⟨?_, hrest⟩⟩
  · intro c hc
    rcases List.mem_cons.mp hc with rfl | hc
    · exact fun h => hne (c1, a) (.head _) (List.append_eq_nil_iff.mp h).1
    · exact hne c (.tail _ (.tail _ hc))
  · intro x hx z hz hzx
    rcases List.mem_append.mp hz with hz | hz
    · exact ha x (.tail _ hx) z hz hzx
    · exact hb x hx z hz hzx

theorem mergeLoop_inv {α} [LE α] [DecidableLE α] {stop : Stop α} {steps : List (Nat × Nat × α)}
    {cl out : List (Nat × List Nat)} {ct : Nat} (hinv : ClInv cl)
    (h : mergeLoop stop steps cl ct = some out) : ClInv out := by
  fun_induction mergeLoop stop steps cl ct with
  | case1 => cases h; exact hinv
  | case2 => cases h; exact hinv
  | case3 => cases h
  | case4 => cases h
  | case5 c1 c2 d steps cl ct _ a cl1 h1 b cl2 h2 ih =>
    exact ih (hinv.perm ((removeKey_perm h1).trans ((removeKey_perm h2).cons _))).merge h

theorem singletons_inv (n : Nat) : ClInv ((List.range n).map fun i => (i, [i])) := by
  constructor
  · intro c hc
    obtain ⟨i, _, rfl⟩ := List.mem_map.mp hc
    exact List.cons_ne_nil _ _
  · rw [List.pairwise_map]
    refine (List.nodup_range (n := n)).imp ?_
    intro i j hij x hx hy
    exact hij ((List.mem_singleton.mp hx).symm.trans (List.mem_singleton.mp hy))

theorem minKey_mem {ids : List Nat} (h : ids ≠ []) : ∃ m, m ∈ ids ∧ minKey ids = m + 1 := by
  unfold minKey
  cases hm : ids.min? with
  | none => exact absurd (List.min?_eq_none_iff.mp hm) h
  | some m => exact ⟨m, List.min?_mem hm, rfl⟩

/-- disjoint non-empty clusters have different smallest members -/
theorem ClInv.minKey_nodup {cl : List (Nat × List Nat)} (h : ClInv cl) :
    (cl.map fun c => minKey c.2).Nodup := by
  rw [List.Nodup, List.pairwise_map]
  refine List.Pairwise.imp_of_mem ?_ h.2
  intro a b ha hb hd heq
  obtain ⟨m, hm, hk⟩ := minKey_mem (h.1 a ha)
  obtain ⟨m', hm', hk'⟩ := minKey_mem (h.1 b hb)
  have : m = m' := by omega
  subst this
  exact hd m hm hm'

end LinfaSpec.Determinism
