import LinfaSpec.Proofs.DatasetLabels
import LinfaSpec.Proofs.DatasetGuard

/-!
# C02 — dataset operations keep record, target and weight of a sample together

Theorems about `LinfaSpec.Dataset` (the model of `split_with_ratio`, `shuffle`,
`bootstrap*`, `with_labels`, `one_vs_all`, `map_targets`, `view`, `to_owned`,
`into_single_target`, `feature_iter`, `target_iter`, `sample_chunks`), for every
dataset over arbitrary record-cell, label and weight types, every index vector the
RNG may produce, and every finite history of operations.

`AlignedBy ρ γ τ f a b` (Proofs/Dataset.lean) is the property's predicate: row `k` of `b`
carries the record cells, the target cells (relabelled by `f`) and, if `b` has weights,
the weight of *one* sample `ρ k` of `a`; record column `j` of `b` is column `γ j` of `a`
and, if `b` has feature names, is named like it; likewise `τ` for target columns.
The per-operation theorems (`*_sound` in Proofs/Dataset.lean) give the witnesses explicitly, which is the selection law
(`ρ = id` / `n1 + ·` for the split, the RNG's index vector for shuffle and bootstrap,
the kept positions for `with_labels`, the block offset for chunks).
-/
namespace LinfaSpec.Props.C02
open LinfaSpec.Dataset

variable {R T W : Type}

/-- example datasets: `mkDS p t ix1 recs tgts weights fnames tnames` (plain targets) -/
def mkDS (p t : Nat) (ix1 : Bool) (recs tgts : List (List Nat)) (weights : List Nat)
    (fnames tnames : List String) : DS Nat Nat Nat :=
  ⟨p, t, ix1, recs, tgts, weights, fnames, tnames, none⟩

/-! ## composition: histories -/

/-- alignment is reflexive and closed under composition — this is what makes a statement
about single operations a statement about all finite sequences of them -/
theorem aligned_refl (a : DS R T W) : Aligned a a := Aligned.refl a

theorem aligned_trans {a b c : DS R T W} (h₁ : Aligned a b) (h₂ : Aligned b c) : Aligned a c :=
  Aligned.trans h₁ h₂

/-- the two operations that work on the raw row-major buffers need the matrix shape
(which ndarray guarantees): the owned split, and `into_single_target` on `[n, 1]` targets -/
def RawOk (op : Op T) (ds : DS R T W) : Prop :=
  match op with
  | .splitOwned _ _ => Shaped ds
  | .intoSingleTarget => ∀ g ∈ ds.tgts, g.length = 1
  | _ => True

/-- **every dataset any operation returns is aligned with its input** -/
theorem apply_aligned [DecidableEq T] (ofBool : Bool → T) (op : Op T) (ds : DS R T W)
    (hraw : RawOk op ds) (outs : List (DS R T W)) (h : apply ofBool op ds = some outs)
    (k : Nat) (d : DS R T W) (hd : outs[k]? = some d) : Aligned ds d :=
  (apply_sound h (List.mem_of_getElem? hd)).1 (fun _ _ e => by subst e; exact hraw) (fun e => by subst e; exact hraw)

/-- along a history, every dataset a raw-buffer operation is applied to has the matrix shape -/
def StepsOk [DecidableEq T] (ofBool : Bool → T) : List (Op T × Nat) → DS R T W → Prop
  | [], _ => True
  | (op, k) :: rest, ds =>
    RawOk op ds ∧ ∀ outs d, apply ofBool op ds = some outs → outs[k]? = some d → StepsOk ofBool rest d

/-- **all finite sequences of operations**: whatever dataset a history ends in, each of its rows
still carries the record cells, targets and weight of one sample of the dataset the history
started from, and each of its columns the cells and name of one original column.
(Induction over the history; `StepsOk` only asks that datasets are rectangular where the raw
buffers are cut — true of every ndarray.) -/
theorem aligned_ops [DecidableEq T] (ofBool : Bool → T) (ops : List (Op T × Nat)) :
    ∀ (ds ds' : DS R T W), StepsOk ofBool ops ds → runSeq ofBool ops ds = some ds' → Aligned ds ds' := by
  induction ops with
  | nil => intro ds ds' _ h; cases h; exact Aligned.refl _
  | cons s rest ih =>
    obtain ⟨op, k⟩ := s
    intro ds ds' hok h
    obtain ⟨outs, d, ha, hk, h⟩ := runSeq_cons h
    exact Aligned.trans (apply_aligned ofBool op ds hok.1 outs ha k d hk) (ih d ds' (hok.2 outs d ha hk) h)

/-- **the dataset invariant** (`WF`: matrix shape, one weight per sample or none, one name per
column or none — what the constructors of `DatasetBase` produce) **is preserved by every operation** -/
theorem apply_wf [DecidableEq T] (ofBool : Bool → T) (op : Op T) (ds : DS R T W) (hw : WF ds)
    (outs : List (DS R T W)) (h : apply ofBool op ds = some outs) : ∀ d ∈ outs, WF d :=
  fun _ hd => (apply_sound h hd).2.1 hw

/-- a well-formed dataset gives the raw-buffer operations what they need -/
theorem rawOk_of_wf [DecidableEq T] (ofBool : Bool → T) (op : Op T) (ds : DS R T W) (hw : WF ds)
    (outs : List (DS R T W)) (h : apply ofBool op ds = some outs) : RawOk op ds := by
  cases op with
  | splitOwned std n1 => exact hw.shaped
  | intoSingleTarget =>
    obtain ⟨a, hs, -⟩ := Option.map_eq_some_iff.mp h
    exact singletons_of_wf hw hs
  | _ => trivial

/-- **all finite sequences of operations, no side condition**: started from any dataset the
constructors can build (`WF`), whatever dataset a history ends in is again such a dataset, and each
of its rows carries the record cells, targets and weight of one sample of the initial dataset, each
of its columns the cells and name of one initial column.  (Induction over the history; the shape
that `aligned_ops` asks for step by step is carried along as an invariant by `apply_wf`.) -/
theorem aligned_history [DecidableEq T] (ofBool : Bool → T) (ops : List (Op T × Nat)) :
    ∀ (ds ds' : DS R T W), WF ds → runSeq ofBool ops ds = some ds' → Aligned ds ds' ∧ WF ds' := by
  induction ops with
  | nil => intro ds ds' hw h; cases h; exact ⟨Aligned.refl _, hw⟩
  | cons s rest ih =>
    obtain ⟨op, k⟩ := s
    intro ds ds' hw h
    obtain ⟨outs, d, ha, hk, h⟩ := runSeq_cons h
    obtain ⟨hal, hw'⟩ := ih d ds' (apply_wf ofBool op ds hw outs ha d (List.mem_of_getElem? hk)) h
    exact ⟨Aligned.trans (apply_aligned ofBool op ds (rawOk_of_wf ofBool op ds hw outs ha) outs ha k d hk) hal, hw'⟩

/-- the example dataset of the history below is well-formed -/
example : WF (mkDS 2 1 true [[0, 1], [8, 9], [16, 17], [24, 25]] [[0], [1], [0], [2]] [1000, 1001, 1002, 1003] ["f0", "f1"] ["t0"]) :=
  ⟨⟨by decide, by decide, by decide⟩, Or.inr (by decide), Or.inr (by decide), Or.inr (by decide)⟩

/-- non-vacuity: a history of five operations on a weighted, named 4-sample dataset runs to the end -/
example :
    let ds : DS Nat Nat Nat := mkDS 2 1 true [[0, 1], [8, 9], [16, 17], [24, 25]] [[0], [1], [0], [2]] [1000, 1001, 1002, 1003] ["f0", "f1"] ["t0"]
    (runSeq (fun b => if b then 1 else 0)
      [(.splitView 3, 0), (.withLabels [0, 2], 0), (.shuffle [1, 0], 0), (.featureIter, 1), (.oneVsAll, 0)] ds).map
        (fun d => (d.recs, d.tgts)) = some ([[17], [1]], [[1], [1]]) := by
  decide +kernel

/-! ## selection laws -/

/-- **ratio split of a view**: the first `n1` samples and the rest, in order — for records,
targets and (when there is one weight per sample) weights alike; a weight vector of any other length
(`with_weights` checks nothing) is carried by neither part; names are kept -/
theorem split_take_drop [DecidableEq T] (n1 : Nat) (ds a b : DS R T W) (h : splitView n1 ds = some (a, b)) :
    n1 ≤ ds.n ∧
    a.recs = ds.recs.take n1 ∧ b.recs = ds.recs.drop n1 ∧
    a.tgts = ds.tgts.take n1 ∧ b.tgts = ds.tgts.drop n1 ∧
    (ds.weights.length = ds.n → a.weights = ds.weights.take n1 ∧ b.weights = ds.weights.drop n1) ∧
    (ds.weights.length ≠ ds.n → a.weights = [] ∧ b.weights = []) ∧
    a.recs ++ b.recs = ds.recs ∧ a.tgts ++ b.tgts = ds.tgts ∧
    a.fnames = ds.fnames ∧ b.fnames = ds.fnames ∧ a.tnames = ds.tnames ∧ b.tnames = ds.tnames := by
  obtain ⟨hn, rfl, rfl⟩ := splitView_eq_some h
  exact ⟨hn, rfl, rfl, rfl, rfl, fun hw => ⟨if_pos hw, if_pos hw⟩, fun hw => ⟨if_neg hw, if_neg hw⟩,
    List.take_append_drop _ _, List.take_append_drop _ _, rfl, rfl, rfl, rfl⟩

example : (splitView 2 (mkDS 1 1 true [[0], [8], [16]] [[5], [6], [7]] [1, 2, 3] [] [])).map
    (fun ab => (ab.1.recs, ab.1.weights, ab.2.tgts, ab.2.weights)) = some ([[0], [8]], [1, 2], [[7]], [3]) := by
  decide +kernel

/-- **ratio split of owned data** (raw buffers cut at `n1*p` resp. `n1*t`): on a rectangular
dataset the parts have `n1` and `n - n1` samples and row `k` of the first part is sample `k`,
row `k` of the second is sample `n1 + k` — records, targets and weights alike -/
theorem split_owned_take_drop (std : Bool) (n1 : Nat) (ds a b : DS R T W) (hs : Shaped ds)
    (h : splitOwned std n1 ds = some (a, b)) :
    a.recs.length = n1 ∧ b.recs.length = ds.n - n1 ∧ a.tgts.length = n1 ∧ b.tgts.length = ds.n - n1 ∧
    AlignedBy id id id id ds a ∧ AlignedBy (fun k => n1 + k) id id id ds b := by
  have hal := splitOwned_rows hs h
  obtain ⟨hn, rfl, rfl⟩ := splitOwned_eq_some_of_shaped hs h
  have hn' : n1 ≤ ds.tgts.length := hs.2.2 ▸ hn
  exact ⟨List.length_take_of_le hn, List.length_drop, List.length_take_of_le hn',
    List.length_drop.trans (by rw [hs.2.2, DS.n]), hal.1.1, hal.2.1⟩

example :
    let r := splitOwned true 1 (mkDS 2 2 false [[0, 1], [8, 9], [16, 17]] [[5, 6], [7, 8], [9, 10]] [1, 2, 3] [] [])
    r.map (fun ab => (ab.1.recs, ab.1.tgts, ab.1.weights)) = some ([[0, 1]], [[5, 6]], [1]) ∧
    r.map (fun ab => (ab.2.recs, ab.2.tgts, ab.2.weights)) = some ([[8, 9], [16, 17]], [[7, 8], [9, 10]], [2, 3]) := by
  decide +kernel

/-- **owned split of a dataset whose weight vector is not one per sample** (`with_weights` checks
nothing): the first part keeps the whole vector, the second carries none — as the code does; both
parts are still aligned (`split_owned_take_drop`: weight `k` of the first part is weight `k` of the input) -/
theorem split_owned_weights_mismatch (std : Bool) (n1 : Nat) (ds a b : DS R T W)
    (h : splitOwned std n1 ds = some (a, b)) (hw : ds.weights.length ≠ ds.n) :
    a.weights = ds.weights ∧ b.weights = [] := by
  obtain ⟨-, -, rfl, rfl⟩ := splitOwned_eq_some h
  exact ⟨if_neg hw, if_neg hw⟩

example : (splitOwned true 1 (mkDS 1 1 true [[0], [8]] [[5], [6]] [1, 2, 3] [] [])).map
    (fun ab => (ab.1.weights, ab.2.weights)) = some ([1, 2, 3], []) := by decide +kernel

/-- **shuffle returns a permutation of all samples** (given that the RNG's index vector is a
permutation of `0..n`, which is `SliceRandom::shuffle`'s contract), records and targets moved
by the *same* permutation (`shuffle_sound`); names are kept -/
theorem shuffle_perm [DecidableEq T] (idx : List Nat) (ds d : DS R T W) (h : shuffle idx ds = some d)
    (hp : idx.Perm (List.range ds.n)) (hlen : ds.tgts.length = ds.recs.length) :
    d.recs.Perm ds.recs ∧ d.tgts.Perm ds.tgts ∧
    AlignedBy (fun k => idx.getD k 0) id id id ds d ∧ d.fnames = ds.fnames ∧ d.tnames = ds.tnames := by
  have hal := (shuffle_sound h).aligned
  obtain ⟨r, g, hr, hg, rfl⟩ := shuffle_eq_some h
  refine ⟨?_, ?_, hal, rfl, rfl⟩
  · have := hp.filterMap (ds.recs[·]?)
    rwa [← selRows_filterMap hr, DS.n, range_filterMap_get] at this
  · have := hp.filterMap (ds.tgts[·]?)
    rwa [← selRows_filterMap hg, DS.n, ← hlen, range_filterMap_get] at this

example : (shuffle [2, 0, 1] (mkDS 1 1 true [[0], [8], [16]] [[5], [6], [7]] [] ["f0"] [])).map
    (fun d => (d.recs, d.tgts, d.fnames)) = some ([[16], [0], [8]], [[7], [5], [6]], ["f0"]) := by
  decide +kernel

/-- **bootstrap draws only existing samples**: every (record, target) pair of the result is the
(record, target) pair of one sample of the input, and there are as many as indices drawn -/
theorem bootstrap_mem [DecidableEq T] (ns : Nat) (idx : List Nat) (ds d : DS R T W)
    (h : bootstrapSamples ns idx ds = some d) :
    d.recs.length = idx.length ∧ d.tgts.length = idx.length ∧
    ∀ (k : Nat) (r : List R) (g : List T), d.recs[k]? = some r → d.tgts[k]? = some g →
      ∃ i, idx[k]? = some i ∧ ds.recs[i]? = some r ∧ ds.tgts[i]? = some g := by
  obtain ⟨r, g, hr, hg, rfl⟩ := bootstrapSamples_eq_some h
  refine ⟨selRows_length hr, selRows_length hg, fun k r' g' hk hk' => ?_⟩
  obtain ⟨i, hi, hx⟩ := selRows_get hr hk
  obtain ⟨i', hi', hx'⟩ := selRows_get hg hk'
  cases hi.symm.trans hi'
  exact ⟨i, hi, hx, hx'⟩

/-- **bootstrap draws only existing features**: every cell of a result row is a cell of the same
sample, at the drawn column; the targets are untouched -/
theorem bootstrap_features_mem [DecidableEq T] (nf : Nat) (fidx : List Nat) (ds d : DS R T W)
    (h : bootstrapFeatures nf fidx ds = some d) :
    d.tgts = ds.tgts ∧ AlignedBy id (fun j => fidx.getD j 0) id id ds d := by
  refine ⟨?_, bootstrapFeatures_alignedBy h⟩
  obtain ⟨r, -, rfl⟩ := bootstrapFeatures_eq_some h
  rfl

example : (bootstrap 3 2 [2, 2, 0] [1, 1] (mkDS 2 1 true [[0, 1], [8, 9], [16, 17]] [[5], [6], [7]] [1, 2, 3] ["a", "b"] [])).map (fun d => (d.recs, d.tgts, d.weights, d.fnames)) =
    some ([[17, 17], [17, 17], [1, 1]], [[7], [7], [5]], [], []) := by
  decide +kernel

/-- **the combined bootstrap names its witness**: row `k` of `bootstrap((ns, nf))` is sample `idx[k]`,
record column `j` is column `fidx[j]` (the RNG's draws), targets untouched per row -/
theorem bootstrap_both_mem [DecidableEq T] (ns nf : Nat) (idx fidx : List Nat) (ds d : DS R T W)
    (h : bootstrap ns nf idx fidx ds = some d) :
    AlignedBy (fun k => idx.getD k 0) (fun j => fidx.getD j 0) id id ds d ∧
    d.recs.length = idx.length ∧ d.tgts.length = idx.length ∧ d.p = fidx.length := by
  obtain ⟨d1, hs, hf⟩ := bootstrap_eq_some h
  refine ⟨(bootstrap_sound h).aligned, ?_⟩
  obtain ⟨hr1, hg1, -⟩ := bootstrap_mem ns idx ds d1 hs
  obtain ⟨r, hr, rfl⟩ := bootstrapFeatures_eq_some hf
  exact ⟨(mapM_length hr).trans hr1, hg1, rfl⟩

/-- the positions `with_labels` keeps: exactly those whose target row contains a listed label,
in increasing order -/
theorem keptIdx_spec [DecidableEq T] (labs : List T) (tgts : List (List T)) :
    (∀ i, i ∈ keptIdx labs tgts ↔ ∃ g, tgts[i]? = some g ∧ ∃ y ∈ g, y ∈ labs) ∧
    (keptIdx labs tgts).Pairwise (· < ·) := by
  constructor
  · intro i
    simp only [keptIdx, List.mem_filter, List.mem_range, List.any_eq_true, List.contains_iff_mem]
    constructor
    · rintro ⟨hi, y, hy, hl⟩
      refine ⟨tgts[i], by simp [hi], y, ?_, hl⟩
      simpa [List.getD, hi] using hy
    · rintro ⟨g, hg, y, hy, hl⟩
      obtain ⟨hi, e⟩ := List.getElem?_eq_some_iff.mp hg
      exact ⟨hi, y, by simpa [List.getD, hg] using hy, hl⟩
  · exact List.Pairwise.filter _ List.pairwise_lt_range

/-- **label filtering keeps exactly the samples carrying one of the listed labels** (positions
`keptIdx`, see `keptIdx_spec`), moves records, targets and weights by the same positions (a weighted
input gives a weighted result with one weight per kept sample; only an unweighted input gives an
unweighted result), keeps the names, and **reports the label counts of the kept targets** -/
theorem with_labels_filter [DecidableEq T] (labs : List T) (ds d : DS R T W) (h : withLabels labs ds = some d) :
    let kept := keptIdx labs (ds.tgts.take ds.n)
    d.recs = kept.filterMap (ds.recs[·]?) ∧ d.tgts = kept.filterMap (ds.tgts[·]?) ∧
    d.recs.length = kept.length ∧ d.tgts.length = kept.length ∧
    (ds.weights = [] → d.weights = []) ∧ (ds.weights ≠ [] → d.weights = kept.filterMap (ds.weights[·]?)) ∧
    (ds.weights ≠ [] → d.weights.length = kept.length) ∧
    d.counts = some (labelCount ds.t d.tgts) ∧ d.fnames = ds.fnames ∧ d.tnames = ds.tnames := by
  intro kept
  obtain ⟨r, g, w, hr, hg, hw, rfl⟩ := withLabels_eq_some h
  refine ⟨selRows_filterMap hr, selRows_filterMap hg, selRows_length hr, selRows_length hg, fun he => ?_, fun hne => ?_,
    fun hne => ?_, rfl, rfl, rfl⟩
  · rw [he] at hw
    exact (Option.some.inj hw).symm
  · rw [if_neg (mt List.isEmpty_iff.mp hne)] at hw
    exact selRows_filterMap hw
  · rw [if_neg (mt List.isEmpty_iff.mp hne)] at hw
    exact selRows_length hw

example :
    let r := withLabels [7, 9] (mkDS 1 2 false [[0], [8], [16], [24]] [[5, 7], [6, 6], [9, 5], [7, 7]] [1, 2, 3, 4] [] [])
    r.map (fun d => (d.recs, d.tgts)) = some ([[0], [16], [24]], [[5, 7], [9, 5], [7, 7]]) ∧
    r.map (·.weights) = some [1, 3, 4] ∧
    r.map (·.counts) = some (some [[(5, 1), (9, 1), (7, 1)], [(7, 2), (5, 1)]]) := by
  decide +kernel

/-- **one-vs-all yields one correctly labelled binary view per label of the dataset**: the labels
reported are `labelsOf ds` (the code's own scan of the targets, first appearance first), in that order, and the view for `l`
has `y_i = (t_i = l)` over the same records, weights and names, with freshly counted labels -/
theorem one_vs_all_labels [DecidableEq T] (ds : DS R T W) :
    (oneVsAll ds).map (·.1) = labelsOf ds ∧
    ∀ l d, (l, d) ∈ oneVsAll ds →
      d.tgts = ds.tgts.map (·.map fun x => decide (x = l)) ∧ d.recs = ds.recs ∧ d.weights = ds.weights ∧
      d.fnames = ds.fnames ∧ d.tnames = ds.tnames ∧ d.counts = some (labelCount ds.t d.tgts) := by
  refine ⟨by simp [oneVsAll, List.map_map, Function.comp_def], fun l d hd => ?_⟩
  obtain ⟨-, rfl⟩ := mem_oneVsAll hd
  exact ⟨rfl, rfl, rfl, rfl, rfl, rfl⟩

example :
    let r := oneVsAll (mkDS 1 1 true [[0], [8], [16]] [[5], [6], [5]] [1, 2, 3] [] [])
    r.map (fun ld => (ld.1, ld.2.tgts)) = [(5, [[true], [false], [true]]), (6, [[false], [true], [false]])] ∧
    r.map (·.2.weights) = [[1, 2, 3], [1, 2, 3]] ∧
    r.map (·.2.counts) = [some [[(true, 2), (false, 1)]], some [[(false, 2), (true, 1)]]] := by
  decide +kernel

/-- **per-feature iteration**: view `j` holds record column `j` of every sample next to that
sample's targets and weight; if it carries a feature name it is the name of column `j` -/
theorem feature_iter_aligned (ds : DS R T W) (outs : List (DS R T W)) (h : featureIter ds = some outs) :
    outs.length = ds.p ∧ ∀ j d, outs[j]? = some d →
      AlignedBy id (fun _ => j) id id ds d ∧ d.tgts = ds.tgts ∧ d.weights = ds.weights := by
  refine ⟨by simpa using mapM_length h, fun j d hd => ⟨(featureIter_spec h j d hd).1, ?_⟩⟩
  obtain ⟨r, fnm, -, -, rfl⟩ := featureIter_get h hd
  exact ⟨rfl, rfl⟩

/-- **per-target iteration**: view `c` holds target column `c` of every sample next to that
sample's record and weight; if it carries a target name it is the name of column `c` -/
theorem target_iter_aligned (ds : DS R T W) (outs : List (DS R T W)) (h : targetIter ds = some outs) :
    outs.length = ds.t ∧ ∀ c d, outs[c]? = some d →
      AlignedBy id id (fun _ => c) id ds d ∧ d.recs = ds.recs ∧ d.weights = ds.weights := by
  refine ⟨by simpa using mapM_length h, fun c d hd => ⟨(targetIter_spec h c d hd).1, ?_⟩⟩
  obtain ⟨g, tnm, -, -, rfl⟩ := targetIter_get h hd
  exact ⟨rfl, rfl⟩

example :
    let r := targetIter (mkDS 1 2 false [[0], [8]] [[5, 7], [6, 9]] [1, 2] ["f0"] ["a", "b"])
    r.map (·.map fun d => (d.recs, d.tgts)) = some [([[0], [8]], [[5], [6]]), ([[0], [8]], [[7], [9]])] ∧
    r.map (·.map fun d => (d.weights, d.tnames)) = some [([1, 2], ["a"]), ([1, 2], ["b"])] := by
  decide +kernel

/-- **chunking**: chunk `i` is samples `[i*size, (i+1)*size)`, records and targets cut alike (row `k` of
chunk `i` is sample `i*size + k`); a chunk carries neither weights nor names -/
theorem sample_chunks_blocks [DecidableEq T] (size : Nat) (ds : DS R T W) (outs : List (DS R T W))
    (h : sampleChunks size ds = some outs) :
    0 < size ∧ outs.length = ds.n / size ∧ ∀ i d, outs[i]? = some d →
      d.recs = (ds.recs.drop (i * size)).take size ∧ d.tgts = (ds.tgts.drop (i * size)).take size ∧
      d.weights = [] ∧ d.fnames = [] ∧ d.tnames = [] ∧ AlignedBy (fun k => i * size + k) id id id ds d := by
  obtain ⟨hs, e⟩ := sampleChunks_eq_some h
  refine ⟨hs, (by rw [e, List.length_map, List.length_range]), fun i d hd => ?_⟩
  have ha := (sampleChunks_sound h i d hd).aligned
  rw [e] at hd
  rw [map_range_get hd] at ha ⊢
  exact ⟨rfl, rfl, rfl, rfl, rfl, ha⟩

/-- **target mapping, views, `to_owned`** change no sample: same records in the same order,
targets mapped cell by cell (resp. unchanged) -/
theorem map_view_owned [DecidableEq T] (f : T → T) (ds : DS R T W) :
    (mapTargets f ds).recs = ds.recs ∧ (mapTargets f ds).tgts = ds.tgts.map (·.map f) ∧
    (mapTargets f ds).weights = ds.weights ∧ (mapTargets f ds).fnames = ds.fnames ∧
    (mapTargets f ds).tnames = ds.tnames ∧
    (view ds).recs = ds.recs ∧ (view ds).tgts = ds.tgts ∧ (view ds).weights = ds.weights ∧
    (toOwned ds).recs = ds.recs ∧ (toOwned ds).tgts = ds.tgts :=
  ⟨rfl, rfl, rfl, rfl, rfl, rfl, rfl, rfl, rfl, rfl⟩

/-- **conversion to a single target** of `[n, 1]` targets keeps every sample's label next to its record -/
theorem into_single_target_same (ds d : DS R T W) (ht : ∀ g ∈ ds.tgts, g.length = 1)
    (h : intoSingleTarget ds = some d) : d.recs = ds.recs ∧ d.tgts = ds.tgts ∧ d.ix1 = true := by
  obtain ⟨-, rfl⟩ := intoSingleTarget_eq_some h
  exact ⟨rfl, flatten_singletons ds.tgts ht, rfl⟩

/-- the cached label count that `shuffle` returns is a recount of the targets it wraps (`recount`), not a
copy of the input's (`apply_counts_fresh` says it of every operation) -/
theorem counts_are_recounts [DecidableEq T] (idx : List Nat) (ds d : DS R T W) (h : shuffle idx ds = some d) :
    d.counts = recount ds.counted ds.t d.tgts := by
  obtain ⟨r, g, -, -, rfl⟩ := shuffle_eq_some h
  rfl

/-! ## cached label counts and the label set -/

/-- **a cached label count is never stale**: whatever dataset any of the operations returns, its
cached counts (if it has any) are the counts of the targets it wraps — for every operation, not
only `shuffle` (`counts_are_recounts`) -/
theorem apply_counts_fresh [DecidableEq T] (ofBool : Bool → T) (op : Op T) (ds : DS R T W)
    (outs : List (DS R T W)) (h : apply ofBool op ds = some outs) : ∀ d ∈ outs, CountsOk d :=
  fun _ hd => (apply_sound h hd).2.2

/-- along every history the cached counts stay fresh -/
theorem history_counts_fresh [DecidableEq T] (ofBool : Bool → T) (ops : List (Op T × Nat)) :
    ∀ (ds ds' : DS R T W), CountsOk ds → runSeq ofBool ops ds = some ds' → CountsOk ds' := by
  induction ops with
  | nil => intro ds ds' hc h; cases h; exact hc
  | cons s rest ih =>
    obtain ⟨op, k⟩ := s
    intro ds ds' _ h
    obtain ⟨outs, d, ha, hk, h⟩ := runSeq_cons h
    exact ih d ds' (apply_counts_fresh ofBool op ds outs ha d (List.mem_of_getElem? hk)) h

/-- **the reported label counts are counts**: the keys of a column's label map are exactly the
labels occurring in the column, each once, and the number stored with a label is the (positive)
number of its occurrences -/
theorem label_counts_count [DecidableEq T] (col : List T) :
    ((countCol col).map (·.1)).Nodup ∧ (∀ y, y ∈ (countCol col).map (·.1) ↔ y ∈ col) ∧
    ∀ y c, (y, c) ∈ countCol col → c = col.count y ∧ 0 < c :=
  countCol_spec col

example : countCol [5, 7, 5, 5, 9] = [(5, 3), (7, 1), (9, 1)] := by decide +kernel

/-- **one view per distinct label**: `one_vs_all` reports every label occurring in the targets, each
exactly once, and no other — unconditionally: the code scans the targets itself (`labelsOf`) and does not read
the cached label counts, and so does the model -/
theorem one_vs_all_distinct [DecidableEq T] (ds : DS R T W) :
    ((oneVsAll ds).map (·.1)).Nodup ∧ ∀ l, l ∈ (oneVsAll ds).map (·.1) ↔ ∃ g ∈ ds.tgts, l ∈ g := by
  rw [(one_vs_all_labels ds).1]
  exact labelsOf_spec ds

/-- a stale cache changes nothing: the views of a dataset whose cached counts are wrong are those of
the same dataset with no cache at all -/
theorem one_vs_all_ignores_cache [DecidableEq T] (ds : DS R T W) (c : Option (List (List (T × Nat)))) :
    oneVsAll { ds with counts := c } = oneVsAll ds := rfl

example :
    let ds : DS Nat Nat Nat := { mkDS 1 1 true [[0], [8], [16], [24]] [[5], [6], [5], [2]] [] [] [] with counts := some [[(9, 4)]] }
    (oneVsAll ds).map (·.1) = [5, 6, 2] := by decide +kernel

/-! ## per-sample iteration, weights of masked label frequencies -/

/-- **per-sample iteration** yields, for a dataset with one target row per record, exactly `n`
pairs, the `k`-th being the record and the target row of sample `k` -/
theorem sample_iter_pairs (ds : DS R T W) (h3 : ds.tgts.length = ds.recs.length) :
    ∃ prs, sampleIter ds = some prs ∧ prs.length = ds.n ∧
      ∀ (k : Nat) (r : List R) (g : List T), prs[k]? = some (r, g) → ds.recs[k]? = some r ∧ ds.tgts[k]? = some g := by
  have ht := sampleIter_total h3
  cases h : sampleIter ds with
  | none => simp [h] at ht
  | some prs => exact ⟨prs, rfl, sampleIter_pairs h⟩

example : sampleIter (mkDS 2 1 true [[0, 1], [8, 9]] [[5], [6]] [] [] []) = some [([0, 1], [5]), ([8, 9], [6])] := by
  decide +kernel

/-- **`weight_for(i)`** is the weight stored at position `i`, the default where none is stored -/
theorem weight_for_own (one : W) (ds : DS R T W) (i : Nat) :
    (∀ w, ds.weights[i]? = some w → weightFor one ds i = w) ∧ (ds.weights[i]? = none → weightFor one ds i = one) := by
  constructor
  · intro w h; simp [weightFor, h]
  · intro h; simp [weightFor, h]

/-- **masked label frequencies use each kept sample's own weight**: `label_frequencies_with_mask(mask)`
equals `label_frequencies()` of the dataset restricted to the positions passing the mask, targets and
weights selected by the *same* positions (`g'`, `w'` are those selections; without weights every
sample counts `one`) -/
theorem label_freq_mask_is_filter [DecidableEq T] [Add W] (zero one : W) (mask : List Bool) (ds : DS R T W)
    (g' : List (List T)) (w' : List W)
    (hg : selRows ((List.range ds.tgts.length).filter fun i => mask.getD i true) ds.tgts = some g')
    (hw : (ds.weights = [] ∧ w' = []) ∨
      selRows ((List.range ds.tgts.length).filter fun i => mask.getD i true) ds.weights = some w') :
    labelFreqsWithMask zero one mask ds = labelFreqsWithMask zero one [] { ds with tgts := g', weights := w' } := by
  unfold labelFreqsWithMask
  rw [maskedRows_restrict one mask ds g' w' hg hw]

example :
    let ds := mkDS 1 1 true [[0], [8], [16], [24]] [[5], [6], [5], [6]] [1000, 1001, 1002, 1003] [] []
    selRows ((List.range ds.tgts.length).filter fun i => [true, false, true, true].getD i true) ds.tgts = some [[5], [5], [6]] ∧
    selRows ((List.range ds.tgts.length).filter fun i => [true, false, true, true].getD i true) ds.weights = some [1000, 1002, 1003] ∧
    labelFreqsWithMask 0 1 [true, false, true, true] ds = [(5, 2002), (6, 1003)] := by
  decide +kernel

/-! ## totality inside the guard -/

/-- **inside the guard no operation panics**: on a dataset the constructors can build (`WF`), every
operation whose guard holds (`Guard`, Proofs/Dataset.lean) returns a result -/
theorem apply_total [DecidableEq T] (ofBool : Bool → T) (op : Op T) (ds : DS R T W) (hw : WF ds)
    (hg : Guard op ds) : (apply ofBool op ds).isSome := by
  cases op with
  | splitView n1 => exact Option.isSome_map.trans (splitView_total hg)
  | splitOwned std n1 =>
    obtain ⟨rfl, hc, hn⟩ := hg
    rw [apply, DS.counted, hc]
    exact Option.isSome_map.trans (splitOwned_total hn)
  | shuffle idx => exact Option.isSome_map.trans (shuffle_total hw hg)
  | bootstrap ns nf idx fidx => exact Option.isSome_map.trans (bootstrap_total hw hg.1 hg.2.1 hg.2.2.1 hg.2.2.2)
  | bootstrapSamples ns idx => exact Option.isSome_map.trans (bootstrapSamples_total hw hg.1 hg.2)
  | bootstrapFeatures nf fidx => exact Option.isSome_map.trans (bootstrapFeatures_total hw hg.1 hg.2)
  | withLabels labs => exact Option.isSome_map.trans (withLabels_total hw)
  | oneVsAll => rfl
  | mapTargets f => rfl
  | view => rfl
  | toOwned => rfl
  | intoSingleTarget => exact Option.isSome_map.trans (intoSingleTarget_total hw hg)
  | featureIter => exact featureIter_total hw
  | targetIter => exact targetIter_total hw
  | sampleChunks size => exact sampleChunks_total hg

example :
    let ds := mkDS 2 1 true [[0, 1], [8, 9], [16, 17]] [[0], [1], [0]] [1000, 1001, 1002] ["f0", "f1"] ["t0"]
    WF ds ∧ Guard (.bootstrap 2 1 [2, 0] [1]) ds ∧ Guard (.splitOwned true 2) ds ∧ Guard (.sampleChunks 2) ds :=
  ⟨⟨⟨by decide, by decide, by decide⟩, Or.inr (by decide), Or.inr (by decide), Or.inr (by decide)⟩,
   ⟨Or.inr (by decide), Or.inr (by decide), by unfold InRange; decide, by unfold InRange; decide⟩, ⟨rfl, rfl, by decide⟩,
   Nat.zero_lt_succ 1⟩

/-- **the driver's guard is the theorems' guard**: `guardB` (Model/Dataset.lean, evaluated by the
driver before every operation) decides `Guard` (the hypothesis of `apply_total`) -/
theorem guardB_iff (op : Op T) (ds : DS R T W) : guardB op ds = true ↔ Guard op ds := by
  cases op <;>
    simp only [guardB, Guard, inRangeB_iff, Bool.and_eq_true, Bool.or_eq_true, decide_eq_true_eq, beq_iff_eq,
      Option.isNone_iff_eq_none, and_assoc]

example :
    let ds := mkDS 2 1 true [[0, 1], [8, 9], [16, 17]] [[0], [1], [0]] [1000, 1001, 1002] ["f0", "f1"] ["t0"]
    guardB (.bootstrap 2 1 [2, 0] [1]) ds = true ∧ guardB (.bootstrap 2 1 [3, 0] [1]) ds = false ∧
    guardB (.splitOwned true 4) ds = false ∧ guardB (.withLabels [1]) { ds with weights := [1000] } = false := by
  decide +kernel

/-- inside the guard the driver's `apply` returns (the form of `apply_total` the driver relies on) -/
theorem apply_total_guardB [DecidableEq T] (ofBool : Bool → T) (op : Op T) (ds : DS R T W) (hw : WF ds)
    (hg : guardB op ds = true) : (apply ofBool op ds).isSome :=
  apply_total ofBool op ds hw ((guardB_iff op ds).mp hg)

/-! ## histories as the driver runs them -/

/-- **the driver's history is `runSeq`**: `runTrace` — the recursion the driver checks its own loop
against on every request, keeping the datasets of every step — ends where `runSeq` ends, so
`aligned_history` / `history_counts_fresh` speak about the datasets the correspondence compares -/
theorem runTrace_final [DecidableEq T] (ofBool : Bool → T) (ops : List (Op T × Nat)) :
    ∀ ds : DS R T W, (runTrace ofBool ops ds).2 = runSeq ofBool ops ds := by
  induction ops with
  | nil => intro ds; rfl
  | cons s rest ih =>
    obtain ⟨op, k⟩ := s
    intro ds
    simp only [runTrace, runSeq]
    cases ha : apply ofBool op ds with
    | none => rfl
    | some outs =>
      dsimp only
      cases hk : outs[k]? with
      | none => rfl
      | some d => simp only [ih d]

/-- every step of the trace is what `apply` returned on the dataset picked before it -/
theorem runTrace_head [DecidableEq T] (ofBool : Bool → T) (op : Op T) (k : Nat) (rest : List (Op T × Nat))
    (ds : DS R T W) (outs : List (DS R T W)) (d : DS R T W) (ha : apply ofBool op ds = some outs) (hk : outs[k]? = some d) :
    runTrace ofBool ((op, k) :: rest) ds = (outs :: (runTrace ofBool rest d).1, (runTrace ofBool rest d).2) := by
  simp [runTrace, ha, hk]

example :
    let ds : DS Nat Nat Nat := mkDS 2 1 true [[0, 1], [8, 9], [16, 17], [24, 25]] [[0], [1], [0], [2]] [1000, 1001, 1002, 1003] ["f0", "f1"] ["t0"]
    ((runTrace (fun b => if b then 1 else 0) [(.splitView 3, 0), (.withLabels [0, 2], 0), (.oneVsAll, 0)] ds).1.map (·.length)) = [2, 1, 1] := by
  decide +kernel

end LinfaSpec.Props.C02
