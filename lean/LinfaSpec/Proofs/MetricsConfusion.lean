import LinfaSpec.Proofs.Metrics

/-!
The confusion matrix.  The counting loop is characterised once by its cells (`cell_countLoop`); on a
square matrix the row, column, diagonal and grand sums are sums of cells, so what they count follows
from the cells by one partition lemma (`sum_length_filter_eq`).  Before the loop stands the class list
(`classes`: its members, no duplicates), after the sums the two splits of a counted matrix, the pairs
the loop skips, and the loops of the Matthews correlation as sums.
-/
namespace LinfaSpec.Metrics
open LinfaSpec

theorem length_filter_congr {β} {P Q : β → Prop} [DecidablePred P] [DecidablePred Q] (l : List β)
    (h : ∀ x ∈ l, P x ↔ Q x) : (l.filter fun x => P x).length = (l.filter fun x => Q x).length :=
  congrArg List.length (List.filter_congr fun x hx => decide_eq_decide.mpr (h x hx))

theorem length_filter_split {β} (P Q : β → Prop) [DecidablePred P] [DecidablePred Q] (l : List β) :
    (l.filter fun x => P x).length =
      (l.filter fun x => P x ∧ Q x).length + (l.filter fun x => P x ∧ ¬ Q x).length := by
  induction l with
  | nil => rfl
  | cons x xs ih =>
    simp only [List.filter_cons]
    by_cases hP : P x
    · by_cases hQ : Q x
      · simp only [hP, hQ, and_self, not_true_eq_false, and_false, decide_true, decide_false, if_true,
          List.length_cons, Bool.false_eq_true, if_false, ih]; omega
      · simp only [hP, hQ, and_false, not_false_eq_true, and_self, decide_true, decide_false, if_true,
          List.length_cons, Bool.false_eq_true, if_false, ih]; omega
    · simp only [hP, false_and, decide_false, Bool.false_eq_true, if_false, ih]

theorem count_four {β} (P Q : β → Prop) [DecidablePred P] [DecidablePred Q] (l : List β) :
    (l.filter fun x => P x).length =
      (l.filter fun x => P x ∧ Q x).length + (l.filter fun x => P x ∧ ¬ Q x).length ∧
    (l.filter fun x => Q x).length =
      (l.filter fun x => P x ∧ Q x).length + (l.filter fun x => ¬ P x ∧ Q x).length ∧
    l.length = (l.filter fun x => P x ∧ Q x).length + (l.filter fun x => P x ∧ ¬ Q x).length +
      (l.filter fun x => ¬ P x ∧ Q x).length + (l.filter fun x => ¬ P x ∧ ¬ Q x).length := by
  have hP := length_filter_split P Q l
  have hN := length_filter_split (fun x => ¬ P x) Q l
  have hQ := length_filter_split Q P l
  have hT := length_filter_split (fun _ => True) P l
  rw [length_filter_congr l (fun x _ => and_comm (a := Q x) (b := P x)),
    length_filter_congr (P := fun x => Q x ∧ ¬ P x) l (fun x _ => and_comm)] at hQ
  rw [length_filter_congr (P := fun x => True ∧ P x) l (fun x _ => Iff.of_eq (true_and _)),
    length_filter_congr (P := fun x => True ∧ ¬ P x) l (fun x _ => Iff.of_eq (true_and _)),
    List.filter_eq_self.mpr (fun _ _ => decide_eq_true trivial)] at hT
  exact ⟨hP, hQ, by omega⟩

/-- the classes partition the elements whose label is one of them -/
theorem sum_length_filter_eq {β L : Type} [DecidableEq L] (A : β → Prop) [DecidablePred A] (f : β → L)
    (l : List β) {cs : List L} (hnd : cs.Nodup) :
    (cs.map fun c => (l.filter fun x => A x ∧ f x = c).length).sum =
      (l.filter fun x => A x ∧ f x ∈ cs).length := by
  induction cs with
  | nil => simp
  | cons c cs ih =>
    obtain ⟨hc, hnd'⟩ := List.nodup_cons.mp hnd
    rw [List.map_cons, List.sum_cons, ih hnd',
      length_filter_split (fun x => A x ∧ f x ∈ c :: cs) (fun x => f x = c)]
    congr 1
    · apply length_filter_congr
      intro x _
      constructor
      · rintro ⟨ha, rfl⟩; exact ⟨⟨ha, List.mem_cons_self⟩, rfl⟩
      · rintro ⟨⟨ha, _⟩, h⟩; exact ⟨ha, h⟩
    · apply length_filter_congr
      intro x _
      constructor
      · rintro ⟨ha, hm⟩; exact ⟨⟨ha, List.mem_cons_of_mem _ hm⟩, fun h => hc (h ▸ hm)⟩
      · rintro ⟨⟨ha, hm⟩, hne⟩; exact ⟨ha, (List.mem_cons.mp hm).resolve_left hne⟩

theorem range_map_eq_map {L γ : Type} (cs : List L) (F : Nat → γ) (G : L → γ)
    (h : ∀ a c, cs[a]? = some c → F a = G c) : (List.range cs.length).map F = cs.map G :=
  map_range_eq_map cs F G fun a ha => h a cs[a] (List.getElem?_eq_getElem ha)

section Classes
variable {L : Type} [LinearOrder L]

theorem mem_insertUniq (a x : L) (l : List L) : a ∈ insertUniq x l ↔ a = x ∨ a ∈ l := by
  induction l with
  | nil => simp [insertUniq]
  | cons y ys ih =>
    unfold insertUniq
    split
    · exact List.mem_cons
    · split
      · rw [List.mem_cons, ih, List.mem_cons]; exact or_left_comm
      · -- neither `x < y` nor `y < x`: the label is already there
        have : x = y := le_antisymm (not_lt.mp ‹_›) (not_lt.mp ‹_›)
        subst this
        rw [List.mem_cons]
        exact ⟨Or.inr, fun h => h.elim Or.inl id⟩

theorem sorted_insertUniq (x : L) (l : List L) (h : l.Pairwise (· < ·)) :
    (insertUniq x l).Pairwise (· < ·) := by
  induction l with
  | nil => simp [insertUniq]
  | cons y ys ih =>
    obtain ⟨hy, hys⟩ := List.pairwise_cons.mp h
    unfold insertUniq
    split
    · rename_i hxy
      refine List.pairwise_cons.mpr ⟨?_, h⟩
      intro a ha
      rcases List.mem_cons.mp ha with rfl | ha
      · exact hxy
      · exact lt_trans hxy (hy a ha)
    · split
      · rename_i hyx
        refine List.pairwise_cons.mpr ⟨?_, ih hys⟩
        intro a ha
        rcases (mem_insertUniq a x ys).mp ha with rfl | ha
        · exact hyx
        · exact hy a ha
      · exact h

theorem mem_sortUniq (a : L) (l : List L) : a ∈ sortUniq l ↔ a ∈ l := by
  induction l with
  | nil => simp [sortUniq]
  | cons y ys ih =>
    have : sortUniq (y :: ys) = insertUniq y (sortUniq ys) := rfl
    rw [this, mem_insertUniq, ih, List.mem_cons]

theorem sorted_sortUniq (l : List L) : (sortUniq l).Pairwise (· < ·) := by
  induction l with
  | nil => simp [sortUniq]
  | cons y ys ih => exact sorted_insertUniq y _ ih

theorem nodup_sortUniq (l : List L) : (sortUniq l).Nodup :=
  (sorted_sortUniq l).imp (fun h => ne_of_lt h)

theorem mem_classes (a : L) (pred truth : List L) : a ∈ classes pred truth ↔ a ∈ pred ∨ a ∈ truth := by
  unfold classes
  simp only
  split <;> simp [mem_sortUniq]

theorem nodup_classes (pred truth : List L) : (classes pred truth).Nodup := by
  unfold classes
  simp only
  split
  · exact List.nodup_reverse.mpr (nodup_sortUniq _)
  · exact nodup_sortUniq _

theorem classes_congr (p₁ t₁ p₂ t₂ : List L) (h : ∀ a, a ∈ p₁ ++ t₁ ↔ a ∈ p₂ ++ t₂) :
    classes p₁ t₁ = classes p₂ t₂ := by
  have : sortUniq (p₁ ++ t₁) = sortUniq (p₂ ++ t₂) :=
    (sorted_sortUniq _).eq_of_mem_iff (sorted_sortUniq _) (by intro a; rw [mem_sortUniq, mem_sortUniq, h])
  unfold classes
  rw [this]

end Classes

theorem modifyAt_eq_modify {β} (f : β → β) (i : Nat) (l : List β) : modifyAt f i l = l.modify i f := by
  fun_induction modifyAt f i l with
  | case1 => rw [List.modify_nil]
  | case2 x xs => rfl
  | case3 i x xs ih => rw [ih]; rfl

theorem length_modifyAt {β} (f : β → β) (i : Nat) (l : List β) : (modifyAt f i l).length = l.length := by
  rw [modifyAt_eq_modify, List.length_modify]

theorem getElem?_modifyAt {β} (f : β → β) (i j : Nat) (l : List β) :
    (modifyAt f i l)[j]? = if i = j then l[j]?.map f else l[j]? := by
  rw [modifyAt_eq_modify, List.getElem?_modify]
  split
  · rfl
  · exact Option.map_id'

theorem cell_eq (m : List (List Nat)) (i j : Nat) :
    cell m i j = ((m[i]?.getD [])[j]?).getD 0 := by
  simp [cell, List.getD_eq_getElem?_getD]

/-- all rows of a `k × k` matrix -/
def Square (k : Nat) (m : List (List Nat)) : Prop := m.length = k ∧ ∀ r ∈ m, r.length = k

theorem square_zeros (k : Nat) : Square k (zeros k) := by
  simp [Square, zeros]

theorem forall_mem_modifyAt {β} {P : β → Prop} {f : β → β} (hf : ∀ x, P x → P (f x)) (i : Nat) (l : List β)
    (h : ∀ r ∈ l, P r) : ∀ r ∈ modifyAt f i l, P r := by
  fun_induction modifyAt f i l with
  | case1 => exact h
  | case2 x xs =>
    exact List.forall_mem_cons.mpr ⟨hf x (h x List.mem_cons_self), fun r hr => h r (List.mem_cons_of_mem _ hr)⟩
  | case3 i x xs ih =>
    exact List.forall_mem_cons.mpr ⟨h x List.mem_cons_self, ih fun r hr => h r (List.mem_cons_of_mem _ hr)⟩

theorem square_incr {k m} (h : Square k m) (a b : Nat) : Square k (incr m a b) :=
  ⟨by rw [incr, length_modifyAt, h.1],
    forall_mem_modifyAt (fun r hr => by rw [length_modifyAt]; exact hr) a m h.2⟩

theorem length_getD_of_square {k m} (h : Square k m) {a : Nat} (ha : a < k) : (m.getD a []).length = k :=
  length_getD_of_forall h.2 (h.1 ▸ ha)

theorem cell_incr {k m} (h : Square k m) (a b i j : Nat) (ha : a < k) (hb : b < k) :
    cell (incr m a b) i j = cell m i j + if a = i ∧ b = j then 1 else 0 := by
  unfold incr
  rw [cell_eq, cell_eq, getElem?_modifyAt]
  by_cases hai : a = i
  · subst hai
    have hlt : a < m.length := by rw [h.1]; exact ha
    have hr : (m[a]).length = k := h.2 _ (List.getElem_mem _)
    simp only [if_true, List.getElem?_eq_getElem hlt, Option.map_some, Option.getD_some, true_and]
    rw [getElem?_modifyAt]
    by_cases hbj : b = j
    · subst hbj
      have : b < (m[a]).length := by rw [hr]; exact hb
      simp [List.getElem?_eq_getElem this]
    · simp [hbj]
  · simp [hai]

theorem cell_zeros (k i j : Nat) : cell (zeros k) i j = 0 := by
  rw [cell_eq, zeros]
  by_cases hi : i < k
  · simp [List.getElem?_replicate, hi]
    by_cases hj : j < k <;> simp [hj]
  · simp [hi]

/-! ### a square matrix is summed by its cells -/

theorem rowSum_eq_cells {k m} (h : Square k m) {a : Nat} (ha : a < k) :
    rowSum m a = ((List.range k).map fun j => cell m a j).sum := by
  unfold rowSum cell
  rw [← length_getD_of_square h ha, map_getD_range (fun x => x), List.map_id']

theorem colSum_eq_cells {k m} (h : Square k m) (b : Nat) :
    colSum m b = ((List.range k).map fun i => cell m i b).sum := by
  unfold colSum cell
  rw [← h.1, map_getD_range (fun r : List Nat => r.getD b 0)]

theorem total_eq_rowSums {k m} (h : Square k m) : total m = ((List.range k).map (rowSum m)).sum := by
  unfold total rowSum
  rw [← h.1, map_getD_range List.sum]

/-- number of samples predicted `a` whose truth is `b` -/
def pairCount {L : Type} [DecidableEq L] (pairs : List (L × L)) (a b : L) : Nat :=
  (pairs.filter fun p => p.1 = a ∧ p.2 = b).length

section Labels
variable {L : Type} [DecidableEq L]

theorem indexOf_cons (x y : L) (ys : List L) :
    indexOf x (y :: ys) = if x = y then some 0 else (indexOf x ys).map (· + 1) := rfl

theorem getElem?_of_indexOf {x : L} {cs : List L} {i : Nat} (h : indexOf x cs = some i) :
    cs[i]? = some x := by
  induction cs generalizing i with
  | nil => exact absurd h (by simp [indexOf])
  | cons y ys ih =>
    rw [indexOf_cons] at h
    split at h
    · rename_i hxy
      rw [← Option.some.inj h, hxy]; rfl
    · obtain ⟨a, ha, rfl⟩ := Option.map_eq_some_iff.mp h
      exact ih ha

theorem indexOf_lt {x : L} {cs : List L} {i : Nat} (h : indexOf x cs = some i) : i < cs.length :=
  (List.getElem?_eq_some_iff.mp (getElem?_of_indexOf h)).1

theorem mem_of_indexOf {x : L} {cs : List L} {i : Nat} (h : indexOf x cs = some i) : x ∈ cs :=
  List.mem_of_getElem? (getElem?_of_indexOf h)

theorem indexOf_isSome_of_mem {x : L} {cs : List L} (h : x ∈ cs) : ∃ i, indexOf x cs = some i := by
  induction cs with
  | nil => simp at h
  | cons y ys ih =>
    rw [indexOf_cons]
    by_cases hxy : x = y
    · exact ⟨0, if_pos hxy⟩
    · obtain ⟨i, hi⟩ := ih ((List.mem_cons.mp h).resolve_left hxy)
      exact ⟨i + 1, by rw [if_neg hxy, hi]; rfl⟩

theorem indexOf_eq_some_iff {x : L} {cs : List L} (hnd : cs.Nodup) (i : Nat) :
    indexOf x cs = some i ↔ cs[i]? = some x := by
  refine ⟨getElem?_of_indexOf, fun h => ?_⟩
  obtain ⟨i', hi'⟩ := indexOf_isSome_of_mem (List.mem_of_getElem? h)
  rw [hi', (List.getElem?_inj (indexOf_lt hi') hnd).mp ((getElem?_of_indexOf hi').trans h.symm)]

theorem square_countStep {cs : List L} {m} (hm : Square cs.length m) (p : L × L) :
    Square cs.length (countStep cs m p) := by
  unfold countStep
  split
  · exact square_incr hm _ _
  · exact hm

theorem cell_countStep {cs : List L} {m} (hm : Square cs.length m) (p : L × L) (i j : Nat) :
    cell (countStep cs m p) i j =
      cell m i j + if indexOf p.1 cs = some i ∧ indexOf p.2 cs = some j then 1 else 0 := by
  unfold countStep
  split
  · rename_i a b h1 h2
    rw [cell_incr hm a b i j (indexOf_lt h1) (indexOf_lt h2), h1, h2]
    simp only [Option.some.injEq]
  · rename_i hnot
    rw [if_neg (fun h => hnot _ _ h.1 h.2)]; rfl

theorem cell_foldl_count (cs : List L) (pairs : List (L × L)) (m : List (List Nat))
    (hm : Square cs.length m) (i j : Nat) :
    Square cs.length (pairs.foldl (countStep cs) m) ∧
    cell (pairs.foldl (countStep cs) m) i j =
      cell m i j + (pairs.filter fun p => indexOf p.1 cs = some i ∧ indexOf p.2 cs = some j).length := by
  induction pairs generalizing m with
  | nil => exact ⟨hm, rfl⟩
  | cons p ps ih =>
    obtain ⟨h1, h2⟩ := ih _ (square_countStep hm p)
    refine ⟨h1, ?_⟩
    rw [List.foldl_cons, h2, cell_countStep hm]
    by_cases hp : indexOf p.1 cs = some i ∧ indexOf p.2 cs = some j
    · rw [if_pos hp, List.filter_cons, if_pos (decide_eq_true hp), List.length_cons]; omega
    · rw [if_neg hp, List.filter_cons, if_neg (fun h => hp (of_decide_eq_true h))]; rfl

theorem countLoop_square (cs : List L) (pairs : List (L × L)) : Square cs.length (countLoop cs pairs) :=
  (cell_foldl_count cs pairs (zeros cs.length) (square_zeros _) 0 0).1

/-- **cells count pairs**: cell `(i, j)` is the number of samples predicted `cs[i]` whose truth is `cs[j]` -/
theorem cell_countLoop (cs : List L) (hnd : cs.Nodup) (pairs : List (L × L)) {i j : Nat} {a b : L}
    (hi : cs[i]? = some a) (hj : cs[j]? = some b) :
    cell (countLoop cs pairs) i j = (pairs.filter fun p => p.1 = a ∧ p.2 = b).length := by
  unfold countLoop
  rw [(cell_foldl_count cs pairs _ (square_zeros _) i j).2, cell_zeros, Nat.zero_add]
  apply length_filter_congr
  intro p _
  rw [indexOf_eq_some_iff hnd, indexOf_eq_some_iff hnd, hi, hj, Option.some.injEq, Option.some.injEq,
    eq_comm, eq_comm (a := b)]

theorem cell_countLoop_perm (cs : List L) {pairs pairs' : List (L × L)} (h : pairs.Perm pairs') (i j : Nat) :
    cell (countLoop cs pairs) i j = cell (countLoop cs pairs') i j := by
  unfold countLoop
  rw [(cell_foldl_count _ _ _ (square_zeros _) i j).2, (cell_foldl_count _ _ _ (square_zeros _) i j).2,
    (h.filter _).length_eq]

/-- row `i` counts the samples predicted `cs[i]` (whose truth is a known label: the loop skips the others) -/
theorem rowSum_countLoop (cs : List L) (hnd : cs.Nodup) (pairs : List (L × L)) {i : Nat} {c : L}
    (hi : cs[i]? = some c) :
    rowSum (countLoop cs pairs) i = (pairs.filter fun p => p.1 = c ∧ p.2 ∈ cs).length := by
  rw [rowSum_eq_cells (countLoop_square cs pairs) (List.getElem?_eq_some_iff.mp hi).1,
    range_map_eq_map cs _ (fun b => (pairs.filter fun p => p.1 = c ∧ p.2 = b).length)
      (fun j b hj => cell_countLoop cs hnd pairs hi hj)]
  exact sum_length_filter_eq (fun p => p.1 = c) Prod.snd pairs hnd

theorem colSum_countLoop (cs : List L) (hnd : cs.Nodup) (pairs : List (L × L)) {j : Nat} {c : L}
    (hj : cs[j]? = some c) :
    colSum (countLoop cs pairs) j = (pairs.filter fun p => p.2 = c ∧ p.1 ∈ cs).length := by
  rw [colSum_eq_cells (countLoop_square cs pairs),
    range_map_eq_map cs _ (fun a => (pairs.filter fun p => p.2 = c ∧ p.1 = a).length)
      (fun i a hi => (cell_countLoop cs hnd pairs hi hj).trans (length_filter_congr _ fun _ _ => and_comm))]
  exact sum_length_filter_eq (fun p => p.2 = c) Prod.fst pairs hnd

theorem diagSum_countLoop (cs : List L) (hnd : cs.Nodup) (pairs : List (L × L)) :
    diagSum (countLoop cs pairs) = (pairs.filter fun p => p.1 = p.2 ∧ p.1 ∈ cs).length := by
  unfold diagSum
  rw [(countLoop_square cs pairs).1,
    range_map_eq_map cs _ (fun a => (pairs.filter fun p => p.1 = p.2 ∧ p.1 = a).length)
      (fun i a hi => (cell_countLoop cs hnd pairs hi hi).trans (length_filter_congr _ fun p _ =>
        ⟨fun h => ⟨h.1.trans h.2.symm, h.1⟩, fun h => ⟨h.2, h.1.symm.trans h.2⟩⟩))]
  exact sum_length_filter_eq (fun p => p.1 = p.2) Prod.fst pairs hnd

/-- **cells sum, without a guard**: whatever the class list, the cells sum to the number of pairs whose
two labels both occur in it -/
theorem total_countLoop (cs : List L) (hnd : cs.Nodup) (pairs : List (L × L)) :
    total (countLoop cs pairs) = (pairs.filter fun p => p.1 ∈ cs ∧ p.2 ∈ cs).length := by
  rw [total_eq_rowSums (countLoop_square cs pairs),
    range_map_eq_map cs _ (fun c => (pairs.filter fun p => p.2 ∈ cs ∧ p.1 = c).length)
      (fun i c hi => (rowSum_countLoop cs hnd pairs hi).trans (length_filter_congr _ fun _ _ => and_comm)),
    sum_length_filter_eq (fun p => p.2 ∈ cs) Prod.fst pairs hnd]
  exact length_filter_congr _ fun _ _ => and_comm

/-! when every pair carries known labels (a `confusion_matrix` call) the sums count plainly -/

theorem rowSum_countLoop_of_mem (cs : List L) (hnd : cs.Nodup) (pairs : List (L × L))
    (hall : ∀ p ∈ pairs, p.1 ∈ cs ∧ p.2 ∈ cs) {i : Nat} {c : L} (hi : cs[i]? = some c) :
    rowSum (countLoop cs pairs) i = (pairs.filter fun p => p.1 = c).length := by
  rw [rowSum_countLoop cs hnd pairs hi]
  exact length_filter_congr _ fun p hp => and_iff_left (hall p hp).2

theorem colSum_countLoop_of_mem (cs : List L) (hnd : cs.Nodup) (pairs : List (L × L))
    (hall : ∀ p ∈ pairs, p.1 ∈ cs ∧ p.2 ∈ cs) {j : Nat} {c : L} (hj : cs[j]? = some c) :
    colSum (countLoop cs pairs) j = (pairs.filter fun p => p.2 = c).length := by
  rw [colSum_countLoop cs hnd pairs hj]
  exact length_filter_congr _ fun p hp => and_iff_left (hall p hp).1

theorem total_countLoop_of_mem (cs : List L) (hnd : cs.Nodup) (pairs : List (L × L))
    (hall : ∀ p ∈ pairs, p.1 ∈ cs ∧ p.2 ∈ cs) : total (countLoop cs pairs) = pairs.length := by
  rw [total_countLoop cs hnd, List.filter_eq_self.mpr fun p hp => decide_eq_true (hall p hp)]

theorem map_marginals_countLoop (cs : List L) (hnd : cs.Nodup) (pairs : List (L × L))
    (hall : ∀ p ∈ pairs, p.1 ∈ cs ∧ p.2 ∈ cs) {γ : Type} (F : Nat → Nat → γ) :
    ((List.range cs.length).map fun a => F (rowSum (countLoop cs pairs) a) (colSum (countLoop cs pairs) a)) =
      cs.map fun c => F (pairs.filter fun p => p.1 = c).length (pairs.filter fun p => p.2 = c).length :=
  range_map_eq_map cs _ _ fun a c hc => by
    rw [rowSum_countLoop_of_mem cs hnd pairs hall hc, colSum_countLoop_of_mem cs hnd pairs hall hc]

/-- **one-vs-all split of a counted matrix**: class by class `[[tp, fp], [fn, tn]]`, each entry the
number of samples of that kind -/
theorem splitOneVsAll_countLoop (cs : List L) (hnd : cs.Nodup) (pairs : List (L × L))
    (hall : ∀ p ∈ pairs, p.1 ∈ cs ∧ p.2 ∈ cs) :
    splitOneVsAll (countLoop cs pairs) = cs.map fun c =>
      [[(pairs.filter fun p => p.1 = c ∧ p.2 = c).length, (pairs.filter fun p => p.1 = c ∧ ¬ p.2 = c).length],
       [(pairs.filter fun p => ¬ p.1 = c ∧ p.2 = c).length, (pairs.filter fun p => ¬ p.1 = c ∧ ¬ p.2 = c).length]] := by
  unfold splitOneVsAll
  rw [(countLoop_square cs pairs).1]
  apply range_map_eq_map
  intro i c hi
  rw [cell_countLoop cs hnd pairs hi hi, rowSum_countLoop_of_mem cs hnd pairs hall hi,
    colSum_countLoop_of_mem cs hnd pairs hall hi, total_countLoop_of_mem cs hnd pairs hall]
  -- row, column and grand total split four ways; the subtractions cancel
  obtain ⟨h1, h2, h3⟩ := count_four (fun p : L × L => p.1 = c) (fun p => p.2 = c) pairs
  rw [h1, h2, h3]
  simp only [Nat.add_assoc, Nat.add_sub_cancel_left]

theorem countStep_skip (cs : List L) (m : List (List Nat)) (p : L × L) (h : ¬ (p.1 ∈ cs ∧ p.2 ∈ cs)) :
    countStep cs m p = m := by
  unfold countStep
  split
  · rename_i h1 h2
    exact absurd ⟨mem_of_indexOf h1, mem_of_indexOf h2⟩ h
  · rfl

end Labels

theorem mem_splitOneVsOne (m : List (List Nat)) (M : List (List Nat)) :
    M ∈ splitOneVsOne m ↔
      ∃ i j, i < j ∧ j < m.length ∧ M = [[cell m i i, cell m i j], [cell m j i, cell m j j]] := by
  unfold splitOneVsOne
  simp only [List.mem_flatMap, List.mem_map, List.mem_filter, List.mem_range, decide_eq_true_eq]
  constructor
  · rintro ⟨i, _, j, ⟨hj, hij⟩, rfl⟩; exact ⟨i, j, hij, hj, rfl⟩
  · rintro ⟨i, j, hij, hj, rfl⟩; exact ⟨i, hij.trans hj, j, ⟨hj, hij⟩, rfl⟩

theorem ovoMatrix_countLoop {L : Type} [DecidableEq L] (cs : List L) (hnd : cs.Nodup) (pairs : List (L × L))
    {i j : Nat} {a b : L} (hi : cs[i]? = some a) (hj : cs[j]? = some b) :
    [[cell (countLoop cs pairs) i i, cell (countLoop cs pairs) i j],
     [cell (countLoop cs pairs) j i, cell (countLoop cs pairs) j j]] =
      [[pairCount pairs a a, pairCount pairs a b], [pairCount pairs b a, pairCount pairs b b]] := by
  rw [cell_countLoop cs hnd pairs hi hi, cell_countLoop cs hnd pairs hi hj, cell_countLoop cs hnd pairs hj hi,
    cell_countLoop cs hnd pairs hj hj]
  rfl

section Order
variable {L : Type} [LinearOrder L]

/-- pairs with a label outside the class list do not touch the matrix (`flatten` drops them) -/
theorem countLoop_filter (cs : List L) (pairs : List (L × L)) :
    countLoop cs pairs = countLoop cs (pairs.filter fun p => decide (p.1 ∈ cs ∧ p.2 ∈ cs)) := by
  unfold countLoop
  generalize zeros cs.length = m
  induction pairs generalizing m with
  | nil => rfl
  | cons p ps ih =>
    rw [List.foldl_cons, List.filter_cons]
    by_cases hp : p.1 ∈ cs ∧ p.2 ∈ cs
    · simp only [hp, decide_true, if_true, List.foldl_cons, and_self]
      exact ih _
    · rw [countStep_skip cs m p hp]
      simp only [hp, decide_false]
      exact ih m

end Order

/-! ### Matthews correlation: the nested loops as sums -/
section Mcc

/-- the binary case evaluated directly on the literal matrix, independently of `mcc_covXY` -/
theorem mcc_two_by_two (a b c d : Nat) :
    (mcc [[a, b], [c, d]] : ℝ) =
      (2 * ((a : ℝ) * d - (b : ℝ) * c)) / Real.sqrt (2 * (((a : ℝ) + b) * ((c : ℝ) + d))) /
        Real.sqrt (2 * (((a : ℝ) + c) * ((b : ℝ) + d))) := by
  unfold mcc
  simp only [List.length_cons, List.length_nil, List.range_succ, List.range_zero, List.nil_append,
    List.cons_append, List.foldl_cons, List.foldl_nil, cellS, cell, rowSum, colSum, total,
    List.getD_cons_zero, List.getD_cons_succ, List.map_cons, List.map_nil, List.sum_cons, List.sum_nil,
    Transc.sqrt]
  push_cast
  congr 1
  · congr 1
    · ring
    · congr 1; ring
  · congr 1; ring

theorem foldl_add_sub (f g : Nat → ℝ) (l : List Nat) (acc : ℝ) :
    l.foldl (fun acc c => (acc + f c) - g c) acc = acc + (l.map f).sum - (l.map g).sum := by
  induction l generalizing acc with
  | nil => simp
  | cons x xs ih => simp only [List.foldl_cons, ih, List.map_cons, List.sum_cons]; ring

theorem foldl_add (f : Nat → ℝ) (l : List Nat) (acc : ℝ) :
    l.foldl (fun acc c => acc + f c) acc = acc + (l.map f).sum := by
  induction l generalizing acc with
  | nil => simp
  | cons x xs ih => simp only [List.foldl_cons, ih, List.map_cons, List.sum_cons]; ring

theorem sum_cast_map (f : Nat → Nat) (l : List Nat) :
    (l.map fun i => ((f i : Nat) : ℝ)).sum = (((l.map f).sum : Nat) : ℝ) := by
  rw [Nat.cast_list_sum, List.map_map]; rfl

theorem rowSum_cells {k : Nat} {m : List (List Nat)} (h : Square k m) (a : Nat) (ha : a < k) :
    ((List.range k).map fun l => (cellS m a l : ℝ)).sum = ((rowSum m a : Nat) : ℝ) := by
  rw [rowSum_eq_cells h ha]
  exact sum_cast_map _ _

theorem colSum_cells {k : Nat} {m : List (List Nat)} (h : Square k m) (a : Nat) :
    ((List.range k).map fun c => (cellS m c a : ℝ)).sum = ((colSum m a : Nat) : ℝ) := by
  rw [colSum_eq_cells h]
  exact sum_cast_map _ _

theorem diagSum_cells (m : List (List Nat)) :
    ((List.range m.length).map fun a => (cellS m a a : ℝ)).sum = ((diagSum m : Nat) : ℝ) :=
  sum_cast_map (fun a => cell m a a) (List.range m.length)

theorem total_cells {k : Nat} {m : List (List Nat)} (h : Square k m) :
    ((List.range k).map fun l => ((List.range k).map fun c => (cellS m l c : ℝ)).sum).sum = ((total m : Nat) : ℝ) := by
  rw [total_eq_rowSums h, ← sum_cast_map]
  congr 1
  apply List.map_congr_left
  intro l hl
  exact rowSum_cells h l (List.mem_range.mp hl)

/-- **numerator of the multi-class MCC**: the triple loop of `mcc()` computes
`trace · total − Σ_k row_k · col_k` -/
theorem mcc_covXY {k : Nat} {m : List (List Nat)} (h : Square k m) :
    (List.range k).foldl (fun acc a => (List.range k).foldl (fun acc l => (List.range k).foldl (fun acc c =>
        (acc + (cellS m a a : ℝ) * cellS m l c) - cellS m a l * cellS m c a) acc) acc) 0 =
      ((diagSum m : Nat) : ℝ) * ((total m : Nat) : ℝ) -
        ((List.range k).map fun a => ((rowSum m a : Nat) : ℝ) * ((colSum m a : Nat) : ℝ)).sum := by
  simp only [foldl_add_sub]
  have e1 : ((List.range k).map fun a => ((List.range k).map fun l => ((List.range k).map fun c =>
      (cellS m a a : ℝ) * cellS m l c).sum).sum) =
      (List.range k).map fun a => (cellS m a a : ℝ) * ((total m : Nat) : ℝ) := by
    apply List.map_congr_left
    intro a _
    simp only [List.sum_map_mul_left]
    rw [total_cells h]
  have e2 : ((List.range k).map fun a => ((List.range k).map fun l => ((List.range k).map fun c =>
      (cellS m a l : ℝ) * cellS m c a).sum).sum) =
      (List.range k).map fun a => ((rowSum m a : Nat) : ℝ) * ((colSum m a : Nat) : ℝ) := by
    apply List.map_congr_left
    intro a ha
    simp only [List.sum_map_mul_left, List.sum_map_mul_right]
    rw [colSum_cells h a, rowSum_cells h a (List.mem_range.mp ha)]
  rw [e1, e2, List.sum_map_mul_right, ← h.1, diagSum_cells]
  ring

end Mcc

end LinfaSpec.Metrics
