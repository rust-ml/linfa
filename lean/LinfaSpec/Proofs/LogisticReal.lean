import LinfaSpec.Model.Logistic
import LinfaSpec.Model.Glm
import LinfaSpec.Proofs.Scalar
import LinfaSpec.Proofs.Lists
import Mathlib.Analysis.SpecialFunctions.Pow.Deriv

/-!
Real-number instance of the scalar primitives and helper lemmas for C12.
-/
namespace LinfaSpec

noncomputable instance : Transc ℝ := ⟨Real.sqrt, Real.exp, Real.log⟩

namespace Logistic

/-! ### lists: `getD`, `sumS`, `dotS` with one entry written -/

theorem getD_append_length {β : Type} (l : List β) (a d : β) (n : Nat) (hn : l.length = n) :
    (l ++ [a]).getD n d = a := by
  rw [List.getD_eq_getElem?_getD, List.getElem?_append_right hn.le, hn, Nat.sub_self]; rfl

theorem headD_drop (w : List ℝ) (n : Nat) : (w.drop n).headD 0 = w.getD n 0 := by
  rw [List.headD_eq_head?_getD, List.head?_drop, List.getD_eq_getElem?_getD]

theorem replicate_set_sum_one (n i : Nat) (hi : i < n) :
    ((List.replicate n (0 : ℝ)).set i 1).sum = 1 := by
  induction n generalizing i with
  | zero => omega
  | succ n ih =>
    cases i with
    | zero => simp [List.replicate_succ]
    | succ i => simp [List.replicate_succ, ih i (by omega)]

theorem sumS_cons (a : ℝ) (l : List ℝ) : sumS (a :: l) = a + sumS l :=
  LinfaSpec.sumS_cons a l

theorem dotS_eq_sum (a b : List ℝ) : dotS a b = (List.zipWith (· * ·) a b).sum := by
  unfold dotS; exact sumS_eq_sum _

theorem dotS_cons (a b : ℝ) (as bs : List ℝ) : dotS (a :: as) (b :: bs) = a * b + dotS as bs := by
  rw [dotS_eq_sum, dotS_eq_sum]; simp

theorem dotS_nil_left (b : List ℝ) : dotS ([] : List ℝ) b = 0 := by
  rw [dotS_eq_sum]; simp

theorem dotS_comm (a b : List ℝ) : dotS a b = dotS b a := by
  rw [dotS_eq_sum, dotS_eq_sum, List.zipWith_comm_of_comm mul_comm]

theorem dotS_set (row p : List ℝ) (j : Nat) (t : ℝ) (hj : j < p.length) :
    dotS row (p.set j t) = dotS row p + row.getD j 0 * (t - p.getD j 0) := by
  induction row generalizing p j with
  | nil => simp [dotS_nil_left]
  | cons r rs ih =>
    cases p with
    | nil => simp at hj
    | cons q qs =>
      cases j with
      | zero => simp [dotS_cons]; ring
      | succ j =>
        simp only [List.set_cons_succ, dotS_cons, List.getD_cons_succ]
        rw [ih qs j (by simpa using hj)]
        ring

theorem dotS_set_add (row p : List ℝ) (b : ℝ) (j : Nat) (t : ℝ) (hj : j < p.length) :
    dotS row (p.set j t) + b = (dotS row p + b) + row.getD j 0 * (t - p.getD j 0) := by
  rw [dotS_set row p j t hj]; ring

theorem dotS_set_self (p : List ℝ) (j : Nat) (t : ℝ) (hj : j < p.length) :
    dotS (p.set j t) (p.set j t) = (dotS p p - p.getD j 0 * p.getD j 0) + t * t := by
  rw [dotS_set (p.set j t) p j t hj, getD_set_self p j t 0 hj, dotS_comm, dotS_set p p j t hj]
  ring

theorem dotS_map_mul_right (a b : List ℝ) (alpha : ℝ) : dotS a (b.map (· * alpha)) = dotS a b * alpha := by
  induction a generalizing b with
  | nil => simp [dotS_nil_left]
  | cons x xs ih =>
    cases b with
    | nil => simp [dotS_eq_sum]
    | cons y ys => rw [List.map_cons, dotS_cons, dotS_cons, ih]; ring

/-! ### `maxS` folds and `argmax` -/

theorem foldl_maxS_ge (l : List ℝ) (a : ℝ) : a ≤ l.foldl maxS a ∧ ∀ x ∈ l, x ≤ l.foldl maxS a := by
  induction l generalizing a with
  | nil => simp
  | cons b bs ih =>
    simp only [List.foldl_cons, List.mem_cons, forall_eq_or_imp]
    obtain ⟨h1, h2⟩ := ih (maxS a b)
    rw [maxS_eq_max] at h1 h2 ⊢
    exact ⟨le_trans (le_max_left a b) h1, le_trans (le_max_right a b) h1, h2⟩

theorem foldl_maxS_shift (l : List ℝ) (a c : ℝ) :
    (l.map (· + c)).foldl maxS (a + c) = l.foldl maxS a + c := by
  induction l generalizing a with
  | nil => simp
  | cons b bs ih =>
    simp only [List.map_cons, List.foldl_cons]
    have : maxS (a + c) (b + c) = maxS a b + c := by
      rw [maxS_eq_max, maxS_eq_max, max_add_add_right]
    rw [this, ih]

theorem foldl_maxS_mem (l : List ℝ) (a : ℝ) : l.foldl maxS a = a ∨ l.foldl maxS a ∈ l := by
  induction l generalizing a with
  | nil => simp
  | cons b bs ih =>
    simp only [List.foldl_cons, List.mem_cons]
    rcases ih (maxS a b) with h | h
    · rw [h]
      unfold maxS
      split_ifs <;> simp
    · exact Or.inr (Or.inr h)

theorem argmaxAux_map (f : ℝ → ℝ) (hf : StrictMono f) (l : List ℝ) (i best : Nat) (m : ℝ) :
    argmaxAux (l.map f) i best (f m) = argmaxAux l i best m := by
  induction l generalizing i best m with
  | nil => simp [argmaxAux]
  | cons a as ih =>
    simp only [List.map_cons, argmaxAux, hf.lt_iff_lt]
    split_ifs
    · exact ih _ _ _
    · exact ih _ _ _

theorem argmax_map (f : ℝ → ℝ) (hf : StrictMono f) (l : List ℝ) : argmax (l.map f) = argmax l := by
  cases l with
  | nil => simp [argmax]
  | cons a as => simp only [List.map_cons, argmax]; exact argmaxAux_map f hf as 1 0 a

theorem foldl_add_exp (row : List ℝ) (m acc : ℝ) :
    row.foldl (fun acc e => acc + Real.exp (e - m)) acc = acc + (row.map fun e => Real.exp (e - m)).sum := by
  induction row generalizing acc with
  | nil => simp
  | cons b bs ih => simp only [List.foldl_cons, ih, List.map_cons, List.sum_cons]; ring

/-! ### calculus: chain rule along a line, sum rule over the zipped samples -/

/-- chain rule along a line through `w0`: in all the gradient theorems a coordinate `t` enters a sample's linear
predictor as `η0 + ξ (t - w0)` (weight: `ξ` the feature, intercept: `ξ = 1`); `g` is that predictor as the model
writes it. -/
theorem hasDerivAt_comp_affine {f : ℝ → ℝ} {f' η0 : ℝ} (hf : HasDerivAt f f' η0) (g : ℝ → ℝ) (ξ w0 : ℝ)
    (hg : ∀ t, g t = η0 + ξ * (t - w0)) : HasDerivAt (fun t => f (g t)) (f' * ξ) w0 := by
  have hin : HasDerivAt g ξ w0 := by
    rw [funext hg]
    exact ((((hasDerivAt_id' w0).sub_const w0).const_mul ξ).const_add η0).congr_deriv (mul_one ξ)
  have h0 : g w0 = η0 := by rw [hg, sub_self, mul_zero, add_zero]
  exact hf.comp_of_eq w0 hin h0.symm

/-- sum rule over the sample list: samples and targets are zipped, each pair contributes one differentiable term -/
theorem hasDerivAt_zipWith_sum {β γ : Type} (F : ℝ → β → γ → ℝ) (G : β → γ → ℝ) (w0 : ℝ) (x : List β) (y : List γ)
    (H : ∀ q ∈ x.zip y, HasDerivAt (fun t => F t q.1 q.2) (G q.1 q.2) w0) :
    HasDerivAt (fun t => (List.zipWith (F t) x y).sum) (List.zipWith G x y).sum w0 := by
  induction x generalizing y with
  | nil => simpa using hasDerivAt_const w0 (0 : ℝ)
  | cons r xs ih =>
    cases y with
    | nil => simpa using hasDerivAt_const w0 (0 : ℝ)
    | cons yi ys =>
      simp only [List.zipWith_cons_cons, List.sum_cons]
      exact (H (r, yi) (by simp)).add (ih ys fun q hq => H q (by simp [hq]))

theorem hasDerivAt_neg_zipWith_sum {β γ : Type} (F : ℝ → β → γ → ℝ) (G : β → γ → ℝ) (w0 : ℝ) (x : List β)
    (y : List γ) (H : ∀ q ∈ x.zip y, HasDerivAt (fun t => -F t q.1 q.2) (G q.1 q.2) w0) :
    HasDerivAt (fun t => -(List.zipWith (F t) x y).sum) (List.zipWith G x y).sum w0 := by
  simp only [List.sum_neg, List.map_zipWith]
  exact hasDerivAt_zipWith_sum (fun t a b => -F t a b) G w0 x y H

theorem one_add_exp_neg_hasDerivAt (x : ℝ) : HasDerivAt (fun v : ℝ => 1 + Real.exp (-v)) (-Real.exp (-x)) x := by
  simpa using ((hasDerivAt_id x).neg.exp).const_add 1

theorem div_hasDerivAt (y μ : ℝ) (hμ : 0 < μ) : HasDerivAt (fun m : ℝ => y / m) (-y / μ ^ 2) μ := by
  simp only [div_eq_mul_inv]
  exact ((hasDerivAt_inv hμ.ne').const_mul y).congr_deriv (by ring)

/-! ### stationarity and the gradient norm -/

/-- if each coordinate function has the listed derivative, "all listed derivatives vanish" is the same as "every
partial derivative is zero" (first-order optimality) -/
theorem stationary_iff_of_hasDerivAt (n : Nat) (f : Nat → ℝ → ℝ) (g a : Nat → ℝ)
    (h : ∀ j, j < n → HasDerivAt (f j) (g j) (a j)) :
    (∀ j, j < n → g j = 0) ↔ (∀ j, j < n → HasDerivAt (f j) 0 (a j)) := by
  constructor
  · intro h0 j hj; rw [← h0 j hj]; exact h j hj
  · intro h0 j hj; exact (h j hj).unique (h0 j hj)

/-- the oracle's test `‖g‖₂ ≤ tol` bounds every entry of `g` -/
theorem entry_abs_le_of_norm_le (g : List ℝ) (tol : ℝ) (htol : 0 ≤ tol)
    (hn : (g.map (· ^ 2)).sum ≤ tol ^ 2) : ∀ v ∈ g, |v| ≤ tol := by
  intro v hv
  have hnn : ∀ x ∈ g.map (· ^ 2), 0 ≤ x := by
    intro x hx
    obtain ⟨u, -, rfl⟩ := List.mem_map.mp hx
    exact sq_nonneg u
  have h1 : v ^ 2 ≤ (g.map (· ^ 2)).sum := List.single_le_sum hnn _ (List.mem_map.mpr ⟨v, hv, rfl⟩)
  exact abs_le_of_sq_le_sq (le_trans h1 hn) htol

theorem getD_abs_le_of_norm_le (g : List ℝ) (tol : ℝ) (htol : 0 ≤ tol)
    (hn : (g.map (· ^ 2)).sum ≤ tol ^ 2) (i : Nat) : |g.getD i 0| ≤ tol := by
  rw [List.getD_eq_getElem?_getD]
  cases h : g[i]? with
  | none => simpa using htol
  | some v => exact entry_abs_le_of_norm_le g tol htol hn v (List.mem_of_getElem? h)

/-! ### binary: `convert_params`, loss and gradient on the two accepted parameter lengths -/

theorem splitParams_of_length (nf : Nat) (w : List ℝ) (hw : w.length = nf) : splitParams nf w = some (w, 0) := by
  rw [splitParams, if_pos hw]

theorem splitParams_of_length_succ (nf : Nat) (w : List ℝ) (hw : w.length = nf + 1) :
    splitParams nf w = some (w.take nf, (w.drop nf).headD 0) := by
  rw [splitParams, if_neg (by omega), if_pos hw]

theorem logisticLoss_of_split (nf : Nat) (x : List (List ℝ)) (y w p : List ℝ) (alpha b : ℝ)
    (h : splitParams nf w = some (p, b)) :
    logisticLoss nf x y alpha w =
      some (-(sumS ((List.zipWith (· * ·) (linPred x p b) y).map logLogistic)) + half * alpha * dotS p p) := by
  simp only [logisticLoss, h]

/-- weight entry `j` of `logistic_grad`, with or without the trailing intercept entry -/
theorem logisticGrad_getD_of_split (nf : Nat) (x : List (List ℝ)) (y w p : List ℝ) (alpha b : ℝ)
    (h : splitParams nf w = some (p, b)) (hp : p.length = nf) (j : Nat) (hj : j < nf) :
    ((logisticGrad nf x y alpha w).getD []).getD j 0 =
      dotS (col x j) (residuals x y p b) + p.getD j 0 * alpha := by
  have hgw : List.zipWith (· + ·) (tDot nf x (residuals x y p b)) (p.map (· * alpha)) =
      (List.range nf).map fun j => dotS (col x j) (residuals x y p b) + p.getD j 0 * alpha := by
    apply List.ext_getElem
    · simp [tDot, hp]
    · intro i h1 h2
      have hi : i < nf := by simpa using h2
      simp [tDot, List.getD_eq_getElem?_getD, hp, hi]
  simp only [logisticGrad, h, hgw]
  split_ifs
  · rw [Option.getD_some, getD_append_left _ _ _ _ (by simpa using hj), getD_map_range _ hj]
  · rw [Option.getD_some, getD_map_range _ hj]

/-- the summands of `logistic_loss` and of `residuals`, sample by sample -/
theorem data_loss_eq (x : List (List ℝ)) (y p : List ℝ) (b : ℝ) :
    sumS ((List.zipWith (· * ·) (linPred x p b) y).map logLogistic) =
      (List.zipWith (fun r yi => logLogistic ((dotS r p + b) * yi)) x y).sum := by
  simp only [sumS_eq_sum, linPred, List.zipWith_map_left, List.map_zipWith]

theorem residuals_eq (x : List (List ℝ)) (y p : List ℝ) (b : ℝ) :
    residuals x y p b = List.zipWith (fun r yi => (logistic ((dotS r p + b) * yi) - 1) * yi) x y := by
  simp only [residuals, linPred, List.zipWith_map_left]

/-- the derivative in weight `j` for a parameter vector that `convert_params` splits into `(p, b)`, whichever of the
two accepted lengths it has (`hs`: writing coordinate `j` of `w` writes coordinate `j` of `p`; `hd`: data part plus
penalty on the split parameters) -/
theorem split_loss_hasDerivAt_weight (nf : Nat) (x : List (List ℝ)) (y w p : List ℝ) (alpha b : ℝ) (j : Nat)
    (hj : j < nf) (hp : p.length = nf) (hs0 : splitParams nf w = some (p, b))
    (hd : j < p.length → HasDerivAt (fun t : ℝ =>
        -(sumS ((List.zipWith (· * ·) (linPred x (p.set j t) b) y).map logLogistic)) +
          half * alpha * dotS (p.set j t) (p.set j t))
      (dotS (col x j) (residuals x y p b) + p.getD j 0 * alpha) (p.getD j 0))
    (hs : ∀ t, splitParams nf (w.set j t) = some (p.set j t, b)) :
    HasDerivAt (fun t : ℝ => (logisticLoss nf x y alpha (w.set j t)).getD 0)
      (((logisticGrad nf x y alpha w).getD []).getD j 0) (p.getD j 0) := by
  simp only [fun t => logisticLoss_of_split nf x y _ _ alpha _ (hs t), Option.getD_some]
  rw [logisticGrad_getD_of_split nf x y w p alpha b hs0 hp j hj]
  exact hd (hp ▸ hj)

/-! ### multinomial: log-sum-exp, per-sample derivative, score rows, sum rule -/

theorem sum_exp_pos (h : List ℝ) (hh : 0 < h.length) : 0 < (h.map Real.exp).sum :=
  List.sum_pos _ (fun x hx => by obtain ⟨n, -, rfl⟩ := List.mem_map.mp hx; exact Real.exp_pos n)
    (mt List.map_eq_nil_iff.mp (List.ne_nil_of_length_pos hh))

theorem sum_exp_shift (l : List ℝ) (m : ℝ) :
    (l.map fun e => Real.exp (e - m)).sum = Real.exp (-m) * (l.map Real.exp).sum := by
  induction l with
  | nil => simp
  | cons b bs ih =>
    simp only [List.map_cons, List.sum_cons, ih]
    rw [show b - m = b + -m by ring, Real.exp_add]
    ring

/-- `log_sum_exp` of a non-empty row with the row maximum `m`: the `1e-15` floor is inactive because the summand of
the maximal score is `exp 0 = 1` -/
theorem logSumExpRow_cons (eps : ℝ) (heps : eps ≤ 1) (a : ℝ) (as : List ℝ) :
    logSumExpRow eps (a :: as) =
      Real.log ((a :: as).map fun e => Real.exp (e - as.foldl maxS a)).sum + as.foldl maxS a := by
  have hmem : as.foldl maxS a ∈ a :: as := by
    rcases foldl_maxS_mem as a with h | h
    · rw [h]; exact List.mem_cons_self
    · exact List.mem_cons_of_mem _ h
  have hS1 : 1 ≤ ((a :: as).map fun e => Real.exp (e - as.foldl maxS a)).sum := by
    have := List.single_le_sum (l := (a :: as).map fun e => Real.exp (e - as.foldl maxS a))
      (fun x hx => by obtain ⟨n, -, rfl⟩ := List.mem_map.mp hx; exact (Real.exp_pos _).le) _
      (List.mem_map.mpr ⟨_, hmem, rfl⟩)
    rwa [sub_self, Real.exp_zero] at this
  show Real.log (maxS ((a :: as).foldl (fun acc e => acc + Real.exp (e - as.foldl maxS a)) 0) eps) + _ = _
  rw [foldl_add_exp, zero_add, maxS_eq_max, max_eq_left (le_trans heps hS1)]

/-- **`log_sum_exp` of a non-empty row is `ln Σ exp`** (the `1e-15` floor is inactive, the subtracted maximum cancels) -/
theorem logSumExpRow_eq (eps : ℝ) (heps : eps ≤ 1) (a : ℝ) (as : List ℝ) :
    logSumExpRow eps (a :: as) = Real.log (((a :: as).map Real.exp).sum) := by
  rw [logSumExpRow_cons eps heps, sum_exp_shift, Real.log_mul (Real.exp_pos _).ne'
    (sum_exp_pos (a :: as) (by simp)).ne', Real.log_exp]
  ring

theorem logSumExpRow_eq' (eps : ℝ) (heps : eps ≤ 1) (h : List ℝ) (hh : 0 < h.length) :
    logSumExpRow eps h = Real.log ((h.map Real.exp).sum) := by
  cases h with
  | nil => simp at hh
  | cons a as => exact logSumExpRow_eq eps heps a as

theorem zipWith_sub_const_sum (h yr : List ℝ) (L : ℝ) (hl : h.length = yr.length) :
    (List.zipWith (· * ·) (h.map (· - L)) yr).sum = (List.zipWith (· * ·) h yr).sum - L * yr.sum := by
  induction h generalizing yr with
  | nil => cases yr with
    | nil => simp
    | cons _ _ => simp at hl
  | cons a as ih =>
    cases yr with
    | nil => simp at hl
    | cons b bs =>
      simp only [List.map_cons, List.zipWith_cons_cons, List.sum_cons]
      rw [ih bs (by simpa using hl)]
      ring

theorem zipWith_set_sum (h yr : List ℝ) (c : Nat) (v : ℝ) (hc : c < h.length) :
    (List.zipWith (· * ·) (h.set c v) yr).sum =
      (List.zipWith (· * ·) h yr).sum + (v - h.getD c 0) * yr.getD c 0 := by
  rw [← dotS_eq_sum, ← dotS_eq_sum, dotS_comm, dotS_set yr h c v hc, dotS_comm]
  ring

theorem sum_exp_set (h : List ℝ) (c : Nat) (v : ℝ) (hc : c < h.length) :
    ((h.set c v).map Real.exp).sum = (h.map Real.exp).sum - Real.exp (h.getD c 0) + Real.exp v := by
  induction h generalizing c with
  | nil => simp at hc
  | cons a as ih =>
    cases c with
    | zero => simp; ring
    | succ c =>
      simp only [List.set_cons_succ, List.map_cons, List.sum_cons, List.getD_cons_succ]
      rw [ih c (by simpa using hc)]
      ring

/-- one row of `elem_dot(log_prob, Y)`: `Σ_c (h_c - log_sum_exp h) y_c` -/
noncomputable def rowLoss (eps : ℝ) (h yr : List ℝ) : ℝ :=
  (List.zipWith (· * ·) (h.map (· - logSumExpRow eps h)) yr).sum

/-- **per-sample term of the multinomial gradient**: if class score `c` of a sample depends on the coordinate as
`h_c + ξ (t - w₀)` and the others do not, the sample's negative log-likelihood has derivative
`(exp(h_c - log_sum_exp h) - y_c) ξ` — `softmax(h)_c - y_c` times the feature (`ξ = 1` for the intercept).  Uses that
the target row sums to one (one-hot). -/
theorem row_loss_hasDerivAt (eps : ℝ) (heps : eps ≤ 1) (h yr : List ℝ) (c : Nat) (ξ w0 : ℝ)
    (hc : c < h.length) (hl : yr.length = h.length) (hy : yr.sum = 1) :
    HasDerivAt (fun t : ℝ => -(rowLoss eps (h.set c (h.getD c 0 + ξ * (t - w0))) yr))
      ((Real.exp (h.getD c 0 - logSumExpRow eps h) - yr.getD c 0) * ξ) w0 := by
  have hh : 0 < h.length := by omega
  have hS := sum_exp_pos h hh
  -- as a function of the moved score `v` the sample's loss is `ln (Σ exp) - Σ h y`, with `v` in one summand of each
  have hf : HasDerivAt (fun v : ℝ => Real.log ((h.map Real.exp).sum - Real.exp (h.getD c 0) + Real.exp v) -
        ((List.zipWith (· * ·) h yr).sum + (v - h.getD c 0) * yr.getD c 0))
      (Real.exp (h.getD c 0 - logSumExpRow eps h) - yr.getD c 0) (h.getD c 0) := by
    have hlog := ((Real.hasDerivAt_exp (h.getD c 0)).const_add ((h.map Real.exp).sum - Real.exp (h.getD c 0))).log
      (by rw [sub_add_cancel]; exact hS.ne')
    have hlin := ((((hasDerivAt_id' (h.getD c 0)).sub_const (h.getD c 0)).mul_const (yr.getD c 0)).const_add
      (List.zipWith (· * ·) h yr).sum)
    refine (hlog.sub hlin).congr_deriv ?_
    rw [sub_add_cancel, logSumExpRow_eq' eps heps h hh, Real.exp_sub, Real.exp_log hS,
      one_mul]
  have e : ∀ v, -(rowLoss eps (h.set c v) yr) = Real.log ((h.map Real.exp).sum - Real.exp (h.getD c 0) + Real.exp v) -
      ((List.zipWith (· * ·) h yr).sum + (v - h.getD c 0) * yr.getD c 0) := by
    intro v
    unfold rowLoss
    rw [zipWith_sub_const_sum _ _ _ (by simp [hl]), hy, zipWith_set_sum h yr c _ hc,
      logSumExpRow_eq' eps heps _ (by rwa [List.length_set]), sum_exp_set h c _ hc]
    ring
  simp only [e]
  exact hasDerivAt_comp_affine hf _ ξ w0 (fun _ => rfl)

theorem map_range_update (k c0 : Nat) (f g : Nat → ℝ) (v : ℝ) (hg0 : g c0 = v)
    (hg : ∀ c, c ≠ c0 → g c = f c) :
    (List.range k).map g = ((List.range k).map f).set c0 v := by
  apply List.ext_getElem
  · simp
  · intro i h1 h2
    simp only [List.getElem_map, List.getElem_range, List.getElem_set]
    by_cases hi : c0 = i
    · subst hi; simp [hg0]
    · simp [hi, hg i (Ne.symm hi)]

/-- the class scores of one sample (one row of `scores`) -/
noncomputable def sc (k : Nat) (row : List ℝ) (params : List (List ℝ)) (b : List ℝ) : List ℝ :=
  (List.range k).map fun c => dotS row (col params c) + b.getD c 0

theorem scores_eq_map (k : Nat) (x : List (List ℝ)) (params : List (List ℝ)) (b : List ℝ) :
    scores k x params b = x.map fun row => sc k row params b := rfl

theorem sc_length (k : Nat) (row : List ℝ) (params : List (List ℝ)) (b : List ℝ) :
    (sc k row params b).length = k := by simp [sc]

theorem sc_getD (k : Nat) (row : List ℝ) (params : List (List ℝ)) (b : List ℝ) (c : Nat) (hc : c < k) :
    (sc k row params b).getD c 0 = dotS row (col params c) + b.getD c 0 := by
  simp [sc, List.getD_eq_getElem?_getD, hc]

theorem col_set (params : List (List ℝ)) (j c : Nat) (r : List ℝ) :
    col (params.set j r) c = (col params c).set j (r.getD c 0) := by
  unfold col; rw [List.map_set]

theorem col_getD (params : List (List ℝ)) (j c : Nat) (hj : j < params.length) :
    (col params c).getD j 0 = (params.getD j []).getD c 0 := by
  simp [col, List.getD_eq_getElem?_getD, hj]

/-- scores of one sample after weight `(j, c0)` was set to `t`: only class `c0` moves, affinely -/
theorem sc_set_weight (k : Nat) (row : List ℝ) (params : List (List ℝ)) (b : List ℝ) (j c0 : Nat) (t : ℝ)
    (hj : j < params.length) (hc0 : c0 < (params.getD j []).length) :
    sc k row (params.set j ((params.getD j []).set c0 t)) b =
      (sc k row params b).set c0
        ((dotS row (col params c0) + b.getD c0 0) + row.getD j 0 * (t - (params.getD j []).getD c0 0)) := by
  -- every column is written at row `j`; outside column `c0` with the value it had
  have hcol : ∀ c, dotS row (col (params.set j ((params.getD j []).set c0 t)) c) = dotS row (col params c) +
      row.getD j 0 * (((params.getD j []).set c0 t).getD c 0 - (params.getD j []).getD c 0) := fun c => by
    rw [col_set, dotS_set row _ j _ (by rwa [col, List.length_map]), col_getD params j c hj]
  unfold sc
  apply map_range_update
  · rw [hcol, getD_set_self _ _ _ _ hc0]
    ring
  · intro c hc
    rw [hcol, getD_set_ne _ _ _ _ _ (Ne.symm hc), sub_self, mul_zero, add_zero]

theorem sc_set_intercept (k : Nat) (row : List ℝ) (params : List (List ℝ)) (b : List ℝ) (c0 : Nat) (t : ℝ)
    (hc0 : c0 < b.length) :
    sc k row params (b.set c0 t) =
      (sc k row params b).set c0 ((dotS row (col params c0) + b.getD c0 0) + 1 * (t - b.getD c0 0)) := by
  unfold sc
  apply map_range_update
  · rw [getD_set_self b c0 t 0 hc0]; ring
  · intro c hc
    rw [getD_set_ne b c0 c t 0 (Ne.symm hc)]

theorem elemDot_eq (a b : List (List ℝ)) :
    elemDot a b = ((List.zipWith (fun ra rb => List.zipWith (· * ·) ra rb) a b).map List.sum).sum := by
  unfold elemDot
  rw [← List.sum_eq_foldl, List.sum_flatten]

theorem logProb_eq (eps : ℝ) (k : Nat) (x : List (List ℝ)) (params : List (List ℝ)) (b : List ℝ) :
    logProb eps k x params b =
      x.map fun row => (sc k row params b).map (· - logSumExpRow eps (sc k row params b)) := by
  unfold logProb logSumExpRows
  rw [scores_eq_map]
  simp [List.zipWith_map_left, List.zipWith_map_right, List.zipWith_self]

/-- the data part of `multi_logistic_loss` is the sum of the per-sample `rowLoss` -/
theorem elemDot_logProb (eps : ℝ) (k : Nat) (x : List (List ℝ)) (params : List (List ℝ)) (b : List ℝ)
    (y : List (List ℝ)) :
    elemDot (logProb eps k x params b) y =
      (List.zipWith (fun row yr => rowLoss eps (sc k row params b) yr) x y).sum := by
  rw [elemDot_eq, logProb_eq]
  simp only [List.zipWith_map_left, List.map_zipWith, rowLoss]

/-- **sum rule over the sample list (multinomial)**: if under the coordinate `t` only class score `c0` of every
sample moves, affinely with slope `ξ row`, the data part of the loss has derivative `Σᵢ (Pᵢc0 - Yᵢc0) ξᵢ` -/
theorem multi_data_hasDerivAt (eps : ℝ) (heps : eps ≤ 1) (k c0 : Nat) (hc0 : c0 < k)
    (S : ℝ → List ℝ → List ℝ) (h0 : List ℝ → List ℝ) (ξ : List ℝ → ℝ) (w0 : ℝ)
    (hS : ∀ t row, S t row = (h0 row).set c0 ((h0 row).getD c0 0 + ξ row * (t - w0)))
    (hlen : ∀ row, (h0 row).length = k)
    (x y : List (List ℝ)) (hy : ∀ yr ∈ y, yr.length = k ∧ yr.sum = 1) :
    HasDerivAt (fun t : ℝ => -(List.zipWith (fun row yr => rowLoss eps (S t row) yr) x y).sum)
      ((List.zipWith (fun row yr =>
        (Real.exp ((h0 row).getD c0 0 - logSumExpRow eps (h0 row)) - yr.getD c0 0) * ξ row) x y).sum) w0 := by
  simp only [hS]
  refine hasDerivAt_neg_zipWith_sum _ _ w0 x y fun q hq => ?_
  have hyr := hy q.2 (List.of_mem_zip hq).2
  exact row_loss_hasDerivAt eps heps (h0 q.1) q.2 c0 (ξ q.1) w0 (by rw [hlen]; exact hc0) (by rw [hlen]; exact hyr.1)
    hyr.2

/-- column `c0` of `softmax(H) - Y` as the code computes it (`multiDiff`) -/
theorem col_multiDiff (eps : ℝ) (k c0 : Nat) (hc0 : c0 < k) (params : List (List ℝ)) (b : List ℝ)
    (x y : List (List ℝ)) (hy : ∀ yr ∈ y, yr.length = k ∧ yr.sum = 1) :
    col (multiDiff eps k x y params b) c0 =
      List.zipWith (fun row yr => Real.exp ((sc k row params b).getD c0 0 -
        logSumExpRow eps (sc k row params b)) - yr.getD c0 0) x y := by
  unfold multiDiff col
  rw [logProb_eq]
  induction x generalizing y with
  | nil => simp
  | cons r xs ih =>
    cases y with
    | nil => simp
    | cons yr ys =>
      have hyr := hy yr (by simp)
      simp only [List.map_cons, List.zipWith_cons_cons]
      rw [ih ys (fun q hq => hy q (List.mem_cons_of_mem _ hq))]
      congr 1
      have h1 : c0 < (sc k r params b).length := by rw [sc_length]; exact hc0
      have h2 : c0 < yr.length := by rw [hyr.1]; exact hc0
      simp [List.getD_eq_getElem?_getD, h1, h2, Transc.exp]

/-- `(Xᵀ r)[j]` for a per-sample vector `r` is the sum over the samples of `rᵢ xᵢⱼ` -/
theorem dotS_col_zipWith' {γ : Type} (j : Nat) (f : List ℝ → γ → ℝ) (x : List (List ℝ)) (y : List γ) :
    dotS (col x j) (List.zipWith f x y) = (List.zipWith (fun row yr => f row yr * row.getD j 0) x y).sum := by
  induction x generalizing y with
  | nil => simp [col, dotS_nil_left]
  | cons r xs ih =>
    cases y with
    | nil => simp [col, dotS_eq_sum]
    | cons yr ys =>
      have := ih ys
      simp only [col, List.map_cons, List.zipWith_cons_cons, dotS_cons, List.sum_cons] at this ⊢
      rw [this]; ring

theorem dotS_col_zipWith (j : Nat) (f : List ℝ → List ℝ → ℝ) (x y : List (List ℝ)) :
    dotS (col x j) (List.zipWith f x y) = (List.zipWith (fun row yr => f row yr * row.getD j 0) x y).sum :=
  dotS_col_zipWith' j f x y

theorem elemDot_cons (a b : List ℝ) (as bs : List (List ℝ)) :
    elemDot (a :: as) (b :: bs) = (List.zipWith (· * ·) a b).sum + elemDot as bs := by
  simp [elemDot_eq]

theorem elemDot_set_self (params : List (List ℝ)) (j : Nat) (r' : List ℝ) (hj : j < params.length) :
    elemDot (params.set j r') (params.set j r') =
      elemDot params params - dotS (params.getD j []) (params.getD j []) + dotS r' r' := by
  induction params generalizing j with
  | nil => simp at hj
  | cons a as ih =>
    cases j with
    | zero => simp [elemDot_cons, dotS_eq_sum]; ring
    | succ j =>
      simp only [List.set_cons_succ, elemDot_cons, List.getD_cons_succ]
      rw [ih j (by simpa using hj)]
      ring

/-! ### multinomial: `convert_params`, loss and gradient on the two accepted parameter shapes -/

theorem splitParams2_of_length (nf k : Nat) (w : List (List ℝ)) (hw : w.length = nf) :
    splitParams2 nf k w = some (w, List.replicate k 0) := by
  rw [splitParams2, if_pos hw]

theorem splitParams2_of_length_succ (nf k : Nat) (w : List (List ℝ)) (hw : w.length = nf + 1) :
    splitParams2 nf k w = some (w.take nf, (w.drop nf).headD []) := by
  rw [splitParams2, if_neg (by omega), if_pos hw]

theorem multiLogisticLoss_of_split (eps : ℝ) (nf k : Nat) (x y w P : List (List ℝ)) (B : List ℝ) (alpha : ℝ)
    (h : splitParams2 nf k w = some (P, B)) :
    multiLogisticLoss eps nf k x y alpha w =
      some (-(elemDot (logProb eps k x P B) y) + half * alpha * elemDot P P) := by
  simp only [multiLogisticLoss, h]

/-- weight entry `(j, c)` of `multi_logistic_grad`, with or without the trailing intercept row -/
theorem multiLogisticGrad_getD_of_split (eps : ℝ) (nf k : Nat) (x y w P : List (List ℝ)) (B : List ℝ) (alpha : ℝ)
    (h : splitParams2 nf k w = some (P, B)) (j c : Nat) (hj : j < nf) (hc : c < k) :
    (((multiLogisticGrad eps nf k x y alpha w).getD []).getD j []).getD c 0 =
      dotS (col x j) (col (multiDiff eps k x y P B) c) + (P.getD j []).getD c 0 * alpha := by
  simp only [multiLogisticGrad, h]
  split_ifs
  · rw [Option.getD_some, getD_append_left _ _ _ _ (by simpa using hj), getD_map_range _ hj,
      getD_map_range _ hc]
  · rw [Option.getD_some, getD_map_range _ hj, getD_map_range _ hc]

/-- the parameter matrix with entry `(j, c)` replaced by `t` -/
def setEntry (w : List (List ℝ)) (j c : Nat) (t : ℝ) : List (List ℝ) := w.set j ((w.getD j []).set c t)

/-- the derivative in weight entry `(j, c0)` for a parameter matrix that `convert_params` splits into `(P, B)`,
whichever of the two accepted shapes it has (`hs`: writing entry `(j, c0)` of `w` writes entry `(j, c0)` of `P`; `hpen`: the penalty
on the split matrix) -/
theorem multi_split_loss_hasDerivAt_weight (eps : ℝ) (heps : eps ≤ 1) (nf k : Nat) (x y w P : List (List ℝ))
    (B : List ℝ) (alpha : ℝ) (hy : ∀ yr ∈ y, yr.length = k ∧ yr.sum = 1) (j c0 : Nat) (hj : j < nf) (hc0 : c0 < k)
    (hP : P.length = nf) (hr : (P.getD j []).length = k) (hs0 : splitParams2 nf k w = some (P, B))
    (hpen : j < P.length → c0 < (P.getD j []).length → HasDerivAt (fun t : ℝ =>
        half * alpha * elemDot (setEntry P j c0 t) (setEntry P j c0 t))
      ((P.getD j []).getD c0 0 * alpha) ((P.getD j []).getD c0 0))
    (hs : ∀ t, splitParams2 nf k (setEntry w j c0 t) = some (setEntry P j c0 t, B)) :
    HasDerivAt (fun t : ℝ => (multiLogisticLoss eps nf k x y alpha (setEntry w j c0 t)).getD 0)
      ((((multiLogisticGrad eps nf k x y alpha w).getD []).getD j []).getD c0 0) ((P.getD j []).getD c0 0) := by
  have hj' : j < P.length := hP ▸ hj
  have hr' : c0 < (P.getD j []).length := hr ▸ hc0
  simp only [fun t => multiLogisticLoss_of_split eps nf k x y _ _ _ alpha (hs t), Option.getD_some, elemDot_logProb]
  rw [multiLogisticGrad_getD_of_split eps nf k x y w P B alpha hs0 j c0 hj hc0, col_multiDiff eps k c0 hc0 P B x y hy,
    dotS_col_zipWith]
  -- only class score `c0` of a sample moves, with slope its feature `j`
  refine (multi_data_hasDerivAt eps heps k c0 hc0 _ (fun row => sc k row P B) (fun row => row.getD j 0) _
    (fun t row => ?_) (fun row => sc_length k row P B) x y hy).add (hpen hj' hr')
  rw [setEntry, sc_set_weight k row P B j c0 t hj' hr', sc_getD k row P B c0 hc0]

end Logistic

namespace Glm

/-! ### which arm of the power `match` is taken -/

theorem powerClass_of_neg (tol6 p : ℝ) (hp : p < 0) : powerClass tol6 p = .negative := by
  rw [powerClass, if_pos hp]

theorem powerClass_zero (tol6 : ℝ) : powerClass tol6 (0 : ℝ) = .normal := by
  rw [powerClass, if_neg (lt_irrefl _), if_pos rfl]

theorem powerClass_invalid (tol6 p : ℝ) (h0 : 0 < p) (h1 : p < 1) : powerClass tol6 p = .invalid := by
  rw [powerClass, if_neg h0.le.not_gt, if_neg h0.ne', if_pos h1]

theorem two_eq : (two : ℝ) = 2 := one_add_one_eq_two

/-- at or above `1` the arm is decided by the distances to `1` and `2` against the literal `1e-6` -/
theorem powerClass_of_one_le (tol6 p : ℝ) (hp : 1 ≤ p) :
    powerClass tol6 p = if |p - 1| < tol6 then .poisson else if |p - 2| < tol6 then .gamma else .generic := by
  rw [powerClass, if_neg (by linarith), if_neg (by linarith), if_neg hp.not_gt, absS_eq_abs, absS_eq_abs, two_eq]

theorem powerClass_one (tol6 : ℝ) (ht : 0 < tol6) : powerClass tol6 (1 : ℝ) = .poisson := by
  rw [powerClass_of_one_le _ _ le_rfl, sub_self, abs_zero, if_pos ht]

theorem powerClass_two (tol6 : ℝ) (ht : 0 < tol6) (ht1 : tol6 ≤ 1) : powerClass tol6 (2 : ℝ) = .gamma := by
  rw [powerClass_of_one_le _ _ one_le_two, sub_self, abs_zero, if_pos ht, if_neg]
  norm_num [ht1]

/-! ### the data part of cost and gradient, sample by sample -/

theorem col_eq (x : List (List ℝ)) (j : Nat) : Glm.col x j = Logistic.col x j := rfl

theorem dev_sum_eq (pw : ℝ → ℝ → ℝ) (tol6 power : ℝ) (l : Link) (x : List (List ℝ)) (y c : List ℝ) (b : ℝ) :
    (List.zipWith (fun u v => (unitDeviance pw tol6 power u v).getD 0) y
        ((x.map fun row => dotS row c + b).map (linkInverse l))).sum =
      (List.zipWith (fun row yi => (unitDeviance pw tol6 power yi (linkInverse l (dotS row c + b))).getD 0) x y).sum := by
  rw [List.zipWith_comm]
  simp only [List.zipWith_map_left]

/-- `temp` of `TweedieProblem::gradient` -/
theorem temp_eq (pw : ℝ → ℝ → ℝ) (power : ℝ) (l : Link) (x : List (List ℝ)) (y c : List ℝ) (b : ℝ) :
    List.zipWith (· * ·) ((x.map fun row => dotS row c + b).map (linkInverseDeriv l))
        (List.zipWith (unitDevianceDeriv pw power) y ((x.map fun row => dotS row c + b).map (linkInverse l))) =
      List.zipWith (fun row yi => linkInverseDeriv l (dotS row c + b) *
        unitDevianceDeriv pw power yi (linkInverse l (dotS row c + b))) x y := by
  induction x generalizing y with
  | nil => rfl
  | cons r xs ih =>
    cases y with
    | nil => rfl
    | cons yi ys => simp only [List.map_cons, List.zipWith_cons_cons, ih]

/-! ### the deviance as a plain sum -/

/-- `unit_deviance` returns a value unless the power is in the rejected window `(0,1)` -/
theorem unitDeviance_some (pw : ℝ → ℝ → ℝ) (tol6 power y yp : ℝ) (hc : powerClass tol6 power ≠ .invalid) :
    unitDeviance pw tol6 power y yp = some ((unitDeviance pw tol6 power y yp).getD 0) := by
  unfold unitDeviance
  cases h : powerClass tol6 power <;> simp_all

theorem deviance_foldl (pw : ℝ → ℝ → ℝ) (tol6 power : ℝ) (hc : powerClass tol6 power ≠ .invalid)
    (step : Option ℝ → Option ℝ → Option ℝ) (hstep : ∀ a v, step (some a) (some v) = some (a + v))
    (y yp : List ℝ) (a : ℝ) :
    (List.zipWith (unitDeviance pw tol6 power) y yp).foldl step (some a) =
    some (a + (List.zipWith (fun u v => (unitDeviance pw tol6 power u v).getD 0) y yp).sum) := by
  induction y generalizing yp a with
  | nil => simp
  | cons yi ys ih =>
    cases yp with
    | nil => simp
    | cons m ms =>
      simp only [List.zipWith_cons_cons, List.foldl_cons, List.sum_cons]
      rw [unitDeviance_some pw tol6 power yi m hc, hstep]
      simp only [Option.getD_some]
      rw [ih ms]
      congr 1; ring

theorem deviance_eq (pw : ℝ → ℝ → ℝ) (tol6 power : ℝ) (hc : powerClass tol6 power ≠ .invalid) (y yp : List ℝ) :
    deviance pw tol6 power y yp =
      some ((List.zipWith (fun u v => (unitDeviance pw tol6 power u v).getD 0) y yp).sum) := by
  unfold deviance
  rw [deviance_foldl pw tol6 power hc _ (fun _ _ => rfl) y yp 0, zero_add]

theorem glm_cost_no_icpt (pw : ℝ → ℝ → ℝ) (tol6 power alpha : ℝ) (l : Glm.Link) (hc : powerClass tol6 power ≠ .invalid)
    (x : List (List ℝ)) (y c : List ℝ) :
    (Glm.cost pw tol6 power alpha l false x y c).getD 0 =
      (Glm.half : ℝ) * (List.zipWith (fun u v => (unitDeviance pw tol6 power u v).getD 0) y
          ((x.map fun row => dotS row c + 0).map (linkInverse l))).sum +
        (Glm.half : ℝ) * dotS c (c.map (· * alpha)) := by
  simp only [Glm.cost, Glm.linPred, Glm.splitP, Bool.false_eq_true, if_false]
  rw [deviance_eq pw tol6 power hc]
  simp only [Option.getD_some]
  ring

theorem glm_gradient_no_icpt (pw : ℝ → ℝ → ℝ) (power alpha : ℝ) (l : Glm.Link) (nf : Nat) (x : List (List ℝ)) (y c : List ℝ) :
    Glm.gradient pw power alpha l false nf x y c =
      (List.range nf).map fun j => dotS (List.zipWith (· * ·) ((x.map fun row => dotS row c + 0).map (linkInverseDeriv l))
          (List.zipWith (unitDevianceDeriv pw power) y ((x.map fun row => dotS row c + 0).map (linkInverse l))))
        (Glm.col x j) * Glm.half + c.getD j 0 * alpha := by
  simp only [Glm.gradient, Glm.linPred, Glm.splitP, Bool.false_eq_true, if_false]

/-! ### the unit deviance is differentiable in the mean, arm by arm, when `powf` is the real power -/

section Rpow
open Logistic
variable (pw : ℝ → ℝ → ℝ) (hpw : pw = fun a b : ℝ => a ^ b)
include hpw

theorem unitDevianceDeriv_rpow (p y μ : ℝ) : unitDevianceDeriv pw p y μ = -2 * ((y - μ) / μ ^ p) := by
  subst hpw
  rw [unitDevianceDeriv, two_eq]

/-- normal (`power = 0`): `d/dμ (y-μ)² = -2 (y-μ) / μ⁰` -/
theorem tweedie_unit_deviance_deriv_normal (tol6 y μ : ℝ) :
    HasDerivAt (fun m => (unitDeviance pw tol6 0 y m).getD 0) (unitDevianceDeriv pw 0 y μ) μ := by
  subst hpw
  simp only [unitDeviance, powerClass_zero, Option.getD_some]
  refine (((hasDerivAt_id' μ).const_sub y).mul ((hasDerivAt_id' μ).const_sub y)).congr_deriv ?_
  rw [unitDevianceDeriv_rpow _ rfl, Real.rpow_zero]
  ring

/-- Poisson (`power = 1`): `d/dμ [2 y ln(y/μ) + 2(μ-y)] = -2 (y-μ)/μ`,
also for `y = 0` -/
theorem tweedie_unit_deviance_deriv_poisson (tol6 y μ : ℝ) (ht : 0 < tol6) (hμ : 0 < μ) (hy : 0 ≤ y) :
    HasDerivAt (fun m => (unitDeviance pw tol6 1 y m).getD 0) (unitDevianceDeriv pw 1 y μ) μ := by
  subst hpw
  rw [unitDevianceDeriv_rpow _ rfl, Real.rpow_one]
  by_cases hy0 : y = 0
  · subst hy0
    simp only [unitDeviance, powerClass_one tol6 ht, if_true, Option.getD_some, two_eq]
    refine (((hasDerivAt_id' μ).sub_const 0).const_mul 2).const_add 0 |>.congr_deriv ?_
    field_simp
    ring
  · simp only [unitDeviance, powerClass_one tol6 ht, if_neg hy0, Option.getD_some, two_eq]
    have hlog := (div_hasDerivAt y μ hμ).log (div_pos (lt_of_le_of_ne hy (Ne.symm hy0)) hμ).ne'
    refine (((hlog.const_mul y).const_mul 2).add (((hasDerivAt_id' μ).sub_const y).const_mul 2)).congr_deriv ?_
    field_simp
    ring

/-- gamma (`power = 2`): `d/dμ 2(ln(μ/y) + y/μ - 1) = -2 (y-μ)/μ²` -/
theorem tweedie_unit_deviance_deriv_gamma (tol6 y μ : ℝ) (ht : 0 < tol6) (ht1 : tol6 ≤ 1) (hμ : 0 < μ) (hy : 0 < y) :
    HasDerivAt (fun m => (unitDeviance pw tol6 2 y m).getD 0) (unitDevianceDeriv pw 2 y μ) μ := by
  subst hpw
  rw [unitDevianceDeriv_rpow _ rfl, Real.rpow_two]
  simp only [unitDeviance, powerClass_two tol6 ht ht1, Option.getD_some, two_eq]
  have hlog := ((hasDerivAt_id' μ).div_const y).log (div_pos hμ hy).ne'
  refine (((hlog.add (div_hasDerivAt y μ hμ)).sub_const 1).const_mul 2).congr_deriv ?_
  field_simp
  ring

/-- the two arms with `powf` (`negative`, `generic`) differ in a term `K` that does not depend on the mean -/
theorem power_arm_hasDerivAt (K p y μ : ℝ) (hp1 : p ≠ 1) (hp2 : p ≠ 2) (hμ : 0 < μ) :
    HasDerivAt (fun m : ℝ => two * (K - y * (pw m (1 - p) / (1 - p)) + pw m (two - p) / (two - p)))
      (unitDevianceDeriv pw p y μ) μ := by
  subst hpw
  have h1p : (1 - p) ≠ 0 := sub_ne_zero.mpr (Ne.symm hp1)
  have h2p : (2 - p) ≠ 0 := sub_ne_zero.mpr (Ne.symm hp2)
  have ha := (Real.hasDerivAt_rpow_const (x := μ) (p := 1 - p) (Or.inl hμ.ne'))
  have hb := (Real.hasDerivAt_rpow_const (x := μ) (p := 2 - p) (Or.inl hμ.ne'))
  simp only [two_eq]
  refine ((((ha.div_const (1 - p)).const_mul y).const_sub K).add (hb.div_const (2 - p))).const_mul 2 |>.congr_deriv ?_
  have e2 : μ ^ (2 - p - 1) = μ ^ (-p) * μ := by
    rw [show (2 - p - 1) = -p + 1 by ring, Real.rpow_add hμ, Real.rpow_one]
  rw [unitDevianceDeriv_rpow _ rfl, sub_sub_cancel_left, e2, Real.rpow_neg hμ.le]
  field_simp
  ring

/-- any power of the generic arm (`(1,2)`, `3`, …): `-2 (y-μ)/μ^p` -/
theorem tweedie_unit_deviance_deriv_generic (tol6 p y μ : ℝ) (hc : powerClass tol6 p = .generic) (hp1 : p ≠ 1) (hp2 : p ≠ 2)
    (hμ : 0 < μ) :
    HasDerivAt (fun m => (unitDeviance pw tol6 p y m).getD 0) (unitDevianceDeriv pw p y μ) μ := by
  subst hpw
  simp only [unitDeviance, hc, Option.getD_some]
  exact power_arm_hasDerivAt _ rfl _ p y μ hp1 hp2 hμ

end Rpow
end Glm
end LinfaSpec
