import LinfaSpec.Model.Metrics
import LinfaSpec.Proofs.Scalar
import LinfaSpec.Proofs.Lists
import Mathlib.Tactic.Ring
import Mathlib.Algebra.Order.Field.Basic
import Mathlib.Data.List.Sort
import Mathlib.Analysis.Real.Sqrt
import Mathlib.Analysis.SpecialFunctions.Log.Basic

/-!
Shared by the C05 proof modules: `ℝ` carries the three transcendental primitives; a running minimum is
a lower bound that is attained; Mathlib's insertion sort with a strict key comparison sorts by `≤`;
the number of index pairs `i < j < k`.
-/
namespace LinfaSpec.Metrics
open LinfaSpec

noncomputable instance : Transc ℝ := ⟨Real.sqrt, Real.exp, Real.log⟩

theorem sumS_perm {α} [AddCommMonoid α] {l l' : List α} (h : l.Perm l') : sumS l = sumS l' := by
  rw [sumS_eq_sum, sumS_eq_sum, h.sum_eq]

section Fold
variable {α : Type} [LinearOrder α]

theorem foldl_min_spec (xs : List α) (x : α) :
    (∀ e ∈ x :: xs, xs.foldl min x ≤ e) ∧ xs.foldl min x ∈ x :: xs := by
  induction xs generalizing x with
  | nil => simp
  | cons y ys ih =>
    obtain ⟨h1, h2⟩ := ih (min x y)
    simp only [List.foldl_cons, List.forall_mem_cons] at h1 ⊢
    refine ⟨⟨h1.1.trans (min_le_left x y), h1.1.trans (min_le_right x y), h1.2⟩, ?_⟩
    rcases List.mem_cons.mp h2 with h2 | h2
    · rw [h2]
      rcases min_choice x y with h | h <;> simp [h]
    · simp [h2]

/-- the `b_x` loop of the silhouette, `if m < v then m else v`, is `min` -/
theorem ite_lt_eq_min : (fun v m : α => if m < v then m else v) = min := by
  funext v m
  split
  · rename_i h; rw [min_eq_right (le_of_lt h)]
  · rename_i h; rw [min_eq_left (not_lt.mp h)]

end Fold

section Sorting
variable {α β : Type} [LinearOrder α]

/-- the model sorts with the strict test `key a < key b`, which is not total, so Mathlib's
`List.sorted_insertionSort` does not apply; on a linear order the result is still sorted by `≤` -/
theorem pairwise_orderedInsert_lt (key : β → α) (x : β) (l : List β)
    (h : l.Pairwise fun a b => key a ≤ key b) :
    (l.orderedInsert (fun a b => key a < key b) x).Pairwise fun a b => key a ≤ key b := by
  induction l with
  | nil => simp
  | cons y ys ih =>
    obtain ⟨hy, hys⟩ := List.pairwise_cons.mp h
    rw [List.orderedInsert_cons]
    split
    · rename_i hxy
      refine List.pairwise_cons.mpr ⟨?_, h⟩
      intro a ha
      rcases List.mem_cons.mp ha with rfl | ha
      · exact le_of_lt hxy
      · exact le_trans (le_of_lt hxy) (hy a ha)
    · rename_i hxy
      refine List.pairwise_cons.mpr ⟨?_, ih hys⟩
      intro a ha
      rcases (List.mem_orderedInsert _).mp ha with rfl | ha
      · exact not_lt.mp hxy
      · exact hy a ha

theorem pairwise_insertionSort_lt (key : β → α) (l : List β) :
    (l.insertionSort fun a b => key a < key b).Pairwise fun a b => key a ≤ key b := by
  induction l with
  | nil => simp
  | cons x xs ih => exact pairwise_orderedInsert_lt key x _ ih

end Sorting

theorem length_filter_lt_range (k i : Nat) : ((List.range k).filter fun j => i < j).length = k - 1 - i := by
  induction k with
  | zero => simp
  | succ k ih =>
    rw [List.range_succ, List.filter_append, List.length_append, ih]
    by_cases hik : i < k
    · rw [List.filter_cons_of_pos (p := fun j => decide (i < j)) (decide_eq_true hik)]
      simp only [List.filter_nil, List.length_singleton]; omega
    · rw [List.filter_cons_of_neg (p := fun j => decide (i < j)) (by simpa using hik)]
      simp only [List.filter_nil, List.length_nil]; omega

/-- for `i < j < k` there are `k(k-1)/2` index pairs: the size of `split_one_vs_one` and of the
upper triangle `pearson_correlation` returns -/
theorem two_mul_sum_range_sub (k : Nat) : 2 * ((List.range k).map fun i => k - 1 - i).sum = k * (k - 1) := by
  induction k with
  | zero => rfl
  | succ k ih =>
    have hshift : ((fun i => k + 1 - 1 - i) ∘ Nat.succ) = fun i => k - 1 - i := by
      funext i; simp only [Function.comp_apply]; omega
    rw [List.range_succ_eq_map, List.map_cons, List.sum_cons, List.map_map, hshift, Nat.mul_add, ih]
    cases k with
    | zero => rfl
    | succ k => simp only [Nat.add_sub_cancel, Nat.sub_zero]; ring

end LinfaSpec.Metrics
