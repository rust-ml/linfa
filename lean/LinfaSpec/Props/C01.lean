import LinfaSpec.Proofs.Fold
import LinfaSpec.Proofs.FoldCv
import Mathlib.Algebra.Field.Basic

/-!
# C01 — K-fold splitting partitions the samples and leaves the dataset intact

Theorems about `LinfaSpec.Fold` (the model of `fold`, `iter_fold`, `cross_validate`),
for every dataset (a list over an arbitrary row type), every `2 ≤ k ≤ n`.
The Rust code folds `records` and `targets` with the same chunk size and the same
swaps; the model applies the same polymorphic function to both containers, so a
statement for an arbitrary row type covers records, targets and their pairing.
-/
namespace LinfaSpec.Props.C01
open LinfaSpec.Fold

/-- under the property's guard there are at least `k` chunks (so at least two) and the chunk size
`n / k` is positive -/
theorem chunks_enough {α} (k : Nat) (ds : List α) (hk : 2 ≤ k) (hn : k ≤ ds.length) :
    k ≤ (chunks (ds.length / k) ds).length ∧ 0 < ds.length / k := by
  have hfs : 0 < ds.length / k := Nat.div_pos hn (by omega)
  exact ⟨le_chunks_length _ k ds hfs (Nat.mul_div_le _ _), hfs⟩

/-- **fold never fails on the inputs the property covers** (`2 ≤ k ≤ n`), it
yields exactly `k` pairs, and pair `i` is
(all rows outside block `i`, in their original order ; block `i`)
where block `i` is rows `[i*fs, (i+1)*fs)`, `fs = n / k`. -/
theorem fold_spec {α} (k : Nat) (ds : List α) (hk : 2 ≤ k) (hn : k ≤ ds.length) :
    foldPairs k ds = some ((List.range k).map fun i =>
      (ds.take (i * (ds.length / k)) ++ ds.drop ((i + 1) * (ds.length / k)),
       (ds.drop (i * (ds.length / k))).take (ds.length / k))) := by
  rw [foldPairs_eq_foldWith k ds (by omega),
    foldWith_spec _ k ds (Nat.div_pos hn (by omega)) hk (Nat.mul_div_le _ _)]

example : foldPairs 3 [0, 1, 2, 3, 4, 5, 6] =
    some [([2, 3, 4, 5, 6], [0, 1]), ([0, 1, 4, 5, 6], [2, 3]), ([0, 1, 2, 3, 6], [4, 5])] := by
  decide +kernel

/-- every pair is a split of the original multiset: `training ++ validation` is a
permutation of the dataset (so the two parts are disjoint as multisets and their
union is everything) -/
theorem fold_partition {α} (k : Nat) (ds : List α) (hk : 2 ≤ k) (hn : k ≤ ds.length)
    (ps : List (List α × List α)) (h : foldPairs k ds = some ps) :
    ps.length = k ∧ ∀ p ∈ ps, (p.1 ++ p.2).Perm ds := by
  rw [fold_spec k ds hk hn] at h
  cases h
  rw [List.forall_mem_map, List.length_map, List.length_range]
  exact ⟨rfl, fun i _ => outside_block_perm ds i _⟩

/-- the validation parts are the consecutive blocks: concatenated in fold order they
are exactly the first `k * (n / k)` rows, each once; the tail is training-only -/
theorem fold_validation_blocks {α} (k : Nat) (ds : List α) (hk : 2 ≤ k) (hn : k ≤ ds.length)
    (ps : List (List α × List α)) (h : foldPairs k ds = some ps) :
    (ps.map (·.2)).flatten = ds.take (k * (ds.length / k)) := by
  rw [fold_spec k ds hk hn] at h
  cases h
  rw [List.map_map]
  exact flatten_slices (ds.length / k) ds k

/-- **rows stay paired**: pair `i` of the fold of the zipped (record, target) rows
is the zip of pair `i` of the records with pair `i` of the targets as the Rust code
computes them from its two parallel chunk vectors (same chunk size, same swaps) —
no record is ever attached to another row's target. -/
theorem fold_rows_stay_paired {α β} (k : Nat) (rs : List α) (ts : List β)
    (hlen : rs.length = ts.length) (hk : 2 ≤ k) (hn : k ≤ rs.length) :
    ∃ fr ft, foldPairs k rs = some fr ∧ foldPairs k ts = some ft ∧ fr.length = k ∧ ft.length = k ∧
      foldPairs k (rs.zip ts) =
        some ((List.range k).map fun i =>
          (((fr[i]?).getD ([], [])).1.zip ((ft[i]?).getD ([], [])).1,
           ((fr[i]?).getD ([], [])).2.zip ((ft[i]?).getD ([], [])).2)) := by
  have hz := length_zip_eq hlen
  refine ⟨_, _, fold_spec k rs hk hn, fold_spec k ts hk (hlen ▸ hn),
    by rw [List.length_map, List.length_range], by rw [List.length_map, List.length_range], ?_⟩
  rw [fold_spec k (rs.zip ts) hk (hz ▸ hn)]
  congr 1
  apply List.map_congr_left
  intro i hi
  rw [List.mem_range] at hi
  simp only [hz, ← hlen, List.getElem?_map, List.getElem?_range hi, Option.map_some,
    Option.getD_some, zip_outside rs ts _ _ hlen, zip_block]

/-- **the property's guard is exactly the set of calls that return**: `fold(k)` yields a
result iff `2 ≤ k ≤ n` (`k = 0` divides by zero, `k = 1` has nothing to concatenate, `k > n`
asks ndarray for chunks of size 0). -/
theorem fold_guard_exact {α} (k : Nat) (ds : List α) :
    (foldPairs k ds).isSome = true ↔ 2 ≤ k ∧ k ≤ ds.length := by
  constructor
  · intro h
    refine Decidable.by_contra fun hg => ?_
    rw [foldPairs_eq_none k ds (by omega)] at h
    cases h
  · rintro ⟨hk, hn⟩
    rw [fold_spec k ds hk hn]
    rfl

example : (foldPairs 1 [1, 2, 3]).isSome = false ∧ (foldPairs 4 [1, 2, 3]).isSome = false ∧
    (foldPairs 3 [1, 2, 3]).isSome = true := by decide +kernel

/-- **the remaining tail is training-only**: the `n mod k` rows after the first `k * (n / k)`
are a suffix of every training part (and by `fold_validation_blocks` in no validation part). -/
theorem fold_tail_training_only {α} (k : Nat) (ds : List α) (hk : 2 ≤ k) (hn : k ≤ ds.length)
    (ps : List (List α × List α)) (h : foldPairs k ds = some ps) :
    ∀ p ∈ ps, ds.drop (k * (ds.length / k)) <:+ p.1 := by
  rw [fold_spec k ds hk hn] at h
  cases h
  rw [List.forall_mem_map]
  intro i hi
  rw [List.mem_range] at hi
  exact (List.drop_suffix_drop_left ds (Nat.mul_le_mul_right _ hi)).trans (List.suffix_append _ _)

example : ([6] : List Nat) <:+ [2, 3, 4, 5, 6] := by decide +kernel

/-- sizes: every validation part has `n / k` rows, every training part the other `n - n / k` -/
theorem fold_valid_lengths {α} (k : Nat) (ds : List α) (hk : 2 ≤ k) (hn : k ≤ ds.length)
    (ps : List (List α × List α)) (h : foldPairs k ds = some ps) :
    ∀ p ∈ ps, p.2.length = ds.length / k ∧ p.1.length = ds.length - ds.length / k := by
  rw [fold_spec k ds hk hn] at h
  cases h
  rw [List.forall_mem_map]
  intro i hi
  rw [List.mem_range] at hi
  have hb := block_length ds i _
    (Nat.le_trans (Nat.mul_le_mul_right _ hi) (Nat.mul_div_le ds.length k))
  -- the two parts together are a permutation of the dataset
  have hp := (outside_block_perm ds i (ds.length / k)).length_eq
  rw [List.length_append, hb] at hp
  exact ⟨hb, Nat.eq_sub_of_add_eq hp⟩

example : foldPairs 3 [0, 1, 2, 3, 4, 5, 6, 7] = some
    [([2, 3, 4, 5, 6, 7], [0, 1]), ([0, 1, 4, 5, 6, 7], [2, 3]), ([0, 1, 2, 3, 6, 7], [4, 5])] := by
  decide +kernel

/-- **each of the first `k * (n / k)` samples is validated exactly once, and where**: sample `j`
sits at position `j mod fs` of the validation part of fold `j / fs` (`fs = n / k`); with
`fold_valid_lengths` (every validation part has `fs` rows) and `fold_validation_blocks` (their
concatenation is `take (k*fs)`) this is a bijection between validated positions and
`[0, k*fs)`. -/
theorem fold_validated_at {α} (k : Nat) (ds : List α) (hk : 2 ≤ k) (hn : k ≤ ds.length)
    (ps : List (List α × List α)) (h : foldPairs k ds = some ps) (j : Nat)
    (hj : j < k * (ds.length / k)) :
    ((ps[j / (ds.length / k)]?).map fun p => p.2[j % (ds.length / k)]?) = some ds[j]? := by
  rw [fold_spec k ds hk hn] at h
  cases h
  have hfs : 0 < ds.length / k := Nat.div_pos hn (by omega)
  generalize ds.length / k = fs at *
  have hq : j / fs < k := by
    rw [Nat.div_lt_iff_lt_mul hfs]; exact hj
  have hr : j % fs < fs := Nat.mod_lt _ hfs
  simp only [List.getElem?_map, List.getElem?_range hq, Option.map_some]
  congr 1
  rw [List.getElem?_take_of_lt hr, List.getElem?_drop]
  congr 1
  rw [Nat.mul_comm]; exact Nat.div_add_mod j fs

example : (([([2, 3, 4], [0, 1]), ([0, 1, 4], [2, 3])] : List (List Nat × List Nat))[3 / 2]?).map
    (fun p => p.2[3 % 2]?) = some ([0, 1, 2, 3, 4][3]?) := by decide +kernel

/-- **`CountedTargets` datasets**: the label counts carried by each part of a pair are the
counts of that part's own targets (`new_targets` recounts), and the two parts' counts add up to
the dataset's count for every label. -/
theorem fold_counted_recount {γ} [BEq γ] [LawfulBEq γ] (k : Nat) (tgts : List γ) (hk : 2 ≤ k) (hn : k ≤ tgts.length)
    (cps : List ((List γ × (γ → Nat)) × (List γ × (γ → Nat)))) (h : foldCounted k tgts = some cps) :
    cps.length = k ∧ ∀ c ∈ cps, (∀ l, c.1.2 l = c.1.1.count l) ∧ (∀ l, c.2.2 l = c.2.1.count l) ∧
      ∀ l, c.1.2 l + c.2.2 l = tgts.count l := by
  obtain ⟨hl, hperm⟩ := fold_partition k tgts hk hn _ (fold_spec k tgts hk hn)
  rw [foldCounted, fold_spec k tgts hk hn] at h
  cases h
  rw [List.length_map, List.forall_mem_map]
  refine ⟨hl, fun p hp => ⟨fun l => rfl, fun l => rfl, fun l => ?_⟩⟩
  rw [← (hperm p hp).count_eq l, List.count_append]
  rfl

example : (foldCounted 2 [0, 1, 1, 0, 1]).map (fun cps => cps.map fun c => (c.1.2 1, c.2.2 1)) =
    some [(2, 1), (2, 1)] := by decide +kernel

/-! ## `fold` on the dataset: ONE fold size (from the targets) for records and targets -/

/-- **`fold(k)` as the code runs it** — fold size `targets.len_of(Axis(0)) / k` applied to both
containers, the two chunk vectors through the same loop: for every dataset whose records and
targets have the same number of rows and every `2 ≤ k ≤ n` the call returns, and pair `i` is
((records outside block `i`, targets outside block `i`), (records of block `i`, targets of block
`i`)) — the SAME row indices on both sides. -/
theorem foldDataset_spec {α β} (k : Nat) (rs : List α) (ts : List β)
    (hlen : rs.length = ts.length) (hk : 2 ≤ k) (hn : k ≤ rs.length) :
    foldDataset k rs ts = some ((List.range k).map fun i =>
      ((rs.take (i * (rs.length / k)) ++ rs.drop ((i + 1) * (rs.length / k)),
        ts.take (i * (rs.length / k)) ++ ts.drop ((i + 1) * (rs.length / k))),
       ((rs.drop (i * (rs.length / k))).take (rs.length / k),
        (ts.drop (i * (rs.length / k))).take (rs.length / k)))) := by
  have hfs : 0 < rs.length / k := Nat.div_pos hn (by omega)
  have hkn : k * (rs.length / k) ≤ rs.length := Nat.mul_div_le _ _
  simp only [foldDataset, if_neg (show ¬ k = 0 by omega), ← hlen,
    foldWith_spec _ k rs hfs hk hkn, foldWith_spec _ k ts hfs hk (hlen ▸ hkn), List.zip_map',
    List.map_map]
  rfl

example : foldDataset 2 [0, 1, 2, 3, 4] ["a", "b", "c", "d", "e"] =
    some [(([2, 3, 4], ["c", "d", "e"]), ([0, 1], ["a", "b"])),
          (([0, 1, 4], ["a", "b", "e"]), ([2, 3], ["c", "d"]))] := by decide +kernel

/-- a fold size taken from the number of target CELLS (`n * t`, here `3 * 2`) instead of rows
leaves a single chunk and the call panics (the defect of `fold` repaired in c67351f) -/
example : foldWith (3 * 2 / 2) 2 [0, 1, 2] = none := by decide +kernel

/-- **every record stays attached to its own target** through `fold` as the code runs it: the
two sides of every part have the same number of rows, and zipping them gives exactly the fold
of the zipped (record, target) rows — with `fold_partition` on the zipped rows: each pair is a
split of the multiset of (record, target) pairs. -/
theorem foldDataset_rows_stay_paired {α β} (k : Nat) (rs : List α) (ts : List β)
    (hlen : rs.length = ts.length) (hk : 2 ≤ k) (hn : k ≤ rs.length) :
    ∃ ps, foldDataset k rs ts = some ps ∧ ps.length = k ∧
      (∀ q ∈ ps, q.1.1.length = q.1.2.length ∧ q.2.1.length = q.2.2.length) ∧
      foldPairs k (rs.zip ts) = some (ps.map fun q => (q.1.1.zip q.1.2, q.2.1.zip q.2.2)) := by
  have hz := length_zip_eq hlen
  refine ⟨_, foldDataset_spec k rs ts hlen hk hn, by rw [List.length_map, List.length_range], ?_, ?_⟩
  · rw [List.forall_mem_map]
    intro i _
    simp only [List.length_append, List.length_take, List.length_drop, hlen, and_self]
  · rw [fold_spec k (rs.zip ts) hk (hz ▸ hn), List.map_map]
    simp only [hz, zip_outside rs ts _ _ hlen, zip_block]
    rfl

/-- **each pair of `fold(k)` is a split of the multiset of (record, target) pairs** -/
theorem foldDataset_partition {α β} (k : Nat) (rs : List α) (ts : List β)
    (hlen : rs.length = ts.length) (hk : 2 ≤ k) (hn : k ≤ rs.length)
    (ps : List ((List α × List β) × (List α × List β))) (h : foldDataset k rs ts = some ps) :
    ps.length = k ∧ ∀ q ∈ ps, (q.1.1.zip q.1.2 ++ q.2.1.zip q.2.2).Perm (rs.zip ts) := by
  obtain ⟨ps', h', hl, _, hz⟩ := foldDataset_rows_stay_paired k rs ts hlen hk hn
  rw [h] at h'
  cases h'
  obtain ⟨_, hp⟩ := fold_partition k (rs.zip ts) hk (length_zip_eq hlen ▸ hn) _ hz
  exact ⟨hl, fun q hq => hp _ (List.mem_map.mpr ⟨q, hq, rfl⟩)⟩

example : (([2, 3, 4].zip ["c", "d", "e"]) ++ ([0, 1].zip ["a", "b"])).Perm
    ([0, 1, 2, 3, 4].zip ["a", "b", "c", "d", "e"]) := by decide +kernel

/-! ## `iter_fold`: in-place block swapping on the flat buffers -/

/-- **restoration + what the closure sees**, for every `n`, every `0 < k ≤ n`, every
record width `p` and target width `t`: `iter_fold` succeeds, the buffers are
handed back exactly as they were, fold `i`'s training view is the buffer with
blocks `0` and `i` exchanged minus its first block, and validation view `i` is sample
block `i` (`n / k` whole samples) of the (restored) buffers.  Holds for `p = 0` / `t = 0` too. -/
theorem iterFold_spec {α β} (n k p t : Nat) (recs : List α) (tgts : List β)
    (hk : 0 < k) (hn : k ≤ n) (hr : recs.length = n * p) (hg : tgts.length = n * t) :
    iterFold n k p t recs tgts = some
      { trains := (List.range k).map fun i =>
          ((swapBlock recs i (n / k) p).drop (n / k * p), (swapBlock tgts i (n / k) t).drop (n / k * t)),
        valids := (List.range k).map fun i =>
          ((recs.drop (i * (n / k * p))).take (n / k * p), (tgts.drop (i * (n / k * t))).take (n / k * t)),
        finalR := recs, finalT := tgts } := by
  have hkn : k * (n / k) ≤ n := Nat.mul_div_le n k
  have h1 : (0 + k) * (n / k * p) ≤ recs.length := by
    rw [Nat.zero_add, hr, ← Nat.mul_assoc]; exact Nat.mul_le_mul_right _ hkn
  have h2 : (0 + k) * (n / k * t) ≤ tgts.length := by
    rw [Nat.zero_add, hg, ← Nat.mul_assoc]; exact Nat.mul_le_mul_right _ hkn
  simp only [iterFold, if_neg (show ¬ (k = 0 ∨ n < k) by omega),
    iterGo_spec (n / k) p t recs tgts k 0 h1 h2, ← List.range_eq_range',
    sampleChunks_zip_take n (n / k) p t k recs tgts
      ((Nat.le_div_iff_mul_le (Nat.div_pos hn hk)).2 hkn)]

example : (iterFold 5 2 1 1 [0, 1, 2, 3, 4] [10, 11, 12, 13, 14]).map (·.trains) =
    some [([2, 3, 4], [12, 13, 14]), ([0, 1, 4], [10, 11, 14])] := by decide +kernel

/-- **restoration**, as a statement about every successful call -/
theorem iterFold_restores {α β} (n k p t : Nat) (recs : List α) (tgts : List β)
    (hk : 0 < k) (hn : k ≤ n) (hr : recs.length = n * p) (hg : tgts.length = n * t)
    (o : IterFoldOut α β) (h : iterFold n k p t recs tgts = some o) :
    o.finalR = recs ∧ o.finalT = tgts := by
  rw [iterFold_spec n k p t recs tgts hk hn hr hg] at h
  cases h; exact ⟨rfl, rfl⟩

/-- **row integrity of the in-place swap**: on a row-major buffer (`rows.flatten`, every
row `p` cells wide) the training view of fold `i` consists of whole rows — it is
`flatten` of a list of original rows — and that list is a permutation of the
complement of block `i`.  The same `(i, n/k)` selects the rows of the records
and of the targets, so rows stay paired. -/
theorem iterFold_train_rows {α} (rows : List (List α)) (p i fs : Nat)
    (hrow : ∀ r ∈ rows, r.length = p) (hlen : (i + 1) * fs ≤ rows.length) :
    (swapBlock rows.flatten i fs p).drop (fs * p) = ((swapBlock rows i fs 1).drop fs).flatten ∧
    ((swapBlock rows i fs 1).drop fs).Perm (rows.take (i * fs) ++ rows.drop ((i + 1) * fs)) := by
  refine ⟨?_, swapBlock_drop_perm rows i fs hlen⟩
  rw [swapBlock_flatten rows p i fs hrow]
  exact drop_flatten_uniform _ p fs fun r hr => hrow r (mem_swapBlock hr)

/-- the swap used by `iter_fold` is an involution (the reason the dataset is restored) -/
theorem swap_block_involutive {α} (buf : List α) (i fs s : Nat)
    (hlen : (i + 1) * (fs * s) ≤ buf.length) :
    swapBlock (swapBlock buf i fs s) i fs s = buf :=
  swapBlock_involutive buf i fs s hlen

/-- the documented panic: a dataset that is not contiguous in standard order is refused
(`as_slice_mut().unwrap()`), nothing is swapped -/
theorem iterFoldLayout_nonstd {α β} (stdR stdT : Bool) (n k p t : Nat) (recs : List α) (tgts : List β)
    (h : stdR = false ∨ stdT = false) : iterFoldLayout stdR stdT n k p t recs tgts = none := by
  unfold iterFoldLayout
  by_cases hg : k = 0 ∨ n < k
  · simp [hg]
  · simp [hg, h]

example : iterFoldLayout false true 4 2 1 1 [0, 1, 2, 3] [10, 11, 12, 13] = none := by
  decide +kernel

/-- on standard layout the guarded call is the in-place loop the other theorems are about -/
theorem iterFoldLayout_std {α β} (n k p t : Nat) (recs : List α) (tgts : List β) :
    iterFoldLayout true true n k p t recs tgts = iterFold n k p t recs tgts := by
  unfold iterFoldLayout iterFold
  by_cases hg : k = 0 ∨ n < k
  · simp [hg]
  · simp [hg]

example : (iterFoldLayout true true 4 2 1 1 [0, 1, 2, 3] [10, 11, 12, 13]).map (·.finalR) =
    some [0, 1, 2, 3] := by decide +kernel

/-- **validation views are whole rows**: on a row-major buffer whose rows are `p` cells wide,
sample block `i` of `sample_chunks(fs)` is exactly rows `[i*fs, (i+1)*fs)` (flattened) -/
theorem iterFold_valid_rows {α} (rows : List (List α)) (p i fs : Nat)
    (hrow : ∀ r ∈ rows, r.length = p) :
    (rows.flatten.drop (i * (fs * p))).take (fs * p) = ((rows.drop (i * fs)).take fs).flatten := by
  rw [← Nat.mul_assoc, drop_flatten_uniform rows p _ hrow,
    take_flatten_uniform _ p _ (fun r hr => hrow r (List.mem_of_mem_drop hr))]

example : (([[0, 1], [2, 3], [4, 5], [6, 7], [8, 9]] : List (List Nat)).flatten.drop (1 * (2 * 2))).take (2 * 2) =
    (([[0, 1], [2, 3], [4, 5], [6, 7], [8, 9]].drop (1 * 2)).take 2).flatten := by decide +kernel

/-- **fold `i` of `iter_fold` is a split of the dataset**: the rows the closure sees together with
validation block `i` are a permutation of all rows -/
theorem iterFold_partition {α} (rows : List α) (i fs : Nat) (hlen : (i + 1) * fs ≤ rows.length) :
    ((swapBlock rows i fs 1).drop fs ++ (rows.drop (i * fs)).take fs).Perm rows :=
  ((swapBlock_drop_perm rows i fs hlen).append_right _).trans (outside_block_perm rows i fs)

example : ((swapBlock [0, 1, 2, 3, 4] 1 2 1).drop 2 ++ ([0, 1, 2, 3, 4].drop (1 * 2)).take 2).Perm
    [0, 1, 2, 3, 4] := by decide +kernel

/-- **rows stay paired under the in-place swap**: swapping the zipped (record, target) rows is
swapping records and targets separately with the same `(i, fs)` — which is what the Rust code does
on its two buffers -/
theorem iterFold_rows_stay_paired {α β} (rs : List α) (ts : List β) (i fs : Nat)
    (hlen : rs.length = ts.length) :
    swapBlock (rs.zip ts) i fs 1 = (swapBlock rs i fs 1).zip (swapBlock ts i fs 1) := by
  unfold swapBlock
  split
  · rfl
  · rw [List.zip_append (by simp only [List.length_append, List.length_take, List.length_drop, hlen]),
      List.zip_append (by simp only [List.length_append, List.length_take, List.length_drop, hlen]),
      List.zip_append (by simp only [List.length_take, List.length_drop, hlen])]
    simp only [List.zip, List.take_zipWith, List.drop_zipWith]

example : swapBlock ([1, 2, 3, 4, 5].zip [10, 20, 30, 40, 50]) 1 2 1 =
    (swapBlock [1, 2, 3, 4, 5] 1 2 1).zip (swapBlock [10, 20, 30, 40, 50] 1 2 1) := by
  decide +kernel

/-- **`iter_fold` returns iff `0 < k ≤ n` and both arrays pass `as_slice_mut`** — the three
documented panics, exactly -/
theorem iterFoldLayout_guard_exact {α β} (stdR stdT : Bool) (n k p t : Nat) (recs : List α) (tgts : List β) :
    (iterFoldLayout stdR stdT n k p t recs tgts).isSome = true ↔
      (0 < k ∧ k ≤ n ∧ stdR = true ∧ stdT = true) := by
  by_cases hg : k = 0 ∨ n < k
  · -- one of the two `assert!`s fires
    rw [iterFoldLayout, if_pos hg]
    refine ⟨fun h => (nomatch h), fun h => ?_⟩
    rcases hg with rfl | hlt
    · exact absurd h.1 (Nat.lt_irrefl 0)
    · exact absurd h.2.1 (Nat.not_le_of_gt hlt)
  · cases stdR
    · rw [iterFoldLayout_nonstd _ _ _ _ _ _ _ _ (.inl rfl)]
      exact ⟨fun h => (nomatch h), fun h => nomatch h.2.2.1⟩
    · cases stdT
      · rw [iterFoldLayout_nonstd _ _ _ _ _ _ _ _ (.inr rfl)]
        exact ⟨fun h => (nomatch h), fun h => nomatch h.2.2.2⟩
      · rw [iterFoldLayout_std, iterFold, if_neg hg]
        exact ⟨fun _ => ⟨Nat.pos_of_ne_zero fun h => hg (.inl h),
          Nat.le_of_not_lt fun h => hg (.inr h), rfl, rfl⟩, fun _ => rfl⟩

example : (iterFoldLayout true true 3 1 1 1 [0, 1, 2] [10, 11, 12]).isSome = true ∧
    (iterFoldLayout true true 3 0 1 1 [0, 1, 2] [10, 11, 12]).isSome = false ∧
    (iterFoldLayout true true 3 4 1 1 [0, 1, 2] [10, 11, 12]).isSome = false := by decide +kernel

/-- **`iter_fold` on a dataset of `n` samples, in terms of its ROWS** (composition of
`iterFold_spec`, `iterFold_train_rows`, `iterFold_rows_stay_paired`, `iterFold_valid_rows`): for
every `0 < k ≤ n`, records `p` wide and targets `t` wide, the call returns, the buffers are
handed back unchanged, and for every fold `i < k` the training view the closure sees consists of
whole record rows `ra` and whole target rows `ta`, equally many, whose pairs `(ra[j], ta[j])` are a
permutation of the (record, target) pairs outside block `i`; the validation view is block `i` of
the records with block `i` of the targets. -/
theorem iterFold_rows_spec {α β} (n k p t : Nat) (rr : List (List α)) (tr : List (List β))
    (hk : 0 < k) (hn : k ≤ n) (hrl : rr.length = n) (htl : tr.length = n)
    (hrw : ∀ r ∈ rr, r.length = p) (htw : ∀ r ∈ tr, r.length = t) :
    ∃ o, iterFold n k p t rr.flatten tr.flatten = some o ∧
      o.finalR = rr.flatten ∧ o.finalT = tr.flatten ∧
      ∀ i, i < k → ∃ (ra : List (List α)) (ta : List (List β)),
        o.trains[i]? = some (ra.flatten, ta.flatten) ∧ ra.length = ta.length ∧
        (ra.zip ta).Perm ((rr.zip tr).take (i * (n / k)) ++ (rr.zip tr).drop ((i + 1) * (n / k))) ∧
        o.valids[i]? = some (((rr.drop (i * (n / k))).take (n / k)).flatten,
                             ((tr.drop (i * (n / k))).take (n / k)).flatten) := by
  have hfr : rr.flatten.length = n * p := by rw [flatten_length_uniform rr p hrw, hrl]
  have hft : tr.flatten.length = n * t := by rw [flatten_length_uniform tr t htw, htl]
  refine ⟨_, iterFold_spec n k p t _ _ hk hn hfr hft, rfl, rfl, fun i hi => ?_⟩
  have hle : (i + 1) * (n / k) ≤ n :=
    Nat.le_trans (Nat.mul_le_mul_right _ hi) (Nat.mul_div_le n k)
  have hlz : rr.length = tr.length := hrl.trans htl.symm
  have hz : (rr.zip tr).length = n := (length_zip_eq hlz).trans hrl
  -- the rows of the zipped dataset that fold `i` trains on
  have hperm := swapBlock_drop_perm (rr.zip tr) i (n / k) (hz ▸ hle)
  rw [iterFold_rows_stay_paired rr tr i (n / k) hlz, List.zip, List.drop_zipWith] at hperm
  refine ⟨(swapBlock rr i (n / k) 1).drop (n / k), (swapBlock tr i (n / k) 1).drop (n / k),
    ?_, ?_, hperm, ?_⟩
  · rw [List.getElem?_map, List.getElem?_range hi, Option.map_some,
      (iterFold_train_rows rr p i (n / k) hrw (hrl ▸ hle)).1,
      (iterFold_train_rows tr t i (n / k) htw (htl ▸ hle)).1]
  · rw [(swapBlock_drop_perm rr i (n / k) (hrl ▸ hle)).length_eq,
      (swapBlock_drop_perm tr i (n / k) (htl ▸ hle)).length_eq]
    simp only [List.length_append, List.length_take, List.length_drop, hrl, htl]
  · rw [List.getElem?_map, List.getElem?_range hi, Option.map_some,
      iterFold_valid_rows rr p i (n / k) hrw, iterFold_valid_rows tr t i (n / k) htw]

example : (iterFold 5 2 2 1 ([[0, 1], [2, 3], [4, 5], [6, 7], [8, 9]] : List (List Nat)).flatten
    ([[10], [11], [12], [13], [14]] : List (List Nat)).flatten).map (fun o => (o.trains[1]?, o.valids[1]?)) =
    some (some ([0, 1, 2, 3, 8, 9], [10, 11, 14]), some ([4, 5, 6, 7], [12, 13])) := by
  decide +kernel

/-! ## `cross_validate` -/

/-- a failing fit surfaces as that error: the first failing model of the fold, whatever
the evaluations would have said -/
theorem cvFold_fit_error {ε σ} (pre : List (Except ε Unit)) (e : ε) (post : List (Except ε Unit))
    (evals : List (Except ε (List σ))) (hpre : ∀ a ∈ pre, a = .ok ()) :
    cvFold (pre ++ .error e :: post) evals = .error e := by
  unfold cvFold
  rw [mapM_except_error id pre (.error e) post e (fun a ha => ⟨(), hpre a ha⟩) rfl]

/-- with all fits fine, the first failing evaluation surfaces -/
theorem cvFold_eval_error {ε σ} (fits : List (Except ε Unit)) (hf : ∀ a ∈ fits, a = .ok ())
    (pre : List (Except ε (List σ))) (e : ε) (post : List (Except ε (List σ)))
    (hpre : ∀ a ∈ pre, ∃ v, a = .ok v) :
    cvFold fits (pre ++ .error e :: post) = .error e := by
  unfold cvFold
  rw [mapM_ok_map id (fun _ => ()) fits hf]
  exact mapM_except_error id pre (.error e) post e hpre rfl

/-- **the first failing fold (in fold order) decides the result** -/
theorem cv_error_first {ε σ} [Add σ] [Div σ] [OfNat σ 0] [NatCast σ] (k m t : Nat)
    (pre : List (List (Except ε Unit) × List (Except ε (List σ))))
    (f : List (Except ε Unit) × List (Except ε (List σ)))
    (post : List (List (Except ε Unit) × List (Except ε (List σ)))) (e : ε)
    (hpre : ∀ a ∈ pre, ∃ v, cvFold a.1 a.2 = .ok v) (hf : cvFold f.1 f.2 = .error e) :
    crossValidate k m t (pre ++ f :: post) = .error e := by
  unfold crossValidate
  rw [mapM_except_error (fun f => cvFold f.1 f.2) pre f post e hpre hf]

/-- **the reported score is the arithmetic mean over the folds**: if every fold's fits and
evaluations succeed with `m × t` score matrices `fes`, entry `(model i, target j)` of
the result is `(Σ_f fes[f][i][j]) / k` — the divisor is the argument `k`, as in the code's
`/ FACC::from(k)`; it is the mean because `iter_fold` yields `k` folds (`cv_on_is_mean` ties them). -/
theorem cv_is_mean {ε σ} [Field σ] (k m t : Nat)
    (folds : List (List (Except ε Unit) × List (Except ε (List σ))))
    (fes : List (List (List σ)))
    (hok : folds.mapM (fun f => cvFold f.1 f.2) = .ok fes)
    (hshape : ∀ fe ∈ fes, Shaped m t fe) :
    ∃ res, crossValidate k m t folds = .ok res ∧ res.length = m ∧
      ∀ i j, i < m → j < t →
        entry res i j = (fes.map (entry · i j)).sum / (k : σ) := by
  unfold crossValidate
  rw [hok]
  obtain ⟨hs, he⟩ := foldl_acc m t _ (zero_shaped (σ := σ) m t) (entry_zero m t) fes hshape _
    (zero_shaped m t)
  refine ⟨_, rfl, by rw [List.length_map, hs.1], fun i j hi hj => ?_⟩
  rw [entry_map _ m t _ hs i j hi hj, he i j hi hj, entry_zero, zero_add]

example : crossValidate (ε := String) (σ := Nat) 2 1 1
    [([.ok ()], [.ok [2]]), ([.ok ()], [.ok [4]])] = .ok [[3]] := by decide +kernel

/-- **an error that comes out is the error of some failing fit or evaluation** (nothing is
invented, nothing is re-wrapped) -/
theorem cv_error_is_scripted {ε σ} [Add σ] [Div σ] [OfNat σ 0] [NatCast σ] (k m t : Nat)
    (folds : List (List (Except ε Unit) × List (Except ε (List σ)))) (e : ε)
    (h : crossValidate k m t folds = .error e) :
    ∃ f ∈ folds, (.error e ∈ f.1 ∨ .error e ∈ f.2) := by
  unfold crossValidate at h
  cases hm : folds.mapM (fun f => cvFold f.1 f.2) with
  | ok fes => rw [hm] at h; cases h
  | error e' =>
    rw [hm] at h
    cases h
    obtain ⟨f, hf, hfe⟩ := mapM_except_error_mem _ _ _ hm
    refine ⟨f, hf, ?_⟩
    unfold cvFold at hfe
    cases hfit : f.1.mapM id with
    | error e2 =>
      rw [hfit] at hfe
      cases hfe
      obtain ⟨a, ha, hae⟩ := mapM_except_error_mem _ _ _ hfit
      exact .inl (hae ▸ ha)
    | ok _ =>
      rw [hfit] at hfe
      obtain ⟨a, ha, hae⟩ := mapM_except_error_mem _ _ _ hfe
      exact .inr (hae ▸ ha)

example : crossValidate (ε := String) (σ := Nat) 2 1 1
    [([.ok ()], [.ok [2]]), ([.ok ()], [.error "eval:3"])] = .error "eval:3" := by decide +kernel

/-- with every fit and every evaluation fine, a fold yields its score rows (the hypothesis of
`cv_is_mean` is satisfiable for every table of scores) -/
theorem cvFold_ok {ε σ} (fits : List (Except ε Unit)) (hf : ∀ a ∈ fits, a = .ok ())
    (vs : List (List σ)) : cvFold fits (vs.map .ok) = .ok vs := by
  unfold cvFold
  rw [mapM_ok_map id (fun _ => ()) fits hf]
  exact mapM_id_eq_ok.2 rfl

example : cvFold (ε := String) [.ok (), .ok ()] ([[1], [2]].map .ok) = .ok [[1], [2]] := by
  decide +kernel

/-- **no candidate model**: an empty `parameters` slice is fine, the result is the empty table -/
theorem cv_no_models {ε σ} [Add σ] [Div σ] [OfNat σ 0] [NatCast σ] (k t : Nat)
    (folds : List (List (Except ε Unit) × List (Except ε (List σ))))
    (h : ∀ f ∈ folds, f = ([], [])) :
    crossValidate k 0 t folds = .ok [] := by
  have hfes := mapM_ok_map (fun f : List (Except ε Unit) × List (Except ε (List σ)) => cvFold f.1 f.2)
    (fun _ => []) folds (fun f hf => by rw [h f hf]; rfl)
  -- an empty accumulator stays empty
  have hacc : ∀ l : List (List (List σ)),
      l.foldl (fun acc fe => addMat acc (addMat [] fe)) [] = [] := by
    intro l
    induction l with
    | nil => rfl
    | cons x xs ih => exact ih
  simp only [crossValidate, hfes, List.replicate_zero, hacc, List.map_nil]

example : crossValidate (ε := String) (σ := Nat) 3 0 2 [([], []), ([], []), ([], [])] = .ok [] := by
  decide +kernel

/-- **real fit results amount to the scripted tables**: a fold of `cross_validate` on actual
`Fit`/`Predict` results (`cvFoldM`: all fits, then model by model predict + eval) is `cvFold` on
the outcome tables `scriptOf` reads off them — so `cvFold_fit_error`, `cvFold_eval_error`,
`cv_error_first`, `cv_is_mean` speak about the real calling form -/
theorem cvFoldM_script {ε μ σ} (fits : List (Except ε μ)) (score : μ → Except ε (List σ)) :
    cvFoldM fits score = cvFold (scriptOf fits score).1 (scriptOf fits score).2 :=
  (cvFold_scriptOf fits score).symm

example : cvFoldM (ε := String) (σ := Nat) [.ok 1, .error "fit:2"] (fun m => .ok [m]) = .error "fit:2" := by
  decide +kernel

/-- **`cross_validate` on a dataset, for every `0 < k ≤ n`**: it is `crossValidate` over the folds of
`iter_fold` — model `m` of fold `i` is `parameters[m].fit` on fold `i`'s training view (blocks `0`
and `i` exchanged, first block dropped), its score is `eval(predict(validation block i), targets
of validation block i)` — and the buffers are handed back as they were. -/
theorem cv_on_spec {α β ε μ σ} [Add σ] [Div σ] [OfNat σ 0] [NatCast σ]
    (n k p t : Nat) (recs : List α) (tgts : List β)
    (params : List (List α × List β → Except ε μ))
    (score : μ → List α × List β → Except ε (List σ)) (nt : Nat)
    (hk : 0 < k) (hn : k ≤ n) (hr : recs.length = n * p) (hg : tgts.length = n * t) :
    crossValidateOn true true n k p t recs tgts params score nt = some
      { result := crossValidate k params.length nt
          ((((List.range k).map fun i =>
              ((swapBlock recs i (n / k) p).drop (n / k * p), (swapBlock tgts i (n / k) t).drop (n / k * t))).zip
            ((List.range k).map fun i =>
              ((recs.drop (i * (n / k * p))).take (n / k * p), (tgts.drop (i * (n / k * t))).take (n / k * t)))).map
            fun (tr, va) => scriptOf (params.map fun f => f tr) (fun md => score md va)),
        finalR := recs, finalT := tgts } := by
  unfold crossValidateOn
  rw [iterFoldLayout_std, iterFold_spec n k p t recs tgts hk hn hr hg]

example : (crossValidateOn (ε := String) (σ := Nat) true true 4 2 1 1 [0, 1, 2, 3] [10, 11, 12, 13]
    [fun tr => .ok tr.1.sum] (fun md va => .ok [md + va.2.sum]) 1).map (·.result) =
    some (.ok [[(5 + 21 + (1 + 25)) / 2]]) := by decide +kernel

/-- **after cross-validation returns — with scores or with an error — the dataset holds its
original rows in their original order** -/
theorem cv_on_restores {α β ε μ σ} [Add σ] [Div σ] [OfNat σ 0] [NatCast σ]
    (stdR stdT : Bool) (n k p t : Nat) (recs : List α) (tgts : List β)
    (params : List (List α × List β → Except ε μ))
    (score : μ → List α × List β → Except ε (List σ)) (nt : Nat)
    (hr : recs.length = n * p) (hg : tgts.length = n * t)
    (o : CvOut α β ε σ) (h : crossValidateOn stdR stdT n k p t recs tgts params score nt = some o) :
    o.finalR = recs ∧ o.finalT = tgts := by
  unfold crossValidateOn at h
  cases hi : iterFoldLayout stdR stdT n k p t recs tgts with
  | none => rw [hi] at h; cases h
  | some io =>
    rw [hi] at h
    cases h
    -- the layout guard passed, so this is `iterFold` under its own guard
    obtain ⟨hk, hn, rfl, rfl⟩ :=
      (iterFoldLayout_guard_exact stdR stdT n k p t recs tgts).mp (by rw [hi]; rfl)
    rw [iterFoldLayout_std] at hi
    exact iterFold_restores n k p t recs tgts hk hn hr hg io hi

example : (crossValidateOn (ε := String) (σ := Nat) true true 4 2 1 1 [0, 1, 2, 3] [10, 11, 12, 13]
    [fun _ => (.error "fit:1" : Except String Nat)] (fun md va => .ok [md + va.2.sum]) 1).map
    (fun o => (o.result, o.finalR, o.finalT)) =
    some (.error "fit:1", [0, 1, 2, 3], [10, 11, 12, 13]) := by decide +kernel

/-- the documented panics of `iter_fold` are those of `cross_validate`: it returns (scores or an
error) iff `0 < k ≤ n` and both arrays pass `as_slice_mut` -/
theorem cv_on_guard_exact {α β ε μ σ} [Add σ] [Div σ] [OfNat σ 0] [NatCast σ]
    (stdR stdT : Bool) (n k p t : Nat) (recs : List α) (tgts : List β)
    (params : List (List α × List β → Except ε μ))
    (score : μ → List α × List β → Except ε (List σ)) (nt : Nat) :
    (crossValidateOn stdR stdT n k p t recs tgts params score nt).isSome = true ↔
      (0 < k ∧ k ≤ n ∧ stdR = true ∧ stdT = true) := by
  rw [← iterFoldLayout_guard_exact stdR stdT n k p t recs tgts]
  unfold crossValidateOn
  cases iterFoldLayout stdR stdT n k p t recs tgts <;> simp

example : (crossValidateOn (ε := String) (σ := Nat) true false 4 2 1 1 [0, 1, 2, 3] [10, 11, 12, 13]
    [fun tr => .ok tr.1.sum] (fun md va => .ok [md + va.2.sum]) 1).isSome = false := by
  decide +kernel

/-- **the full clause on the real calling form**: for every `0 < k ≤ n`, every record / target width
`p, t` (zero included), every list of parameter sets and every predict-then-eval function: if model `j` fitted
on fold `i`'s training view is `md i j` and its evaluation on validation block `i` is the row
`sc i j` (`nt` entries), then `cross_validate` returns a `models × nt` table whose entry `(j, c)` is
the arithmetic mean over the `k` folds of `sc i j [c]`, and the dataset is handed back unchanged.
(Composition of `cv_on_spec`, `mapM_cvFold_views` and `cv_is_mean`.) -/
theorem cv_on_is_mean {α β ε μ σ} [Field σ] (n k p t : Nat) (recs : List α) (tgts : List β)
    (params : List (List α × List β → Except ε μ))
    (score : μ → List α × List β → Except ε (List σ)) (nt : Nat)
    (hk : 0 < k) (hn : k ≤ n)
    (hr : recs.length = n * p) (hg : tgts.length = n * t)
    (md : Nat → Nat → μ) (sc : Nat → Nat → List σ)
    (hfit : ∀ i, i < k → ∀ j (hj : j < params.length),
      params[j] ((swapBlock recs i (n / k) p).drop (n / k * p), (swapBlock tgts i (n / k) t).drop (n / k * t))
        = .ok (md i j))
    (hsc : ∀ i, i < k → ∀ j, j < params.length →
      score (md i j) ((recs.drop (i * (n / k * p))).take (n / k * p), (tgts.drop (i * (n / k * t))).take (n / k * t))
        = .ok (sc i j))
    (hshape : ∀ i, i < k → ∀ j, j < params.length → (sc i j).length = nt) :
    ∃ o res, crossValidateOn true true n k p t recs tgts params score nt = some o ∧
      o.result = .ok res ∧ o.finalR = recs ∧ o.finalT = tgts ∧ res.length = params.length ∧
      ∀ j c, j < params.length → c < nt →
        entry res j c = ((List.range k).map fun i => ((sc i j)[c]?).getD 0).sum / (k : σ) := by
  have hspec := cv_on_spec n k p t recs tgts params score nt hk hn hr hg
  rw [List.zip_map', List.map_map] at hspec
  have hsh : ∀ fe ∈ (List.range k).map fun i => (List.range params.length).map (sc i),
      Shaped params.length nt fe := by
    rw [List.forall_mem_map]
    refine fun i hi => ⟨by rw [List.length_map, List.length_range], ?_⟩
    rw [List.forall_mem_map]
    exact fun j hj => hshape i (List.mem_range.mp hi) j (List.mem_range.mp hj)
  obtain ⟨res, hres, hlen, hent⟩ := cv_is_mean (ε := ε) k params.length nt _ _
    (mapM_cvFold_views params score _ _ k md sc hfit hsc) hsh
  refine ⟨_, res, hspec, hres, rfl, rfl, hlen, fun j c hj hc => ?_⟩
  have he : ∀ i, entry ((List.range params.length).map (sc i)) j c = ((sc i j)[c]?).getD 0 :=
    fun i => by
      simp only [entry, List.getElem?_map, List.getElem?_range hj, Option.map_some,
        Option.getD_some]
  simp only [hent j c hj hc, List.map_map, Function.comp_def, he]

example : ∀ i, i < 2 → ∀ j (hj : j < [fun tr : List Nat × List Nat => (Except.ok tr.1.sum : Except String Nat)].length),
    [fun tr : List Nat × List Nat => (Except.ok tr.1.sum : Except String Nat)][j]
      ((swapBlock [0, 1, 2, 3] i (4 / 2) 1).drop (4 / 2 * 1), (swapBlock [10, 11, 12, 13] i (4 / 2) 1).drop (4 / 2 * 1))
      = .ok (if i = 0 then 5 else 1) := by decide +kernel

end LinfaSpec.Props.C01
