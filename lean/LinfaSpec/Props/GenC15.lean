import LinfaSpec.Gen.Scalars
import LinfaSpec.Proofs.IncrementalFtrl
import Mathlib.Analysis.SpecialFunctions.Log.Basic
import Mathlib.Analysis.Real.Sqrt

/-!
# C15 — obligations about the FTRL scalar formulas GENERATED from the Rust source

`LinfaSpec.Gen.Scalars.Ftrl` is regenerated from `algorithms/linfa-ftrl/src/algorithm.rs` on every
check.  The `*_is_model` theorems say that the generated text is the hand-written model
(`LinfaSpec.Incremental.ftrlSigma / ftrlWeight / sigmoid`) which the recurrence theorems of
`Props/C15.lean` are about; the remaining ones are facts about the source's sigmoid itself.
-/
set_option linter.unusedSectionVars false
namespace LinfaSpec.Props.GenC15
open LinfaSpec LinfaSpec.Gen.Scalars LinfaSpec.Incremental

section generic
variable {α : Type} [Add α] [Sub α] [Mul α] [Div α] [Neg α] [LT α] [DecidableLT α] [LE α] [DecidableLE α]
  [DecidableEq α] [OfNat α 0] [OfNat α 1] [OfScientific α] [Transc α]

/-- **`calculate_weight_in_average` (the per-coordinate learning-rate change `σ`) is the model's
`ftrlSigma`** -/
theorem sigma_is_model (hp : FtrlHp α) (n g : α) :
    Ftrl.calculate_weight_in_average n g hp.alpha = ftrlSigma hp n g := rfl

/-- **`apply_proximal_to_weights` is the model's `ftrlWeight`** (the closed-form weight with the L1
dead zone) -/
theorem weight_is_model (hp : FtrlHp α) (z n : α) :
    Ftrl.apply_proximal_to_weights z n hp.alpha hp.beta hp.l1 hp.l2 = ftrlWeight hp z n := rfl

/-- **`stable_sigmoid` is the model's `sigmoid` with the clamp 35** -/
theorem sigmoid_is_model (v : α) : Ftrl.stable_sigmoid v = sigmoid (35.0 : α) v := rfl

end generic

/-! ### over the reals -/

noncomputable local instance : Transc ℝ := ⟨Real.sqrt, Real.exp, Real.log⟩

/-- the two branches of the source's sigmoid are the same function: `e^v / (e^v + 1) = 1 / (1 + e^{-v})` -/
theorem negative_eq_positive (v : ℝ) : Ftrl.negative_sigmoid v = Ftrl.positive_sigmoid v := by
  show Real.exp v / (Real.exp v + 1) = 1 / (1 + Real.exp (-v))
  rw [Real.exp_neg]
  have : Real.exp v ≠ 0 := (Real.exp_pos v).ne'
  field_simp

/-- **the source's `stable_sigmoid` is the logistic function of the clamped prediction**, a value
strictly between 0 and 1, for every input -/
theorem stable_sigmoid_spec (v : ℝ) :
    Ftrl.stable_sigmoid v = 1 / (1 + Real.exp (-(max (min v 35) (-35)))) ∧
    0 < Ftrl.stable_sigmoid v ∧ Ftrl.stable_sigmoid v < 1 := by
  have hc : maxS (minS v (35.0 : ℝ)) (-(35.0 : ℝ)) = max (min v 35) (-35) := by
    rw [maxS_eq_max, minS_eq_min, show (35.0 : ℝ) = 35 by norm_num]
  have hval : Ftrl.stable_sigmoid v = 1 / (1 + Real.exp (-(max (min v 35) (-35)))) := by
    show (if maxS (minS v (35.0 : ℝ)) (-(35.0 : ℝ)) < 0 then
        Ftrl.negative_sigmoid (maxS (minS v (35.0 : ℝ)) (-(35.0 : ℝ)))
      else Ftrl.positive_sigmoid (maxS (minS v (35.0 : ℝ)) (-(35.0 : ℝ)))) = _
    rw [hc]
    split
    · rw [negative_eq_positive]; rfl
    · rfl
  refine ⟨hval, ?_, ?_⟩
  · rw [hval]; positivity
  · rw [hval]
    have : 0 < Real.exp (-(max (min v 35) (-35))) := Real.exp_pos _
    rw [div_lt_one (by positivity)]
    linarith

/-- the clamp is active on both sides -/
example : Ftrl.stable_sigmoid (100 : ℝ) = 1 / (1 + Real.exp (-35)) ∧
    Ftrl.stable_sigmoid (-100 : ℝ) = 1 / (1 + Real.exp (-(-35))) := by
  constructor
  · rw [(stable_sigmoid_spec 100).1]; norm_num
  · rw [(stable_sigmoid_spec (-100)).1]; norm_num

end LinfaSpec.Props.GenC15
