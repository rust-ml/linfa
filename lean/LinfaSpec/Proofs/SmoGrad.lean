/-
The gradient the solver holds is `p + Q α` on the active positions: kept by every `update`,
established by `SolverState::new` from the zero start.
-/
import LinfaSpec.Proofs.Smo
namespace LinfaSpec.Smo
section
variable {α : Type} [Field α]

/-- `Q_kl` as the kernel wrapper serves it: entry `k` of `kernel.distances(l, ·)` -/
def Qe (e : Env α) (s : St α) (k l : Nat) : α := gf (dist e s l (k + 1)) k

theorem gf_dist (e : Env α) (s : St α) (a len k : Nat) (hk : k < len) :
    gf (dist e s a len) k = Qe e s k a := by
  unfold Qe gf dist
  rw [List.getD_eq_getElem?_getD, List.getD_eq_getElem?_getD]
  simp only [List.getElem?_map, List.getElem?_range hk, List.getElem?_range (Nat.lt_succ_self k),
    Option.map_some, Option.getD_some]

theorem dist_length (e : Env α) (s : St α) (a len : Nat) : (dist e s a len).length = len := by
  unfold dist; simp

end

section step
variable {α : Type} [Field α] [LinearOrder α]

/-- the gradient the solver holds is the gradient of the dual objective on the active positions -/
def GradOK (e : Env α) (s : St α) : Prop :=
  ∀ k, k < s.nactive →
    gf s.grad k = gf s.p k + ∑ l ∈ Finset.range s.alpha.length, Qe e s k l * gf s.alpha l

theorem gf_update_grad (e : Env α) (s : St α) (i j k : Nat) (hk : k < s.nactive)
    (hg : s.nactive ≤ s.grad.length) :
    gf (update e s i j).grad k = gf s.grad k +
      (Qe e s k i * ((newPair e s i j).1 - gf s.alpha i) + Qe e s k j * ((newPair e s i j).2 - gf s.alpha j)) := by
  rw [update_grad]
  have hdi := dist_length e s i s.nactive
  have hdj := dist_length e s j s.nactive
  have hk1 : k < (s.grad.take s.nactive).length := by rw [List.length_take]; omega
  rw [gf_append_left _ _ k (by
    simp only [List.length_zipWith, List.length_zip, hdi, hdj, List.length_take]; omega)]
  rw [gf_zipWith_zip _ _ _ _ k hk1 (by omega) (by omega), gf_take _ _ _ hk,
    gf_dist e s i s.nactive k hk, gf_dist e s j s.nactive k hk]

theorem Qe_update (e : Env α) (s : St α) (i j k l : Nat) : Qe e (update e s i j) k l = Qe e s k l := by
  unfold Qe dist; rw [update_kidx, update_y]

theorem update_gradOK (e : Env α) (s : St α) (i j : Nat) (hij : i ≠ j) (hi : i < s.nactive)
    (hj : j < s.nactive) (hn : s.nactive ≤ s.alpha.length) (hg : s.grad.length = s.alpha.length)
    (h : GradOK e s) : GradOK e (update e s i j) := by
  intro k hk
  rw [update_nactive] at hk
  have hi' : i < s.alpha.length := by omega
  have hj' : j < s.alpha.length := by omega
  rw [gf_update_grad e s i j k hk (by omega), update_p, update_alpha_length, h k hk]
  rw [sum_eq_of_two _ i j hi' hj' hij (fun l => Qe e (update e s i j) k l * gf (update e s i j).alpha l)
    (fun l => Qe e s k l * gf s.alpha l)]
  · rw [Qe_update, Qe_update, gf_update_alpha e s i j i hi' hj', gf_update_alpha e s i j j hi' hj',
      if_neg hij, if_pos rfl, if_pos rfl]
    ring
  · intro l h1 h2
    rw [Qe_update, gf_update_alpha e s i j l hi' hj', if_neg h2, if_neg h1]

end step

section grad
variable {α : Type} [Field α] [LinearOrder α] [IsStrictOrderedRing α]

set_option linter.unusedSectionVars false in
theorem update_grad_length (e : Env α) (s : St α) (i j : Nat) (hg : s.nactive ≤ s.grad.length) :
    (update e s i j).grad.length = s.grad.length := by
  rw [update_grad]
  simp only [List.length_append, List.length_zipWith, List.length_zip, dist_length, List.length_take,
    List.length_drop]
  omega

/-- a working-set sequence inside the active prefix -/
def ActiveSteps (s : St α) (steps : List (Nat × Nat)) : Prop :=
  ∀ st ∈ steps, st.1 ≠ st.2 ∧ st.1 < s.nactive ∧ st.2 < s.nactive

theorem updates_gradOK (e : Env α) (steps : List (Nat × Nat)) (s : St α)
    (hv : ActiveSteps s steps) (hn : s.nactive ≤ s.alpha.length) (hg : s.grad.length = s.alpha.length)
    (h : GradOK e s) : GradOK e (steps.foldl (fun s st => update e s st.1 st.2) s) := by
  induction steps generalizing s with
  | nil => exact h
  | cons st rest ih =>
    have h0 := hv st (List.mem_cons_self ..)
    simp only [List.foldl_cons]
    apply ih
    · intro x hx
      rw [update_nactive]
      exact hv x (List.mem_cons_of_mem _ hx)
    · rw [update_nactive, update_alpha_length]; exact hn
    · rw [update_grad_length e s st.1 st.2 (by omega), update_alpha_length]; exact hg
    · exact update_gradOK e s st.1 st.2 h0.1 h0.2.1 h0.2.2 hn hg h

set_option linter.unusedSectionVars false in
/-- `SolverState::new` from the zero point (C-classification, epsilon-regression):
every variable is at its lower bound, no kernel column is fetched, the gradient is the linear term -/
theorem init_zero_core (e : Env α) (a p b : List α) (y : List Bool) (hz : ∀ k, gf a k = 0) :
    (init e a p b y).alpha = a ∧ (init e a p b y).grad = p ∧ (init e a p b y).p = p ∧
    (init e a p b y).nactive = a.length := by
  unfold init
  dsimp only
  apply foldl_inv (fun s : St α => s.alpha = a ∧ s.grad = p ∧ s.p = p ∧ s.nactive = a.length)
  · exact ⟨rfl, rfl, rfl, rfl⟩
  · intro acc x _ h
    have hl : reachedLower acc x = true := by
      unfold reachedLower; rw [h.1, hz x]; simp
    simp only [hl, Bool.not_true, Bool.false_eq_true, if_false]
    exact h

theorem init_zero_gradOK (e : Env α) (a p b : List α) (y : List Bool) (hz : ∀ k, gf a k = 0) :
    GradOK e (init e a p b y) := by
  obtain ⟨c1, c2, c3, c4⟩ := init_zero_core e a p b y hz
  intro k _
  rw [c2, c3, c1]
  simp [hz]

end grad
end LinfaSpec.Smo
