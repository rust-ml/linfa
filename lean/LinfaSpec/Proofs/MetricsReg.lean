import LinfaSpec.Proofs.Metrics
import Mathlib.Tactic.LinearCombination

/-!
What is neither confusion matrix, ROC nor silhouette: the regression scores (means and order statistics
of the list of differences `subL a b`, characterised once), the clamp and the summand of the log-loss,
and the centred columns of the Pearson correlation.
-/
namespace LinfaSpec.Metrics
open LinfaSpec

section Sums
variable {α : Type} [Field α]

theorem meanS_eq (l : List α) (h : l ≠ []) : meanS l = some (l.sum / (l.length : α)) := by
  unfold meanS
  rw [if_neg (by simpa using h), sumS_eq_sum]

theorem meanS_perm {l l' : List α} (hp : l.Perm l') : meanS l = meanS l' := by
  unfold meanS
  rw [sumS_eq_sum, sumS_eq_sum, hp.sum_eq, hp.length_eq, hp.isEmpty_eq]

theorem sqDevSum_perm (m : α) {l l' : List α} (h : l.Perm l') : sqDevSum m l = sqDevSum m l' :=
  sumS_perm (h.map _)

theorem sqDevSum_expand (m : α) (l : List α) :
    sqDevSum m l = (l.map fun x => x * x).sum - 2 * m * l.sum + (l.length : α) * (m * m) := by
  unfold sqDevSum
  rw [sumS_eq_sum]
  induction l with
  | nil => simp
  | cons x xs ih => simp only [List.map_cons, List.sum_cons, List.length_cons, ih]; push_cast; ring

theorem map_subL {β : Type} (g : α → β) (a b : List α) :
    (subL a b).map g = List.zipWith (fun x y => g (x - y)) a b := by
  unfold subL
  rw [List.map_zipWith]

theorem zipWith_ne_nil {β γ δ ε : Type} {g : β → γ → δ} (f : β → γ → ε) {a : List β} {b : List γ}
    (h : List.zipWith g a b ≠ []) : List.zipWith f a b ≠ [] :=
  fun hc => h (List.zipWith_eq_nil_iff.mpr (List.zipWith_eq_nil_iff.mp hc))

/-- the number of samples is written as the length of the list of differences, whatever is zipped -/
theorem meanS_zipWith (f : α → α → α) (a b : List α) (h : List.zipWith (· - ·) a b ≠ []) :
    meanS (List.zipWith f a b) =
      some ((List.zipWith f a b).sum / ((List.zipWith (· - ·) a b).length : α)) := by
  rw [meanS_eq _ (zipWith_ne_nil f h), List.length_zipWith, List.length_zipWith]

theorem subL_div_eq (a b : List α) :
    List.zipWith (· / ·) (subL a b) a = List.zipWith (fun x y => (x - y) / x) a b := by
  unfold subL
  induction a generalizing b with
  | nil => simp
  | cons x xs ih =>
    cases b with
    | nil => simp
    | cons y ys => simp only [List.zipWith_cons_cons]; rw [ih]

theorem zipWith_same_map {β γ δ ε : Type} (f : γ → δ → ε) (g : β → γ) (h : β → δ) (l : List β) :
    List.zipWith f (l.map g) (l.map h) = l.map fun r => f (g r) (h r) := by
  rw [List.zipWith_map, List.zipWith_self]

theorem subL_eq_map (qs : List (α × α)) :
    subL (qs.map Prod.fst) (qs.map Prod.snd) = qs.map fun p => p.1 - p.2 :=
  zipWith_same_map _ _ _ qs

/-- the index arithmetic of `median_absolute_error` on a non-empty (sorted) vector -/
theorem median_pick (s : List α) (h1 : s.length / 2 - 1 < s.length) (h2 : s.length / 2 < s.length) :
    (if s.length % 2 = 0 then
        match s[s.length / 2 - 1]?, s[s.length / 2]? with
        | some x, some y => some ((x + y) / 2)
        | _, _ => none
      else s[s.length / 2]?) =
      some (if s.length % 2 = 0 then (s[s.length / 2 - 1] + s[s.length / 2]) / 2 else s[s.length / 2]) := by
  rw [List.getElem?_eq_getElem h1, List.getElem?_eq_getElem h2]
  split <;> rfl

end Sums

section Order
variable {α : Type} [LinearOrder α]

theorem insertAsc_eq (x : α) (l : List α) : insertAsc x l = l.orderedInsert (· < ·) x := by
  induction l with
  | nil => rfl
  | cons y ys ih => rw [insertAsc, ih, List.orderedInsert_cons]

theorem sortAsc_eq (l : List α) : sortAsc l = l.insertionSort (· < ·) := by
  induction l with
  | nil => rfl
  | cons x xs ih => rw [List.insertionSort_cons, ← ih, ← insertAsc_eq]; rfl

theorem perm_sortAsc (l : List α) : (sortAsc l).Perm l := by
  rw [sortAsc_eq]; exact List.perm_insertionSort _ l

theorem sorted_sortAsc (l : List α) : (sortAsc l).Pairwise (· ≤ ·) := by
  rw [sortAsc_eq]; exact pairwise_insertionSort_lt id l

theorem sortAsc_perm {l l' : List α} (h : l.Perm l') : sortAsc l = sortAsc l' :=
  ((perm_sortAsc l).trans (h.trans (perm_sortAsc l').symm)).eq_of_pairwise' (sorted_sortAsc l) (sorted_sortAsc l')

theorem clampS_eq (lo hi x : α) (h : lo ≤ hi) : clampS lo hi x = max lo (min hi x) := by
  unfold clampS
  split
  · rename_i hx
    rw [max_eq_left]
    exact le_trans (min_le_right hi x) (le_of_lt hx)
  · rename_i hx
    have hx : lo ≤ x := not_lt.mp hx
    split
    · rename_i hh
      rw [min_eq_left (le_of_lt hh), max_eq_right h]
    · rename_i hh
      have hh : x ≤ hi := not_lt.mp hh
      rw [min_eq_right hh, max_eq_right hx]

theorem foldl_maxS_spec (xs : List α) (x : α) :
    (∀ e ∈ x :: xs, e ≤ xs.foldl maxS x) ∧ xs.foldl maxS x ∈ x :: xs := by
  have : (maxS : α → α → α) = max := by funext a b; exact maxS_eq_max a b
  rw [this]
  -- the running maximum is the running minimum of the dual order
  exact foldl_min_spec (α := αᵒᵈ) xs x

/-- the `match` of `maxError` on its own: `fold(-inf, max)` as an option, `none` for the empty list -/
def maxOpt (l : List α) : Option α :=
  match l with
  | [] => none
  | x :: xs => some (xs.foldl maxS x)

theorem maxOpt_perm {l l' : List α} (h : l.Perm l') : maxOpt l = maxOpt l' := by
  cases l with
  | nil => rw [h.symm.eq_nil]
  | cons x xs =>
    cases l' with
    | nil => exact absurd h.eq_nil (by simp)
    | cons y ys =>
      obtain ⟨h1, h2⟩ := foldl_maxS_spec xs x
      obtain ⟨h1', h2'⟩ := foldl_maxS_spec ys y
      exact congrArg some (le_antisymm (h1' _ (h.mem_iff.mp h2)) (h1 _ (h.mem_iff.mpr h2')))

end Order

section Field
variable {α : Type} [Field α] [LinearOrder α] [IsStrictOrderedRing α]

theorem meanS_some {l : List α} {m : α} (h : meanS l = some m) : l ≠ [] ∧ l.sum = (l.length : α) * m := by
  have hne : l ≠ [] := by rintro rfl; simp [meanS] at h
  refine ⟨hne, ?_⟩
  rw [meanS_eq _ hne] at h
  have hn : (l.length : α) ≠ 0 := Nat.cast_ne_zero.mpr (mt List.length_eq_zero_iff.mp hne)
  rw [← Option.some.inj h, mul_div_cancel₀ _ hn]

theorem map_absS_subL (a b : List α) : (subL a b).map absS = List.zipWith (fun x y => |x - y|) a b := by
  rw [map_subL]
  simp only [absS_eq_abs]

/-- when the mean error `m` satisfies `m = n·m²` the code's numerator `Σe² − m` is the sum of squared
deviations `Σ(e − m)² = Σe² − n·m²`, whatever the regulariser -/
theorem explainedVariance_of_mean_cond (tiny : α) (a b : List α)
    (hm : ∀ m, meanS (subL a b) = some m → m = ((subL a b).length : α) * (m * m)) :
    explainedVariance tiny a b = (meanS b).bind fun mean => (meanS (subL a b)).map fun me =>
      1 - sqDevSum me (subL a b) / (sqDevSum mean b + tiny) := by
  unfold explainedVariance
  congr 1; funext mean
  cases he : meanS (subL a b) with
  | none => rfl
  | some me =>
    simp only [Option.map_some]
    rw [sqDevSum_expand me (subL a b), (meanS_some he).2, sumS_eq_sum]
    congr 3
    linear_combination (-1 : α) * hm me he

end Field

/-- one summand of the log-loss: the clipped negative log-likelihood of one sample -/
noncomputable def nllTerm (eps : ℝ) (p : ℝ × Bool) : ℝ :=
  if p.2 then -Real.log (max eps (min (1 - eps) p.1)) else -Real.log (1 - max eps (min (1 - eps) p.1))

theorem logLoss_pairs (eps : ℝ) (heps : eps ≤ 1 - eps) (ps : List (ℝ × Bool)) :
    logLoss eps (ps.map Prod.fst) (ps.map Prod.snd) =
      if ps = [] then none else some ((ps.map (nllTerm eps)).sum / (ps.length : ℝ)) := by
  unfold logLoss
  rw [List.zip_map', List.map_id']
  by_cases hp : ps = []
  · subst hp; simp
  · have he : (ps.map Prod.fst).isEmpty = false := by cases ps <;> simp_all
    simp only [he, hp, Bool.false_eq_true, if_false, sumS_eq_sum, List.length_map]
    congr 3
    apply List.map_congr_left
    rintro ⟨v, b⟩ _
    simp only [nllTerm, clampS_eq _ _ _ heps, Transc.ln]

section Pearson

/-- mean of feature `j` -/
noncomputable def colMean (rows : List (List ℝ)) (j : Nat) : ℝ :=
  ((rows.map fun r => r.getD j 0).sum) / (rows.length : ℝ)

/-- co-moment `Σ_k (x_ki - mean_i)(x_kj - mean_j)` of features `i`, `j` -/
noncomputable def coMoment (rows : List (List ℝ)) (i j : Nat) : ℝ :=
  (rows.map fun r => (r.getD i 0 - colMean rows i) * (r.getD j 0 - colMean rows j)).sum

/-- textbook Pearson coefficient: covariance over the product of the standard deviations
(all three with the `n - 1` denominator the code uses) -/
noncomputable def pearsonCoeff (rows : List (List ℝ)) (i j : Nat) : ℝ :=
  coMoment rows i j / ((rows.length - 1 : Nat) : ℝ) /
    Real.sqrt (coMoment rows i i / ((rows.length - 1 : Nat) : ℝ)) /
    Real.sqrt (coMoment rows j j / ((rows.length - 1 : Nat) : ℝ))

theorem sum_centred (rows : List (List ℝ)) (j : Nat) (h : rows ≠ []) :
    (rows.map fun r => r.getD j 0 - colMean rows j).sum = 0 := by
  have hn : (rows.length : ℝ) ≠ 0 := Nat.cast_ne_zero.mpr (mt List.length_eq_zero_iff.mp h)
  have hsub : ∀ (c : ℝ) (l : List (List ℝ)), (l.map fun r => r.getD j 0 - c).sum =
      (l.map fun r => r.getD j 0).sum - (l.length : ℝ) * c := by
    intro c l
    induction l with
    | nil => simp
    | cons x xs ih => simp only [List.map_cons, List.sum_cons, List.length_cons, ih]; push_cast; ring
  rw [hsub, colMean, mul_div_cancel₀ _ hn, sub_self]

theorem coMoment_perm {rows rows' : List (List ℝ)} (h : rows.Perm rows') (i j : Nat) :
    coMoment rows i j = coMoment rows' i j := by
  have hm : ∀ k, colMean rows k = colMean rows' k := by
    intro k; unfold colMean; rw [(h.map _).sum_eq, h.length_eq]
  unfold coMoment
  rw [hm i, hm j]
  exact (h.map _).sum_eq

/-- the centred feature column the code calls `denoised` -/
noncomputable def centred (rows : List (List ℝ)) (j : Nat) : List ℝ :=
  (column rows j).map fun x => x - sumS (column rows j) / ((rows.length : Nat) : ℝ)

/-- `var_axis(0, 1).sqrt()` of one (centred) column: deviations from the column's own mean -/
noncomputable def stdOf (n : Nat) (c : List ℝ) : ℝ :=
  Real.sqrt (sumS (c.map fun x => (x - sumS c / ((n : Nat) : ℝ)) * (x - sumS c / ((n : Nat) : ℝ))) /
    ((n - 1 : Nat) : ℝ))

theorem pearson_unfold (rows : List (List ℝ)) (p : Nat) :
    pearson rows p = (List.range (p - 1)).flatMap fun i =>
      ((List.range p).filter fun j => i < j).map fun j =>
        dotS (((List.range p).map (centred rows)).getD i []) (((List.range p).map (centred rows)).getD j []) /
          ((rows.length - 1 : Nat) : ℝ) /
          (((List.range p).map (centred rows)).map (stdOf rows.length)).getD i 0 /
          (((List.range p).map (centred rows)).map (stdOf rows.length)).getD j 0 := rfl

theorem centred_eq (rows : List (List ℝ)) (j : Nat) :
    centred rows j = rows.map fun r => r.getD j 0 - colMean rows j := by
  simp [centred, column, colMean, sumS_eq_sum, List.map_map, Function.comp_def]

theorem dotS_centred (rows : List (List ℝ)) (i j : Nat) :
    dotS (centred rows i) (centred rows j) = coMoment rows i j := by
  rw [centred_eq, centred_eq, dotS, zipWith_same_map, sumS_eq_sum, coMoment]

/-- the centred column has mean zero, so its `var_axis` is the variance of the feature -/
theorem stdOf_centred (rows : List (List ℝ)) (j : Nat) (h : rows ≠ []) :
    stdOf rows.length (centred rows j) = Real.sqrt (coMoment rows j j / ((rows.length - 1 : Nat) : ℝ)) := by
  unfold stdOf
  have h0 : sumS (centred rows j) = 0 := by rw [centred_eq, sumS_eq_sum, sum_centred rows j h]
  rw [h0, sumS_eq_sum, centred_eq, List.map_map, coMoment]
  simp only [Function.comp_def, zero_div, sub_zero]

theorem pearson_eq_coeff (rows : List (List ℝ)) (p : Nat) (h : rows ≠ []) :
    pearson rows p = (List.range (p - 1)).flatMap fun i =>
      ((List.range p).filter fun j => i < j).map fun j => pearsonCoeff rows i j := by
  rw [pearson_unfold, List.flatMap_def, List.flatMap_def]
  congr 1
  apply List.map_congr_left
  intro i hi
  apply List.map_congr_left
  intro j hj
  have hi' : i < p := by have := List.mem_range.mp hi; omega
  have hj' : j < p := List.mem_range.mp (List.mem_filter.mp hj).1
  rw [getD_map_range _ hi', getD_map_range _ hj', List.map_map,
    getD_map_range _ hi', getD_map_range _ hj']
  simp only [Function.comp_apply]
  rw [dotS_centred, stdOf_centred _ _ h, stdOf_centred _ _ h, pearsonCoeff]

theorem pearsonCoeff_perm {rows rows' : List (List ℝ)} (h : rows.Perm rows') (i j : Nat) :
    pearsonCoeff rows i j = pearsonCoeff rows' i j := by
  unfold pearsonCoeff
  rw [coMoment_perm h i j, coMoment_perm h i i, coMoment_perm h j j, h.length_eq]

end Pearson

end LinfaSpec.Metrics
