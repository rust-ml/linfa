import LinfaSpec.Model.Optics
import Mathlib.Order.Defs.LinearOrder

/-!
Helper lemmas for C08 — OPTICS model (`LinfaSpec.Optics`).

An iteration of the seed loop and the start of a cluster by the outer scan are the same step, `visit`.
`seedLoop_induct` / `run_induct` reduce a property of the whole run to that step; `run_inv` adds the bookkeeping
invariants (`LInv` between outer iterations, `SInv` inside the seed loop), so that an invariant such as `RInv`
needs one lemma about `visit`.
-/
namespace LinfaSpec.Optics

/-! ## the accessors of the `points` vector (no order on `D` involved) -/
section points
variable {D : Type}

theorem coreDist_eq (dist : Nat → Nat → D) (mp i : Nat) (ns : List Nat) : coreDist dist mp i ns = (ns.map (dist i))[mp - 1]? := by
  unfold coreDist
  rw [List.getElem?_map]

theorem getReach_setCore (pts : List (Pt D)) (j k : Nat) (c : Option D) :
    getReach (setCore pts j c) k = getReach pts k := by
  unfold setCore getReach
  split
  · rename_i p hp
    rw [List.getElem?_set]
    split
    · rename_i e
      subst e
      rw [if_pos (List.getElem?_eq_some_iff.mp hp).1, hp]
      rfl
    · rfl
  · rfl

theorem length_setReach (pts : List (Pt D)) (j : Nat) (r : D) : (setReach pts j r).length = pts.length := by
  unfold setReach; split <;> simp

theorem length_setCore (pts : List (Pt D)) (j : Nat) (c : Option D) : (setCore pts j c).length = pts.length := by
  unfold setCore; split <;> simp

theorem getElem?_setReach (pts : List (Pt D)) (j k : Nat) (r : D) :
    (setReach pts j r)[k]? = if j = k then pts[k]?.map fun p => { p with reach := some r } else pts[k]? := by
  unfold setReach
  split
  · rename_i p hp
    rw [List.getElem?_set]
    split
    · rename_i e
      subst e
      rw [if_pos (List.getElem?_eq_some_iff.mp hp).1, hp]
      rfl
    · rfl
  · rename_i hp
    split
    · rename_i e; subst e; rw [hp]; rfl
    · rfl

theorem getReach_setReach (pts : List (Pt D)) (j k : Nat) (r : D) :
    getReach (setReach pts j r) k = if j = k ∧ k < pts.length then some r else getReach pts k := by
  unfold getReach
  rw [getElem?_setReach]
  by_cases e : j = k
  · by_cases h : k < pts.length
    · rw [if_pos e, if_pos ⟨e, h⟩, List.getElem?_eq_getElem h]; rfl
    · rw [if_pos e, if_neg fun a => h a.2, List.getElem?_eq_none (Nat.le_of_not_lt h)]; rfl
  · rw [if_neg e, if_neg fun a => e a.1]

theorem getReach_setReach_self (pts : List (Pt D)) (j : Nat) (r : D) (h : j < pts.length) :
    getReach (setReach pts j r) j = some r := by
  rw [getReach_setReach, if_pos ⟨rfl, h⟩]

theorem getReach_setReach_ne (pts : List (Pt D)) (j k : Nat) (r : D) (h : j ≠ k) :
    getReach (setReach pts j r) k = getReach pts k := by
  rw [getReach_setReach, if_neg fun a => h a.1]

theorem getReach_setReach_cases (pts : List (Pt D)) (j k : Nat) (r r' : D)
    (h : getReach (setReach pts j r) k = some r') : (k = j ∧ r' = r) ∨ getReach pts k = some r' := by
  rw [getReach_setReach] at h
  split at h
  · rename_i e
    exact Or.inl ⟨e.1.symm, (Option.some.inj h).symm⟩
  · exact Or.inr h

theorem setReach_comm (pts : List (Pt D)) (x y : Nat) (a b : D) (h : x ≠ y) :
    setReach (setReach pts x a) y b = setReach (setReach pts y b) x a := by
  apply List.ext_getElem?
  intro k
  simp only [getElem?_setReach]
  by_cases hx : x = k
  · have hy : ¬ y = k := fun hy => h (hx.trans hy.symm)
    simp only [if_pos hx, if_neg hy]
  · by_cases hy : y = k
    · simp only [if_neg hx, if_pos hy]
    · simp only [if_neg hx, if_neg hy]
end points

section structural
variable {D : Type} [LT D] [DecidableLT D]
variable (nbrs : Nat → List Nat) (dist : Nat → Nat → D) (mp : Nat)

/-- sample `j` is listed with core distance `c`: marked processed, its entry appended; `sd` are the seeds left -/
def listed (s : State D) (j : Nat) (c : Option D) (sd : List Nat) : State D :=
  { pts := setCore s.pts j c, processed := s.processed.set j true, seeds := sd,
    out := s.out ++ [{ index := j, core := c, reach := getReach (setCore s.pts j c) j }] }

/-- `get_seeds` for the core sample `j` -/
def relax (j : Nat) (cd : D) (s : State D) : State D :=
  { s with pts := (getSeeds dist j cd (findNeighbors nbrs dist j) s.processed s.pts s.seeds).1,
           seeds := (getSeeds dist j cd (findNeighbors nbrs dist j) s.processed s.pts s.seeds).2 }

/-- an iteration of the seed loop and the start of a cluster by the outer loop are both this step: `j` is listed
and, if it is a core sample, its unprocessed neighbours are relaxed -/
def visit (s : State D) (j : Nat) (sd : List Nat) : State D :=
  let c := coreDist dist mp j (findNeighbors nbrs dist j)
  match c with
  | some cd => relax nbrs dist j cd (listed s j c sd)
  | none => listed s j c sd

theorem seedStep_eq (s : State D)
    (sorted : List Nat) (j0 : Nat) :
    seedStep nbrs dist mp s sorted j0 =
      visit nbrs dist mp s (argminPos s.pts sorted.tail 1 (0, j0)).2
        (sorted.eraseIdx (argminPos s.pts sorted.tail 1 (0, j0)).1) := rfl

theorem outerStep_eq (n : Nat) (s : State D) (i : Nat) :
    outerStep nbrs dist mp n s i =
      if isProcessed s.processed i then s
      else if coreDist dist mp i (findNeighbors nbrs dist i) = none then visit nbrs dist mp s i s.seeds
      else seedLoop nbrs dist mp (n + 1) (visit nbrs dist mp s i []) := by
  unfold outerStep visit
  split
  · rfl
  · dsimp only
    cases coreDist dist mp i (findNeighbors nbrs dist i) <;> rfl

theorem findNeighbors_perm (i : Nat) : (findNeighbors nbrs dist i).Perm (nbrs i) := List.mergeSort_perm _ _

theorem visit_of_none {nbrs : Nat → List Nat} {dist : Nat → Nat → D} {mp j : Nat}
    (hc : coreDist dist mp j (findNeighbors nbrs dist j) = none) (s : State D) (sd : List Nat) :
    visit nbrs dist mp s j sd = listed s j none sd := by
  unfold visit
  rw [hc]

theorem visit_of_some {nbrs : Nat → List Nat} {dist : Nat → Nat → D} {mp j : Nat} {cd : D}
    (hc : coreDist dist mp j (findNeighbors nbrs dist j) = some cd) (s : State D) (sd : List Nat) :
    visit nbrs dist mp s j sd = relax nbrs dist j cd (listed s j (some cd) sd) := by
  unfold visit
  rw [hc]

theorem visit_processed (s : State D) (j : Nat)
    (sd : List Nat) : (visit nbrs dist mp s j sd).processed = s.processed.set j true := by
  unfold visit
  dsimp only
  split <;> rfl

theorem visit_out (s : State D) (j : Nat)
    (sd : List Nat) : (visit nbrs dist mp s j sd).out =
      s.out ++ [{ index := j, core := coreDist dist mp j (findNeighbors nbrs dist j), reach := getReach s.pts j }] := by
  unfold visit listed relax
  simp only [getReach_setCore]
  split <;> rfl

theorem argminPos_spec (pts : List (Pt D)) : ∀ (l : List Nat) (pos : Nat) (best : Nat × Nat),
    argminPos pts l pos best = best ∨
      ∃ k, l[k]? = some (argminPos pts l pos best).2 ∧ (argminPos pts l pos best).1 = pos + k := by
  intro l
  induction l with
  | nil => intro pos best; exact Or.inl rfl
  | cons j rest ih =>
    intro pos best
    unfold argminPos
    rcases ih (pos + 1) (if optLt (getReach pts j) (getReach pts best.2) then (pos, j) else best) with h | ⟨k, h1, h2⟩
    · rw [h]
      split
      · exact Or.inr ⟨0, rfl, rfl⟩
      · exact Or.inl rfl
    · exact Or.inr ⟨k + 1, h1, by rw [h2]; omega⟩

theorem argminPos_sel (pts : List (Pt D)) (j0 : Nat) (rest : List Nat) :
    (j0 :: rest)[(argminPos pts rest 1 (0, j0)).1]? = some (argminPos pts rest 1 (0, j0)).2 := by
  rcases argminPos_spec pts rest 1 (0, j0) with e | ⟨k, k1, k2⟩
  · rw [e]; rfl
  · rw [k2, Nat.add_comm]; exact k1

/-- induction over the seed loop: every iteration visits a member of the seed list, the others stay -/
theorem seedLoop_induct (P : State D → Prop)
    (hseed : ∀ s (sorted : List Nat) pos j, P s → sorted.Perm s.seeds → sorted[pos]? = some j →
      P (visit nbrs dist mp s j (sorted.eraseIdx pos))) :
    ∀ fuel s, P s → P (seedLoop nbrs dist mp fuel s) := by
  intro fuel
  induction fuel with
  | zero => exact fun s h => h
  | succ fuel ih =>
    intro s h
    unfold seedLoop
    split
    · exact h
    · rename_i j0 rest hs
      rw [seedStep_eq]
      exact ih _ (hseed s _ _ _ h (hs ▸ List.mergeSort_perm _ _) (argminPos_sel s.pts j0 rest))

/-- induction over the outer scan, `Q` between its iterations and `P` inside the seed loop: a core sample not yet
processed starts a seed loop from an empty seed list, any other is listed and that is all -/
theorem run_induct (n : Nat) (P Q : State D → Prop)
    (hseed : ∀ s (sorted : List Nat) pos j, P s → sorted.Perm s.seeds → sorted[pos]? = some j →
      P (visit nbrs dist mp s j (sorted.eraseIdx pos)))
    (hend : ∀ s, P s → Q s) (l : List Nat)
    (hcore : ∀ s, ∀ i ∈ l, Q s → isProcessed s.processed i = false → P (visit nbrs dist mp s i []))
    (hnone : ∀ s, ∀ i ∈ l, Q s → isProcessed s.processed i = false →
      coreDist dist mp i (findNeighbors nbrs dist i) = none → Q (visit nbrs dist mp s i s.seeds)) :
    ∀ s, Q s → Q (l.foldl (outerStep nbrs dist mp n) s) := by
  induction l with
  | nil => exact fun s h => h
  | cons i l ih =>
    intro s h
    refine ih (fun s i hi => hcore s i (List.mem_cons_of_mem _ hi))
      (fun s i hi => hnone s i (List.mem_cons_of_mem _ hi)) _ ?_
    rw [outerStep_eq]
    split
    · exact h
    · rename_i hp
      have hp := Bool.eq_false_iff.mpr hp
      split
      · rename_i hc
        exact hnone s i List.mem_cons_self h hp hc
      · exact hend _ (seedLoop_induct nbrs dist mp P hseed _ _ (hcore s i List.mem_cons_self h hp))

/-- every listed entry carries `set_core_distance` of its own sorted neighbour list -/
def CoreOK (nbrs : Nat → List Nat) (dist : Nat → Nat → D) (mp : Nat) (out : List (Entry D)) : Prop :=
  ∀ e ∈ out, e.core = coreDist dist mp e.index (findNeighbors nbrs dist e.index)

theorem visit_CoreOK (s : State D) (j : Nat)
    (sd : List Nat) (h : CoreOK nbrs dist mp s.out) : CoreOK nbrs dist mp (visit nbrs dist mp s j sd).out := by
  intro e he
  rw [visit_out] at he
  rcases List.mem_append.mp he with a | a
  · exact h e a
  · rw [List.mem_singleton.mp a]

theorem foldl_CoreOK (n : Nat) (l : List Nat) :
    CoreOK nbrs dist mp (l.foldl (outerStep nbrs dist mp n) (init n)).out :=
  run_induct nbrs dist mp n (fun s => CoreOK nbrs dist mp s.out) (fun s => CoreOK nbrs dist mp s.out)
    (hseed := fun s _ _ j h _ _ => visit_CoreOK nbrs dist mp s j _ h) (hend := fun _ h => h) l
    (hcore := fun s i _ h _ => visit_CoreOK nbrs dist mp s i _ h)
    (hnone := fun s i _ h _ _ => visit_CoreOK nbrs dist mp s i _ h) _ (fun _ he => nomatch he)

end structural

section order
variable {D : Type} [LinearOrder D]

theorem findNeighbors_sorted (nbrs : Nat → List Nat) (dist : Nat → Nat → D) (i : Nat) :
    ((findNeighbors nbrs dist i).map (dist i)).Pairwise (· ≤ ·) := by
  rw [List.pairwise_map]
  have := List.pairwise_mergeSort (le := fun a b => !(decide (dist i b < dist i a)))
    (by
      intro a b c h1 h2
      simp only [Bool.not_eq_true', decide_eq_false_iff_not, not_lt] at h1 h2 ⊢
      exact le_trans h1 h2)
    (by
      intro a b
      simp only [Bool.or_eq_true, Bool.not_eq_true', decide_eq_false_iff_not, not_lt]
      exact le_total _ _)
    (nbrs i)
  refine List.Pairwise.imp ?_ this
  intro a b h
  simpa using h

/-- the sorted list of in-range distances does not depend on the order of the query result -/
theorem sorted_dists_unique (nbrs nbrs' : Nat → List Nat) (dist : Nat → Nat → D) (i : Nat)
    (h : (nbrs i).Perm (nbrs' i)) :
    (findNeighbors nbrs dist i).map (dist i) = (findNeighbors nbrs' dist i).map (dist i) := by
  apply List.Perm.eq_of_pairwise (le := (· ≤ ·))
  · intro a b _ _ h1 h2; exact le_antisymm h1 h2
  · exact findNeighbors_sorted nbrs dist i
  · exact findNeighbors_sorted nbrs' dist i
  · exact ((findNeighbors_perm nbrs dist i).trans (h.trans (findNeighbors_perm nbrs' dist i).symm)).map _

theorem coreDist_congr (nbrs nbrs' : Nat → List Nat) (dist : Nat → Nat → D) (mp i : Nat)
    (h : (nbrs i).Perm (nbrs' i)) :
    coreDist dist mp i (findNeighbors nbrs dist i) = coreDist dist mp i (findNeighbors nbrs' dist i) := by
  rw [coreDist_eq, coreDist_eq, sorted_dists_unique nbrs nbrs' dist i h]

end order

/-! ## every sample is listed exactly once -/
section once
variable {D : Type} [LT D] [DecidableLT D]

/-- the update of `points[j]` inside `get_seeds` -/
def ptsStep (dist : Nat → Nat → D) (i : Nat) (c : D) (pts : List (Pt D)) (j : Nat) : List (Pt D) :=
  match getReach pts j with
  | none => setReach pts j (fmax c (dist j i))
  | some s => if fmax c (dist j i) < s then setReach pts j (fmax c (dist j i)) else pts

def seedsFold (dist : Nat → Nat → D) (i : Nat) (c : D) (ps : List (Pt D) × List Nat) (j : Nat) :
    List (Pt D) × List Nat :=
  let r := fmax c (dist j i)
  match getReach ps.1 j with
  | none => (setReach ps.1 j r, ps.2 ++ [j])
  | some s => if r < s then (setReach ps.1 j r, ps.2) else ps

theorem getSeeds_eq_fold (dist : Nat → Nat → D) (i : Nat) (c : D) (ns : List Nat) (processed : List Bool)
    (pts : List (Pt D)) (seeds : List Nat) :
    getSeeds dist i c ns processed pts seeds =
      (ns.filter fun j => !isProcessed processed j).foldl (seedsFold dist i c) (pts, seeds) := rfl

theorem seedsFold_fst (dist : Nat → Nat → D) (i : Nat) (c : D) (ps : List (Pt D) × List Nat) (j : Nat) :
    (seedsFold dist i c ps j).1 = ptsStep dist i c ps.1 j := by
  unfold seedsFold ptsStep
  dsimp only
  split
  · rfl
  · split <;> rfl

theorem seedsFold_snd (dist : Nat → Nat → D) (i : Nat) (c : D) (ps : List (Pt D) × List Nat) (j : Nat) :
    (seedsFold dist i c ps j).2 = if getReach ps.1 j = none then ps.2 ++ [j] else ps.2 := by
  unfold seedsFold
  dsimp only
  cases getReach ps.1 j with
  | none => rfl
  | some s => dsimp only; rw [if_neg (Option.some_ne_none s)]; split <;> rfl

theorem ptsStep_eq (dist : Nat → Nat → D) (i : Nat) (c : D) (pts : List (Pt D)) (j : Nat) :
    ptsStep dist i c pts j =
      if (getReach pts j).all fun s => decide (fmax c (dist j i) < s) then setReach pts j (fmax c (dist j i))
      else pts := by
  unfold ptsStep
  cases getReach pts j <;> simp

theorem length_ptsStep (dist : Nat → Nat → D) (i : Nat) (c : D) (pts : List (Pt D)) (j : Nat) :
    (ptsStep dist i c pts j).length = pts.length := by
  rw [ptsStep_eq]
  split
  · exact length_setReach ..
  · rfl

theorem getReach_ptsStep_ne (dist : Nat → Nat → D) (i : Nat) (c : D) (pts : List (Pt D)) {x y : Nat}
    (h : x ≠ y) : getReach (ptsStep dist i c pts x) y = getReach pts y := by
  rw [ptsStep_eq]
  split
  · exact getReach_setReach_ne pts x y _ h
  · rfl

theorem getReach_ptsStep_self (dist : Nat → Nat → D) (i : Nat) (c : D) (pts : List (Pt D)) {j : Nat}
    (h : j < pts.length) : getReach (ptsStep dist i c pts j) j ≠ none := by
  rw [ptsStep_eq]
  split
  · rw [getReach_setReach_self pts j _ h]; exact Option.some_ne_none _
  · rename_i hn
    intro e
    rw [e] at hn
    exact hn rfl

theorem isProcessed_set (p : List Bool) (j k : Nat) :
    isProcessed (p.set j true) k = true ↔ ((k = j ∧ j < p.length) ∨ isProcessed p k = true) := by
  unfold isProcessed
  rw [List.getElem?_set]
  by_cases e : j = k
  · subst e
    by_cases h : j < p.length <;> simp [h]
  · have e' : k ≠ j := fun x => e x.symm
    simp [e, e']

theorem isProcessed_set_ne (p : List Bool) {j k : Nat} (b : Bool) (h : j ≠ k) :
    isProcessed (p.set j b) k = isProcessed p k := by
  unfold isProcessed
  rw [List.getElem?_set_ne h]

theorem isProcessed_lt {p : List Bool} {j : Nat} (h : isProcessed p j = true) : j < p.length := by
  unfold isProcessed at h
  cases hg : p[j]? with
  | none => rw [hg] at h; cases h
  | some b => exact (List.getElem?_eq_some_iff.mp hg).1

theorem not_mem_eraseIdx_of_nodup {l : List Nat} {pos j : Nat} (hnd : l.Nodup) (h : l[pos]? = some j) :
    j ∉ l.eraseIdx pos := by
  intro hm
  obtain ⟨k, hk, e⟩ := List.mem_eraseIdx_iff_getElem?.mp hm
  exact hk ((List.getElem?_inj (List.getElem?_eq_some_iff.mp e).1 hnd).mp (e.trans h.symm))

/-- outer-loop part: listed ⇔ processed, nothing listed twice -/
structure LInv (n : Nat) (s : State D) : Prop where
  plen : s.processed.length = n
  ptlen : s.pts.length = n
  nd : (s.out.map (·.index)).Nodup
  mem : ∀ j, j ∈ s.out.map (·.index) ↔ isProcessed s.processed j = true

/-- seed-loop part: seeds are distinct, unprocessed and have a defined reachability -/
structure SInv (n : Nat) (s : State D) : Prop extends LInv n s where
  snd : s.seeds.Nodup
  sok : ∀ j ∈ s.seeds, isProcessed s.processed j = false ∧ j < n ∧ getReach s.pts j ≠ none

/-- the part of `SInv` that `get_seeds` works on: points and seed list, against a fixed processed set -/
def SeedsOK (n : Nat) (processed : List Bool) (ps : List (Pt D) × List Nat) : Prop :=
  ps.1.length = n ∧ ps.2.Nodup ∧
    ∀ k ∈ ps.2, isProcessed processed k = false ∧ k < n ∧ getReach ps.1 k ≠ none

theorem seedsFold_SeedsOK (n : Nat) (dist : Nat → Nat → D) (i : Nat) (c : D) (processed : List Bool)
    (ps : List (Pt D) × List Nat) (j : Nat) (hj : j < n) (hjp : isProcessed processed j = false)
    (h : SeedsOK n processed ps) : SeedsOK n processed (seedsFold dist i c ps j) := by
  obtain ⟨h1, h2, h3⟩ := h
  have keep : ∀ k, k < n → (getReach ps.1 k ≠ none ∨ k = j) →
      getReach (ptsStep dist i c ps.1 j) k ≠ none := by
    intro k hk hor
    by_cases e : j = k
    · subst e; exact getReach_ptsStep_self dist i c ps.1 (h1 ▸ hk)
    · rw [getReach_ptsStep_ne dist i c ps.1 e]; exact hor.resolve_right fun e' => e e'.symm
  rw [SeedsOK, seedsFold_fst, seedsFold_snd]
  refine ⟨by rw [length_ptsStep, h1], ?_, fun k hk => ?_⟩
  · split
    · rename_i hn
      refine List.nodup_append.mpr ⟨h2, List.pairwise_singleton _ j, fun a ha b hb => ?_⟩
      rw [List.mem_singleton.mp hb]
      rintro rfl
      exact (h3 a ha).2.2 hn
    · exact h2
  · have hk' : k ∈ ps.2 ∨ k = j := by
      split at hk
      · exact (List.mem_append.mp hk).imp_right List.mem_singleton.mp
      · exact Or.inl hk
    rcases hk' with a | rfl
    · exact ⟨(h3 k a).1, (h3 k a).2.1, keep k (h3 k a).2.1 (Or.inl (h3 k a).2.2)⟩
    · exact ⟨hjp, hj, keep k hj (Or.inr rfl)⟩

omit [LT D] [DecidableLT D] in
theorem LInv_listed (n : Nat) (s : State D) (h : LInv n s) (j : Nat) (hj : isProcessed s.processed j = false)
    (hjn : j < n) (c : Option D) (sd : List Nat) : LInv n (listed s j c sd) := by
  have hjo : j ∉ s.out.map (·.index) := by
    intro hm; rw [h.mem j, hj] at hm; exact absurd hm (by simp)
  refine ⟨by simp [listed, h.plen], (length_setCore ..).trans h.ptlen, ?_, ?_⟩
  · simp only [listed, List.map_append, List.map_cons, List.map_nil]
    refine List.nodup_append.mpr ⟨h.nd, List.pairwise_singleton _ j, fun a ha b hb => ?_⟩
    rw [List.mem_singleton.mp hb]
    rintro rfl
    exact hjo ha
  · intro k
    simp only [listed, List.map_append, List.map_cons, List.map_nil, List.mem_append, List.mem_singleton]
    rw [isProcessed_set, h.mem k, h.plen]
    constructor
    · rintro (a | a)
      · exact Or.inr a
      · exact Or.inl ⟨a, hjn⟩
    · rintro (a | a)
      · exact Or.inr a.1
      · exact Or.inl a

theorem getSeeds_SInv (n : Nat) (nbrs : Nat → List Nat) (dist : Nat → Nat → D)
    (hrange : ∀ i, ∀ j ∈ nbrs i, j < n) (j : Nat) (cd : D)
    (s : State D) (h : SInv n s) :
    SInv n (relax nbrs dist j cd s) := by
  have fold : ∀ (l : List Nat), (∀ k ∈ l, k < n ∧ isProcessed s.processed k = false) →
      ∀ ps, SeedsOK n s.processed ps → SeedsOK n s.processed (l.foldl (seedsFold dist j cd) ps) := by
    intro l
    induction l with
    | nil => exact fun _ _ h => h
    | cons k l ih =>
      exact fun hl ps h => ih (fun k hk => hl k (List.mem_cons_of_mem _ hk)) _
        (seedsFold_SeedsOK n dist j cd s.processed ps k (hl k List.mem_cons_self).1 (hl k List.mem_cons_self).2 h)
  have hl : ∀ k ∈ (findNeighbors nbrs dist j).filter (fun k => !isProcessed s.processed k),
      k < n ∧ isProcessed s.processed k = false := by
    intro k hk
    simp only [List.mem_filter, Bool.not_eq_true'] at hk
    exact ⟨hrange j k ((findNeighbors_perm nbrs dist j).subset hk.1), hk.2⟩
  obtain ⟨a, b, c⟩ := fold _ hl (s.pts, s.seeds) ⟨h.ptlen, h.snd, h.sok⟩
  exact ⟨⟨h.plen, a, h.nd, h.mem⟩, b, c⟩

/-- listing an unprocessed sample `j` with pending seeds `sd` (distinct, unprocessed, other than `j`) -/
theorem visit_SInv (n : Nat) (nbrs : Nat → List Nat) (dist : Nat → Nat → D) (mp : Nat)
    (hrange : ∀ i, ∀ j ∈ nbrs i, j < n) (s : State D) (h : LInv n s) (j : Nat)
    (hj : isProcessed s.processed j = false) (hjn : j < n) (sd : List Nat) (hnd : sd.Nodup)
    (hsd : ∀ k ∈ sd, k ≠ j ∧ isProcessed s.processed k = false ∧ k < n ∧ getReach s.pts k ≠ none) :
    SInv n (visit nbrs dist mp s j sd) := by
  have base : ∀ c : Option D, SInv n (listed s j c sd) := fun c =>
    ⟨LInv_listed n s h j hj hjn c sd, hnd, fun k hk => by
      obtain ⟨k1, k2, k3, k4⟩ := hsd k hk
      exact ⟨(isProcessed_set_ne _ _ (Ne.symm k1)).trans k2, k3, (getReach_setCore ..).symm ▸ k4⟩⟩
  cases hc : coreDist dist mp j (findNeighbors nbrs dist j) with
  | none => rw [visit_of_none hc]; exact base none
  | some cd => rw [visit_of_some hc]; exact getSeeds_SInv n nbrs dist hrange j cd _ (base (some cd))

theorem visit_seed_SInv (n : Nat) (nbrs : Nat → List Nat) (dist : Nat → Nat → D) (mp : Nat)
    (hrange : ∀ i, ∀ j ∈ nbrs i, j < n) (s : State D) (h : SInv n s) (sorted : List Nat) (pos j : Nat)
    (hperm : sorted.Perm s.seeds) (hsel : sorted[pos]? = some j) :
    SInv n (visit nbrs dist mp s j (sorted.eraseIdx pos)) := by
  have hnd : sorted.Nodup := hperm.nodup_iff.mpr h.snd
  obtain ⟨hjp, hjn, _⟩ := h.sok j (hperm.subset (List.mem_of_getElem? hsel))
  refine visit_SInv n nbrs dist mp hrange s h.toLInv j hjp hjn _ (hnd.sublist (List.eraseIdx_sublist ..)) ?_
  intro k hk
  refine ⟨fun e => not_mem_eraseIdx_of_nodup hnd hsel (e ▸ hk), ?_⟩
  exact h.sok k (hperm.subset (List.mem_of_mem_eraseIdx hk))

omit [LT D] [DecidableLT D] in
theorem LInv_init (n : Nat) : LInv n (init n : State D) := by
  refine ⟨List.length_replicate, List.length_replicate, List.nodup_nil, fun j => ?_⟩
  simp only [init, List.map_nil, List.not_mem_nil, false_iff, isProcessed, List.getElem?_replicate]
  split <;> simp

/-- the invariants of the run, with any property `P` that every visit of an unprocessed sample keeps:
`LInv` between the iterations of the outer scan, `SInv` inside the seed loop -/
theorem run_inv (n : Nat) (nbrs : Nat → List Nat) (dist : Nat → Nat → D) (mp : Nat)
    (hrange : ∀ i, ∀ j ∈ nbrs i, j < n) (P : State D → Prop)
    (hvisit : ∀ s j sd, isProcessed s.processed j = false → P s → P (visit nbrs dist mp s j sd))
    (hinit : P (init n)) (k : Nat) (hk : k ≤ n) :
    LInv n ((List.range k).foldl (outerStep nbrs dist mp n) (init n)) ∧
      P ((List.range k).foldl (outerStep nbrs dist mp n) (init n)) :=
  run_induct nbrs dist mp n (fun s => SInv n s ∧ P s) (fun s => LInv n s ∧ P s)
    (hseed := fun s sorted pos j h hp hs =>
      ⟨visit_seed_SInv n nbrs dist mp hrange s h.1 sorted pos j hp hs,
        hvisit s j _ (h.1.sok j (hp.subset (List.mem_of_getElem? hs))).1 h.2⟩)
    (hend := fun _ h => ⟨h.1.toLInv, h.2⟩) (List.range k)
    (hcore := fun s i hi h hp =>
      ⟨visit_SInv n nbrs dist mp hrange s h.1 i hp (by have := List.mem_range.mp hi; omega) [] List.nodup_nil
        (fun _ hk => nomatch hk), hvisit s i _ hp h.2⟩)
    (hnone := fun s i hi h hp hc =>
      ⟨by rw [visit_of_none hc]
          exact LInv_listed n s h.1 i hp (by have := List.mem_range.mp hi; omega) _ _,
        hvisit s i _ hp h.2⟩)
    _ ⟨LInv_init n, hinit⟩

theorem foldl_LInv (n : Nat) (nbrs : Nat → List Nat) (dist : Nat → Nat → D) (mp : Nat)
    (hrange : ∀ i, ∀ j ∈ nbrs i, j < n) (k : Nat) (hk : k ≤ n) :
    LInv n ((List.range k).foldl (outerStep nbrs dist mp n) (init n)) :=
  (run_inv n nbrs dist mp hrange (fun _ => True) (fun _ _ _ _ _ => trivial) trivial k hk).1

theorem visit_mono (nbrs : Nat → List Nat) (dist : Nat → Nat → D) (mp : Nat) (s : State D) (j : Nat)
    (sd : List Nat) (k : Nat) (h : isProcessed s.processed k = true) :
    isProcessed (visit nbrs dist mp s j sd).processed k = true := by
  rw [visit_processed]
  exact (isProcessed_set _ _ _).mpr (Or.inr h)

theorem foldl_mono (nbrs : Nat → List Nat) (dist : Nat → Nat → D) (mp n k : Nat) (l : List Nat) :
    ∀ s : State D, isProcessed s.processed k = true →
      isProcessed (l.foldl (outerStep nbrs dist mp n) s).processed k = true :=
  run_induct nbrs dist mp n (fun s => isProcessed s.processed k = true) (fun s => isProcessed s.processed k = true)
    (fun s _ _ j h _ _ => visit_mono nbrs dist mp s j _ k h) (fun _ h => h) l
    (fun s i _ h _ => visit_mono nbrs dist mp s i _ k h) (fun s i _ h _ _ => visit_mono nbrs dist mp s i _ k h)

theorem outerStep_self (nbrs : Nat → List Nat) (dist : Nat → Nat → D) (mp n : Nat) (s : State D) (i : Nat)
    (hi : i < s.processed.length) : isProcessed (outerStep nbrs dist mp n s i).processed i = true := by
  have hv : ∀ sd, isProcessed (visit nbrs dist mp s i sd).processed i = true := fun sd => by
    rw [visit_processed]; exact (isProcessed_set _ _ _).mpr (Or.inl ⟨rfl, hi⟩)
  rw [outerStep_eq]
  split
  · assumption
  · split
    · exact hv _
    · exact seedLoop_induct nbrs dist mp (fun s => isProcessed s.processed i = true)
        (fun s _ _ j h _ _ => visit_mono nbrs dist mp s j _ i h) _ _ (hv [])

theorem foldl_processed (n : Nat) (nbrs : Nat → List Nat) (dist : Nat → Nat → D) (mp : Nat)
    (hrange : ∀ i, ∀ j ∈ nbrs i, j < n) :
    ∀ k, k ≤ n → ∀ j, j < k →
      isProcessed ((List.range k).foldl (outerStep nbrs dist mp n) (init n)).processed j = true := by
  intro k
  induction k with
  | zero => intro _ j hj; omega
  | succ k ih =>
    intro hk j hj
    rw [List.range_succ, List.foldl_append]
    by_cases e : j = k
    · subst e
      exact outerStep_self nbrs dist mp n _ j (by rw [(foldl_LInv n nbrs dist mp hrange j (by omega)).plen]; omega)
    · exact foldl_mono nbrs dist mp n j [k] _ (ih (by omega) j (by omega))

/-! ### the fuel of the seed loop is never the reason it stops

Measure: the number of samples listed so far.  While a seed is waiting, fewer than `n` samples are listed
(the seed is unprocessed, hence not listed, and the listed positions are distinct positions below `n`);
every iteration lists one more. -/

set_option linter.unusedSectionVars false in
/-- while a seed is waiting, fewer than `n` samples are listed -/
theorem SInv_out_lt (n : Nat) (s : State D) (h : SInv n s) (j : Nat) (hj : j ∈ s.seeds) :
    s.out.length < n := by
  obtain ⟨hp, hjn, _⟩ := h.sok j hj
  have hnot : j ∉ s.out.map (·.index) := by
    intro hm; rw [h.mem j, hp] at hm; cases hm
  -- `j` and the listed positions are distinct positions below `n`
  have := (List.nodup_cons.mpr ⟨hnot, h.nd⟩).length_le_of_subset (l₂ := List.range n) (by
    intro x hx
    rcases List.mem_cons.mp hx with e | e
    · exact List.mem_range.mpr (e ▸ hjn)
    · exact List.mem_range.mpr (h.plen ▸ isProcessed_lt ((h.mem x).mp e)))
  simpa [Nat.lt_iff_add_one_le] using this

section fuel
variable (n : Nat) (nbrs : Nat → List Nat) (dist : Nat → Nat → D) (mp : Nat)
  (hrange : ∀ i, ∀ j ∈ nbrs i, j < n)
include hrange

theorem seedStep_SInv (s : State D) (h : SInv n s) (j0 : Nat) (rest : List Nat)
    (hs : s.seeds.mergeSort (fun a b => decide (b ≤ a)) = j0 :: rest) :
    SInv n (seedStep nbrs dist mp s (j0 :: rest) j0) ∧
      (seedStep nbrs dist mp s (j0 :: rest) j0).out.length = s.out.length + 1 := by
  rw [seedStep_eq, visit_out, List.length_append]
  exact ⟨visit_seed_SInv n nbrs dist mp hrange s h _ _ _ (hs ▸ List.mergeSort_perm _ _) (argminPos_sel s.pts j0 rest),
    rfl⟩

/-- **the seed loop ends because the seed list is empty**, whenever the fuel covers the samples not yet
listed (`n ≤ listed + fuel`) -/
theorem seedLoop_seeds_empty :
    ∀ fuel (s : State D), SInv n s → n ≤ s.out.length + fuel →
      (seedLoop nbrs dist mp fuel s).seeds = [] := by
  intro fuel
  induction fuel with
  | zero =>
    intro s h hn
    refine List.eq_nil_iff_forall_not_mem.mpr fun j hj => ?_
    have := SInv_out_lt n s h j hj
    omega
  | succ fuel ih =>
    intro s h hn
    unfold seedLoop
    split
    · rename_i hs
      exact List.nil_perm.mp (hs ▸ List.mergeSort_perm s.seeds _)
    · rename_i j0 rest hs
      obtain ⟨h', hl⟩ := seedStep_SInv n nbrs dist mp hrange s h j0 rest hs
      exact ih _ h' (by omega)

theorem seedLoop_fuel_irrelevant :
    ∀ fuel (s : State D), SInv n s → n ≤ s.out.length + fuel →
      seedLoop nbrs dist mp (fuel + 1) s = seedLoop nbrs dist mp fuel s := by
  intro fuel
  induction fuel with
  | zero =>
    intro s h hn
    have he : s.seeds = [] := seedLoop_seeds_empty n nbrs dist mp hrange 0 s h hn
    unfold seedLoop
    rw [he, List.mergeSort_nil]
  | succ fuel ih =>
    intro s h hn
    rw [seedLoop.eq_2 nbrs dist mp s (fuel + 1), seedLoop.eq_2 nbrs dist mp s fuel]
    split
    · rfl
    · rename_i j0 rest hs
      obtain ⟨h', hl⟩ := seedStep_SInv n nbrs dist mp hrange s h j0 rest hs
      exact ih _ h' (by omega)

/-- between the iterations of the outer scan the seed list is empty: the seed loop it starts runs to its end -/
theorem foldl_seeds_empty :
    ∀ k, k ≤ n → ((List.range k).foldl (outerStep nbrs dist mp n) (init n)).seeds = [] := by
  intro k
  induction k with
  | zero => intro _; rfl
  | succ k ih =>
    intro hk
    have hL := foldl_LInv n nbrs dist mp hrange k (by omega)
    rw [List.range_succ, List.foldl_append, List.foldl_cons, List.foldl_nil, outerStep_eq]
    split
    · exact ih (by omega)
    · rename_i hp
      split
      · rename_i hc
        rw [visit_of_none hc]
        exact ih (by omega)
      · exact seedLoop_seeds_empty n nbrs dist mp hrange (n + 1) _
          (visit_SInv n nbrs dist mp hrange _ hL k (Bool.eq_false_iff.mpr hp) (by omega) [] List.nodup_nil
            (fun _ h => nomatch h)) (by omega)

end fuel

end once
/-! ## reachability: every defined reachability has a core witness listed earlier -/
section reach
variable {D : Type} [LT D] [DecidableLT D]

/-- `r` is explained by a core sample listed in `out` that has `x` in range:
`r = max(core(o), dist(x, o))` -/
def Wit (nbrs : Nat → List Nat) (dist : Nat → Nat → D) (out : List (Entry D)) (x : Nat) (r : D) : Prop :=
  ∃ o ∈ out, ∃ c, o.core = some c ∧ x ∈ nbrs o.index ∧ r = fmax c (dist x o.index)

theorem Wit_append (nbrs : Nat → List Nat) (dist : Nat → Nat → D) (out : List (Entry D)) (x : Nat) (r : D)
    (e : Entry D) (h : Wit nbrs dist out x r) : Wit nbrs dist (out ++ [e]) x r := by
  obtain ⟨o, ho, c, h1, h2, h3⟩ := h
  exact ⟨o, List.mem_append_left _ ho, c, h1, h2, h3⟩

/-- `listed`: a listed sample's reachability is explained by the entries *before* it;
`pend`: the provisional reachability of a sample not yet processed is explained by the entries so far -/
structure RInv (nbrs : Nat → List Nat) (dist : Nat → Nat → D) (s : State D) : Prop where
  listed : ∀ p e, s.out[p]? = some e → ∀ r, e.reach = some r → Wit nbrs dist (s.out.take p) e.index r
  pend : ∀ j, isProcessed s.processed j = false → ∀ r, getReach s.pts j = some r → Wit nbrs dist s.out j r

theorem RInv_list (nbrs : Nat → List Nat) (dist : Nat → Nat → D) (s : State D) (h : RInv nbrs dist s)
    (j : Nat) (hj : isProcessed s.processed j = false) (pts' : List (Pt D))
    (hp : ∀ k, getReach pts' k = getReach s.pts k) (sd : List Nat) (c : Option D) :
    RInv nbrs dist { pts := pts', processed := s.processed.set j true, seeds := sd,
                     out := s.out ++ [{ index := j, core := c, reach := getReach pts' j }] } := by
  constructor
  · intro p e he r hr
    simp only at he ⊢
    rcases Nat.lt_trichotomy p s.out.length with hlt | heq | hgt
    · rw [List.getElem?_append_left hlt] at he
      rw [List.take_append_of_le_length (Nat.le_of_lt hlt)]
      exact h.listed p e he r hr
    · subst heq
      rw [List.getElem?_append_right (Nat.le_refl _)] at he
      simp at he
      subst he
      simp only at hr ⊢
      rw [List.take_append_of_le_length (Nat.le_refl _), List.take_length]
      rw [hp j] at hr
      exact h.pend j hj r hr
    · rw [List.getElem?_eq_none (by simp; omega)] at he
      exact absurd he (by simp)
  · intro k hk r hr
    simp only at hk hr ⊢
    apply Wit_append
    apply h.pend k _ r (by rw [← hp k]; exact hr)
    cases hb : isProcessed s.processed k
    · rfl
    · rw [(isProcessed_set _ _ _).mpr (Or.inr hb)] at hk
      exact absurd hk (by simp)

theorem getSeeds_pend (nbrs : Nat → List Nat) (dist : Nat → Nat → D) (i : Nat) (c : D)
    (processed : List Bool)
    (out : List (Entry D)) (eo : Entry D) (heo : eo ∈ out) (hei : eo.index = i) (hec : eo.core = some c) :
    ∀ (l : List Nat), (∀ j ∈ l, j ∈ nbrs i) →
    ∀ (ps : List (Pt D) × List Nat),
      (∀ k, isProcessed processed k = false → ∀ r, getReach ps.1 k = some r → Wit nbrs dist out k r) →
      let res := l.foldl (fun (ps : List (Pt D) × List Nat) j =>
          let r := fmax c (dist j i)
          match getReach ps.1 j with
          | none => (setReach ps.1 j r, ps.2 ++ [j])
          | some s => if r < s then (setReach ps.1 j r, ps.2) else ps) ps
      ∀ k, isProcessed processed k = false → ∀ r, getReach res.1 k = some r → Wit nbrs dist out k r := by
  intro l
  induction l with
  | nil => intro _ ps h; exact h
  | cons j l ih =>
    intro hl ps h
    simp only [List.foldl_cons]
    apply ih (fun k hk => hl k (List.mem_cons_of_mem _ hk))
    have hj : j ∈ nbrs i := hl j (List.mem_cons_self ..)
    have hset : ∀ k, isProcessed processed k = false → ∀ r,
        getReach (setReach ps.1 j (fmax c (dist j i))) k = some r → Wit nbrs dist out k r := by
      intro k hkp r hk
      rcases getReach_setReach_cases _ _ _ _ _ hk with ⟨e1, e2⟩ | e
      · subst e1; subst e2
        exact ⟨eo, heo, c, hec, by rw [hei]; exact hj, by rw [hei]⟩
      · exact h k hkp r e
    split
    · exact hset
    · split
      · exact hset
      · exact h

/-- `get_seeds` for the sample `j` just listed (last entry of `out`, core distance `cd`) keeps `RInv` -/
theorem getSeeds_RInv (nbrs : Nat → List Nat) (dist : Nat → Nat → D) (j : Nat) (cd : D)
    (s : State D) (h : RInv nbrs dist s)
    (hlast : ∃ eo ∈ s.out, eo.index = j ∧ eo.core = some cd) :
    RInv nbrs dist (relax nbrs dist j cd s) := by
  obtain ⟨eo, heo, hei, hec⟩ := hlast
  refine ⟨h.listed, ?_⟩
  have hl : ∀ k ∈ (findNeighbors nbrs dist j).filter (fun k => !isProcessed s.processed k), k ∈ nbrs j := by
    intro k hk
    exact (findNeighbors_perm nbrs dist j).subset (List.mem_filter.mp hk).1
  exact getSeeds_pend nbrs dist j cd s.processed s.out eo heo hei hec _ hl (s.pts, s.seeds) h.pend

theorem visit_RInv (nbrs : Nat → List Nat) (dist : Nat → Nat → D) (mp : Nat) (s : State D)
    (j : Nat) (sd : List Nat) (hj : isProcessed s.processed j = false) (hr : RInv nbrs dist s) :
    RInv nbrs dist (visit nbrs dist mp s j sd) := by
  have base : ∀ c : Option D, RInv nbrs dist (listed s j c sd) := fun c => RInv_list nbrs dist s hr j hj _ (fun k => getReach_setCore s.pts j k c) _ c
  cases hc : coreDist dist mp j (findNeighbors nbrs dist j) with
  | none => rw [visit_of_none hc]; exact base none
  | some cd =>
    rw [visit_of_some hc]
    exact getSeeds_RInv nbrs dist j cd _ (base (some cd))
      ⟨_, List.mem_append_right _ (List.mem_singleton_self _), rfl, rfl⟩

theorem foldl_RInv (n : Nat) (nbrs : Nat → List Nat) (dist : Nat → Nat → D) (mp : Nat)
    (hrange : ∀ i, ∀ j ∈ nbrs i, j < n) (k : Nat) (hk : k ≤ n) :
    RInv nbrs dist ((List.range k).foldl (outerStep nbrs dist mp n) (init n)) := by
  refine (run_inv n nbrs dist mp hrange (RInv nbrs dist) (visit_RInv nbrs dist mp) ⟨?_, ?_⟩ k hk).2
  · intro p e he; simp [init] at he
  · intro j _ r hr
    simp [init, getReach, List.getElem?_replicate] at hr
    split at hr <;> simp at hr

end reach

/-! ## the whole ordering is a function of the relation and the distances -/
section determined
variable {D : Type} [LT D] [DecidableLT D]

theorem fold_fst (dist : Nat → Nat → D) (i : Nat) (c : D) :
    ∀ (l : List Nat) (ps : List (Pt D) × List Nat),
      (l.foldl (seedsFold dist i c) ps).1 = l.foldl (ptsStep dist i c) ps.1 := by
  intro l
  induction l with
  | nil => intro ps; rfl
  | cons j l ih =>
    intro ps
    simp only [List.foldl_cons]
    rw [ih, seedsFold_fst]

theorem ptsStep_comm (dist : Nat → Nat → D) (i : Nat) (c : D) (pts : List (Pt D)) (x y : Nat) :
    ptsStep dist i c (ptsStep dist i c pts x) y = ptsStep dist i c (ptsStep dist i c pts y) x := by
  by_cases h : x = y
  · subst h; rfl
  · -- the decision at `y` reads only the reachability of `y`, which the step at `x` leaves alone
    have h' : y ≠ x := fun e => h e.symm
    rw [ptsStep_eq dist i c (ptsStep dist i c pts x) y, ptsStep_eq dist i c (ptsStep dist i c pts y) x,
      getReach_ptsStep_ne dist i c pts h, getReach_ptsStep_ne dist i c pts h', ptsStep_eq dist i c pts x,
      ptsStep_eq dist i c pts y]
    split <;> split
    · exact setReach_comm pts x y _ _ h
    all_goals rfl

end determined

section determined2
variable {D : Type} [LinearOrder D]

/-- seeds pushed by the `get_seeds` loop over a duplicate-free list: the samples without reachability -/
theorem fold_snd (dist : Nat → Nat → D) (i : Nat) (c : D) :
    ∀ (l : List Nat), l.Nodup → ∀ (ps : List (Pt D) × List Nat),
      (l.foldl (seedsFold dist i c) ps).2 = ps.2 ++ l.filter fun j => (getReach ps.1 j).isNone := by
  intro l
  induction l with
  | nil => intro _ ps; simp
  | cons j l ih =>
    intro hnd ps
    have hnd' := List.nodup_cons.mp hnd
    have keep : (l.filter fun k => (getReach (ptsStep dist i c ps.1 j) k).isNone) =
        l.filter fun k => (getReach ps.1 k).isNone :=
      List.filter_congr fun k hk => by
        have : j ≠ k := fun e => hnd'.1 (e ▸ hk)
        rw [getReach_ptsStep_ne dist i c ps.1 this]
    rw [List.foldl_cons, ih hnd'.2, seedsFold_fst, seedsFold_snd, keep]
    cases hg : getReach ps.1 j <;> simp [hg]

/-- `get_seeds` over two arrangements of the same duplicate-free neighbour list: same points, the same
seeds up to order -/
theorem getSeeds_perm (dist : Nat → Nat → D) (i : Nat) (c : D) (ns₁ ns₂ : List Nat) (hp : ns₁.Perm ns₂)
    (hnd : ns₁.Nodup) (processed : List Bool) (pts : List (Pt D)) (sd₁ sd₂ : List Nat) (hs : sd₁.Perm sd₂) :
    (getSeeds dist i c ns₁ processed pts sd₁).1 = (getSeeds dist i c ns₂ processed pts sd₂).1 ∧
    (getSeeds dist i c ns₁ processed pts sd₁).2.Perm (getSeeds dist i c ns₂ processed pts sd₂).2 := by
  rw [getSeeds_eq_fold, getSeeds_eq_fold]
  have hpf := hp.filter (fun j => !isProcessed processed j)
  have hnd₁ : (ns₁.filter fun j => !isProcessed processed j).Nodup := hnd.filter _
  have hnd₂ : (ns₂.filter fun j => !isProcessed processed j).Nodup := (hp.nodup_iff.mp hnd).filter _
  constructor
  · rw [fold_fst, fold_fst]
    exact hpf.foldl_eq' (fun x _ y _ z => ptsStep_comm dist i c z x y) pts
  · rw [fold_snd dist i c _ hnd₁, fold_snd dist i c _ hnd₂]
    exact hs.append (hpf.filter _)

theorem mergeSort_desc_eq (l₁ l₂ : List Nat) (h : l₁.Perm l₂) :
    l₁.mergeSort (fun a b => decide (b ≤ a)) = l₂.mergeSort (fun a b => decide (b ≤ a)) := by
  have srt : ∀ l : List Nat, (l.mergeSort (fun a b => decide (b ≤ a))).Pairwise (fun a b => b ≤ a) := by
    intro l
    have := List.pairwise_mergeSort (le := fun a b : Nat => decide (b ≤ a))
      (by intro a b c h1 h2; simp only [decide_eq_true_eq] at h1 h2 ⊢; omega)
      (by intro a b; simp only [Bool.or_eq_true, decide_eq_true_eq]; omega) l
    exact this.imp (by intro a b h; simpa using h)
  apply List.Perm.eq_of_pairwise (le := fun a b => b ≤ a)
  · intro a b _ _ h1 h2; omega
  · exact srt l₁
  · exact srt l₂
  · exact (List.mergeSort_perm _ _).trans (h.trans (List.mergeSort_perm _ _).symm)

/-- two runs are in step: same points, processed set and ordering, the same seeds up to order -/
structure Sim (s₁ s₂ : State D) : Prop where
  pts : s₁.pts = s₂.pts
  processed : s₁.processed = s₂.processed
  out : s₁.out = s₂.out
  seeds : s₁.seeds.Perm s₂.seeds

variable (nbrs₁ nbrs₂ : Nat → List Nat) (dist : Nat → Nat → D) (mp : Nat)
  (hperm : ∀ i, (nbrs₁ i).Perm (nbrs₂ i)) (hnd : ∀ i, (nbrs₁ i).Nodup)
include hperm hnd

theorem findNeighbors_congr (j : Nat) :
    (findNeighbors nbrs₁ dist j).Perm (findNeighbors nbrs₂ dist j) ∧ (findNeighbors nbrs₁ dist j).Nodup :=
  ⟨(findNeighbors_perm nbrs₁ dist j).trans ((hperm j).trans (findNeighbors_perm nbrs₂ dist j).symm),
   (findNeighbors_perm nbrs₁ dist j).nodup_iff.mpr (hnd j)⟩

theorem visit_Sim (s₁ s₂ : State D) (h : Sim s₁ s₂) (j : Nat) (sd₁ sd₂ : List Nat) (hsd : sd₁.Perm sd₂) :
    Sim (visit nbrs₁ dist mp s₁ j sd₁) (visit nbrs₂ dist mp s₂ j sd₂) := by
  obtain ⟨hpts, hproc, hout, _⟩ := h
  obtain ⟨fp, fnd⟩ := findNeighbors_congr nbrs₁ nbrs₂ dist hperm hnd j
  have hcd := coreDist_congr nbrs₁ nbrs₂ dist mp j (hperm j)
  cases hc : coreDist dist mp j (findNeighbors nbrs₂ dist j) with
  | none =>
    rw [visit_of_none hc, visit_of_none (hcd.trans hc)]
    unfold listed
    rw [hpts, hproc, hout]
    exact ⟨rfl, rfl, rfl, hsd⟩
  | some cd =>
    rw [visit_of_some hc, visit_of_some (hcd.trans hc)]
    unfold relax listed
    rw [hpts, hproc, hout]
    obtain ⟨g1, g2⟩ := getSeeds_perm dist j cd _ _ fp fnd (s₂.processed.set j true)
      (setCore s₂.pts j (some cd)) sd₁ sd₂ hsd
    exact ⟨g1, rfl, rfl, g2⟩

theorem seedLoop_Sim : ∀ (fuel : Nat) (s₁ s₂ : State D), Sim s₁ s₂ →
    Sim (seedLoop nbrs₁ dist mp fuel s₁) (seedLoop nbrs₂ dist mp fuel s₂) := by
  intro fuel
  induction fuel with
  | zero => intro s₁ s₂ h; exact h
  | succ fuel ih =>
    intro s₁ s₂ h
    unfold seedLoop
    rw [mergeSort_desc_eq s₁.seeds s₂.seeds h.seeds]
    split
    · exact h
    · rw [seedStep_eq, seedStep_eq, h.pts]
      exact ih _ _ (visit_Sim nbrs₁ nbrs₂ dist mp hperm hnd s₁ s₂ h _ _ _ (List.Perm.refl _))

theorem outerStep_Sim (n : Nat) (s₁ s₂ : State D) (h : Sim s₁ s₂) (i : Nat) :
    Sim (outerStep nbrs₁ dist mp n s₁ i) (outerStep nbrs₂ dist mp n s₂ i) := by
  rw [outerStep_eq, outerStep_eq, h.processed, coreDist_congr nbrs₁ nbrs₂ dist mp i (hperm i)]
  split
  · exact h
  · split
    · exact visit_Sim nbrs₁ nbrs₂ dist mp hperm hnd s₁ s₂ h i _ _ h.seeds
    · exact seedLoop_Sim nbrs₁ nbrs₂ dist mp hperm hnd _ _ _
        (visit_Sim nbrs₁ nbrs₂ dist mp hperm hnd s₁ s₂ h i _ _ (List.Perm.refl _))

theorem foldl_Sim (n : Nat) : ∀ (l : List Nat) (s₁ s₂ : State D), Sim s₁ s₂ →
    Sim (l.foldl (outerStep nbrs₁ dist mp n) s₁) (l.foldl (outerStep nbrs₂ dist mp n) s₂) := by
  intro l
  induction l with
  | nil => intro s₁ s₂ h; exact h
  | cons i l ih =>
    intro s₁ s₂ h
    exact ih _ _ (outerStep_Sim nbrs₁ nbrs₂ dist mp hperm hnd n s₁ s₂ h i)

end determined2

end LinfaSpec.Optics
