import LinfaSpec.Proofs.Incremental

/-!
C15, what the two naive-Bayes learners share: the association-list state (`HashMap<L, ClassInfo>`),
labels and rows of a batch, the class loop of `fit_with` (every label of the batch is looked up,
updated and written back), and the arg-max of the scores.
-/
namespace LinfaSpec.Incremental
open LinfaSpec


section Assoc
variable {β γ : Type}

theorem lookup_upsert (c k : Nat) (v : β) (l : List (Nat × β)) :
    lookup c (upsert k v l) = if k = c then some v else lookup c l := by
  induction l with
  | nil => rfl
  | cons kv rest ih =>
    obtain ⟨k', w⟩ := kv
    simp only [upsert]
    by_cases h : k' = k
    · subst h
      simp only [if_true, lookup]
      by_cases h2 : k' = c <;> simp [h2]
    · simp only [h, if_false, lookup, ih]
      by_cases h2 : k' = c
      · simp only [h2, if_true, if_neg (fun h3 : k = c => h (h2.trans h3.symm))]
      · simp only [h2, if_false]

theorem lookup_mapVals (f : β → γ) (c : Nat) (l : List (Nat × β)) :
    lookup c (mapVals f l) = (lookup c l).map f := by
  induction l with
  | nil => rfl
  | cons kv rest ih =>
    simp only [mapVals, List.map_cons, lookup] at ih ⊢
    by_cases h : kv.1 = c
    · simp only [h, if_true, Option.map_some]
    · simp only [h, if_false, ih]

/-- a loop that rewrites each key of a duplicate-free list from its own old entry touches the other
keys not at all -/
theorem lookup_foldl_upsert (F : Nat → Option β → β) (L : List Nat) (hL : L.Nodup)
    (st : List (Nat × β)) (c : Nat) :
    lookup c (L.foldl (fun s k => upsert k (F k (lookup k s)) s) st) =
      if c ∈ L then some (F c (lookup c st)) else lookup c st := by
  induction L generalizing st with
  | nil => rfl
  | cons k L ih =>
    obtain ⟨hk, hL'⟩ := List.nodup_cons.mp hL
    rw [List.foldl_cons, ih hL', lookup_upsert]
    by_cases hc : c ∈ L
    · have hne : ¬ k = c := by rintro rfl; exact hk hc
      simp only [hc, if_true, hne, if_false, List.mem_cons, or_true]
    · by_cases hkc : k = c
      · subst hkc; simp only [hc, if_false, if_true, List.mem_cons, true_or]
      · simp only [hc, hkc, if_false, List.mem_cons, Ne.symm hkc, or_self]

/-- a table written out key by key -/
theorem lookup_map_mk (f : Nat → β) (L : List Nat) (c : Nat) :
    lookup c (L.map fun k => (k, f k)) = if c ∈ L then some (f c) else none := by
  induction L with
  | nil => rfl
  | cons k L ih =>
    simp only [List.map_cons, lookup, List.mem_cons]
    by_cases hk : k = c
    · simp [hk]
    · simp only [hk, if_false, ih, Ne.symm hk, false_or]

theorem mem_of_lookup (c : Nat) (v : β) (l : List (Nat × β)) (h : lookup c l = some v) :
    (c, v) ∈ l := by
  induction l with
  | nil => exact nomatch h
  | cons kv rest ih =>
    obtain ⟨k, w⟩ := kv
    by_cases hk : k = c
    · simp only [lookup, hk, if_true, Option.some.injEq] at h
      rw [hk, h]; exact List.mem_cons_self
    · simp only [lookup, hk, if_false] at h
      exact List.mem_cons_of_mem _ (ih h)

/-- two optional records with equal projections are equal as soon as equal projections force equal
stored records (`f` forgets a field that the context determines) -/
theorem option_eq_of_map_eq {κ : Type} (f : β → κ) (o₁ o₂ : Option β) (h : o₁.map f = o₂.map f)
    (hinj : ∀ i j, o₁ = some i → o₂ = some j → f i = f j → i = j) : o₁ = o₂ := by
  cases o₁ <;> cases o₂
  · rfl
  · exact nomatch h
  · exact nomatch h
  · exact congrArg some (hinj _ _ rfl rfl (Option.some.inj h))

/-- the keys of the association list, in order -/
def keys (l : List (Nat × β)) : List Nat := l.map (·.1)

theorem lookup_of_mem_nodup (c : Nat) (v : β) (l : List (Nat × β))
    (hn : (keys l).Nodup) (h : (c, v) ∈ l) : lookup c l = some v := by
  induction l with
  | nil => exact nomatch h
  | cons kv rest ih =>
    obtain ⟨k, w⟩ := kv
    obtain ⟨hk, hn'⟩ := List.nodup_cons.mp hn
    rcases List.mem_cons.mp h with heq | hmem
    · obtain ⟨rfl, rfl⟩ := Prod.mk.inj heq
      simp only [lookup, if_true]
    · have hkc : k ≠ c := fun e => hk (List.mem_map.mpr ⟨(c, v), hmem, e.symm⟩)
      simp only [lookup, hkc, if_false]
      exact ih hn' hmem

theorem keys_upsert (c : Nat) (v : β) (l : List (Nat × β)) :
    keys (upsert c v l) = if c ∈ keys l then keys l else keys l ++ [c] := by
  induction l with
  | nil => rfl
  | cons kv rest ih =>
    obtain ⟨k, w⟩ := kv
    by_cases h : k = c
    · subst h; simp [upsert, keys]
    · have h' : ¬ c = k := fun e => h e.symm
      simp only [keys] at ih
      by_cases hm : c ∈ List.map (·.1) rest
      · simpa [upsert, h, h', hm, keys] using ih
      · simpa [upsert, h, h', hm, keys] using ih

theorem keys_mapVals (f : β → γ) (l : List (Nat × β)) : keys (mapVals f l) = keys l := by
  simp [keys, mapVals, Function.comp]

theorem nodup_keys_upsert (c : Nat) (v : β) (l : List (Nat × β)) (h : (keys l).Nodup) :
    (keys (upsert c v l)).Nodup := by
  rw [keys_upsert]
  split
  · exact h
  · next hm => exact List.nodup_append.mpr ⟨h, List.nodup_singleton c, fun a ha b hb =>
      (List.mem_singleton.mp hb) ▸ fun e => hm (e ▸ ha)⟩

theorem nodup_keys_foldl_upsert (G : List (Nat × β) → Nat → β) (L : List Nat) (st : List (Nat × β))
    (h : (keys st).Nodup) : (keys (L.foldl (fun s k => upsert k (G s k) s) st)).Nodup := by
  induction L generalizing st with
  | nil => exact h
  | cons k L ih => exact ih _ (nodup_keys_upsert _ _ _ h)

/-- sum of a natural-number attribute over the stored values -/
def tot (cnt : β → Nat) (l : List (Nat × β)) : Nat := (l.map fun kv => cnt kv.2).sum

theorem tot_upsert (cnt : β → Nat) (c : Nat) (v : β) (l : List (Nat × β)) :
    tot cnt (upsert c v l) + ((lookup c l).map cnt).getD 0 = tot cnt l + cnt v := by
  induction l with
  | nil => simp [upsert, tot, lookup]
  | cons kv rest ih =>
    obtain ⟨k, w⟩ := kv
    by_cases h : k = c
    · subst h; simp [upsert, tot, lookup]; omega
    · simp only [upsert, h, if_false, lookup, tot, List.map_cons, List.sum_cons] at ih ⊢
      omega

theorem tot_mapVals (cnt : β → Nat) (cnt' : γ → Nat) (f : β → γ) (hf : ∀ x, cnt' (f x) = cnt x)
    (l : List (Nat × β)) : tot cnt' (mapVals f l) = tot cnt l := by
  simp only [tot, mapVals, List.map_map, Function.comp_def, hf]

theorem tot_foldl_upsert (cnt : β → Nat) (F : Nat → Option β → β) (m : Nat → Nat)
    (hF : ∀ k o, cnt (F k o) = (o.map cnt).getD 0 + m k) (L : List Nat) (st : List (Nat × β)) :
    tot cnt (L.foldl (fun s k => upsert k (F k (lookup k s)) s) st) = tot cnt st + (L.map m).sum := by
  induction L generalizing st with
  | nil => rfl
  | cons k L ih =>
    have := tot_upsert cnt k (F k (lookup k st)) st
    rw [hF] at this
    rw [List.foldl_cons, ih, List.map_cons, List.sum_cons]
    omega

end Assoc

/-! ### labels and rows of a batch -/

section Rows
variable {α : Type}

theorem nodup_labelsOf (b : Batch α) : (labelsOf b).Nodup := nodup_eraseDups _

theorem mem_labelsOf (c : Nat) (b : Batch α) : c ∈ labelsOf b ↔ rowsOf c b ≠ [] := by
  simp only [labelsOf, List.mem_eraseDups, List.mem_map, rowsOf, ne_eq, List.map_eq_nil_iff,
    List.filter_eq_nil_iff, not_forall]
  constructor
  · rintro ⟨r, hr, rfl⟩; exact ⟨r, hr, by simp⟩
  · rintro ⟨r, hr, h⟩; exact ⟨r, hr, by simpa using h⟩

theorem rowsOf_append (c : Nat) (d b : Batch α) : rowsOf c (d ++ b) = rowsOf c d ++ rowsOf c b := by
  simp [rowsOf]

theorem rowsOf_flatten_snoc (c : Nat) (hist : List (Batch α)) (b : Batch α) :
    rowsOf c (hist ++ [b]).flatten = rowsOf c hist.flatten ++ rowsOf c b := by
  rw [List.flatten_append, List.flatten_singleton, rowsOf_append]

theorem indicator_sum_zero (a : Nat) (L : List Nat) (h : a ∉ L) :
    (L.map fun c => if a = c then 1 else 0).sum = 0 := by
  induction L with
  | nil => rfl
  | cons x L ih =>
    have hx : ¬ a = x := fun e => h (e ▸ List.mem_cons_self)
    simp [hx, ih fun e => h (List.mem_cons_of_mem _ e)]

theorem indicator_sum_one (a : Nat) (L : List Nat) (hn : L.Nodup) (h : a ∈ L) :
    (L.map fun c => if a = c then 1 else 0).sum = 1 := by
  induction L with
  | nil => exact nomatch h
  | cons x L ih =>
    obtain ⟨hx, hL⟩ := List.nodup_cons.mp hn
    by_cases e : a = x
    · subst e
      simp [indicator_sum_zero a L hx]
    · simp [e, ih hL ((List.mem_cons.mp h).resolve_left e)]

theorem rowsOf_cons_length (c : Nat) (r : List α × Nat) (b : Batch α) :
    (rowsOf c (r :: b)).length = (if r.2 = c then 1 else 0) + (rowsOf c b).length := by
  by_cases h : r.2 = c
  · simp [rowsOf, h]; omega
  · simp [rowsOf, h]

/-- every row belongs to exactly one class: the class sizes over a duplicate-free list of labels
that contains every label of the batch add up to the batch size -/
theorem sum_rows_length (b : Batch α) (L : List Nat) (hn : L.Nodup) (hall : ∀ r ∈ b, r.2 ∈ L) :
    (L.map fun c => (rowsOf c b).length).sum = b.length := by
  induction b with
  | nil => simp [rowsOf]
  | cons r b ih =>
    simp only [rowsOf_cons_length, List.sum_map_add,
      indicator_sum_one r.2 L hn (hall r List.mem_cons_self),
      ih fun r' hr' => hall r' (List.mem_cons_of_mem _ hr'), List.length_cons]
    omega

theorem sum_rows_labelsOf (b : Batch α) :
    ((labelsOf b).map fun c => (rowsOf c b).length).sum = b.length :=
  sum_rows_length b _ (nodup_labelsOf b) fun r hr =>
    List.mem_eraseDups.mpr (List.mem_map.mpr ⟨r, hr, rfl⟩)

/-! ### the class loop of `fit_with` -/

variable {β : Type}

/-- a class with rows in the batch gets `F` of its old entry, every other entry is left as it is -/
theorem lookup_classLoop (F : Nat → Option β → β) (b : Batch α) (st : List (Nat × β)) (c : Nat) :
    lookup c ((labelsOf b).foldl (fun s k => upsert k (F k (lookup k s)) s) st) =
      if rowsOf c b = [] then lookup c st else some (F c (lookup c st)) := by
  rw [lookup_foldl_upsert _ _ (nodup_labelsOf b)]
  by_cases h : rowsOf c b = []
  · rw [if_pos h, if_neg fun hl => (mem_labelsOf c b).mp hl h]
  · rw [if_neg h, if_pos ((mem_labelsOf c b).mpr h)]

theorem tot_classLoop (cnt : β → Nat) (F : Nat → Option β → β) (b : Batch α)
    (hF : ∀ k o, cnt (F k o) = (o.map cnt).getD 0 + (rowsOf k b).length) (st : List (Nat × β)) :
    tot cnt ((labelsOf b).foldl (fun s k => upsert k (F k (lookup k s)) s) st) = tot cnt st + b.length := by
  rw [tot_foldl_upsert cnt F _ hF, sum_rows_labelsOf]

end Rows

section Field
variable {α : Type} [Field α] [LinearOrder α] [IsStrictOrderedRing α]

/-! ### arg-max of the class scores -/

theorem argmaxScore_spec (l : List (Nat × α)) (b : Nat × α) (h : argmaxScore l = some b) :
    b ∈ l ∧ ∀ y ∈ l, y.2 ≤ b.2 := by
  cases l with
  | nil => exact nomatch h
  | cons x rest =>
    obtain rfl := Option.some.inj h
    obtain ⟨hmem, hle⟩ := foldl_select_spec (fun best y : Nat × α => if best.2 < y.2 then y else best)
      (fun y => -y.2) (fun a c => by
      by_cases hlt : a.2 < c.2
      · exact Or.inr ⟨if_pos hlt, neg_le_neg hlt.le⟩
      · exact Or.inl ⟨if_neg hlt, neg_le_neg (not_lt.mp hlt)⟩) rest x
    exact ⟨hmem, fun y hy => neg_le_neg_iff.mp (hle y hy)⟩

end Field
end LinfaSpec.Incremental
