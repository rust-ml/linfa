/-
Ky Fan maximum principle in certificate form: for `C = Uᵀ diag(lam) U`, `U` orthogonal, `lam`
non-increasing, any `k` orthonormal rows `Q` retain `trace (Q C Qᵀ) ≤ ∑ i < k, lam i`, and orthonormal
eigenvector rows for the values `s` retain exactly `∑ s`; `scatter_retained_le` combines the two.
-/
import LinfaSpec.Proofs.PcaMatrix
import Mathlib.LinearAlgebra.Matrix.Trace
import Mathlib.Algebra.BigOperators.Fin
import Mathlib.Algebra.Order.BigOperators.Group.Finset
import Mathlib.Algebra.Order.Field.Basic

namespace LinfaSpec.PcaKyFan
open Matrix

section Reindex
variable {β : Type} [AddCommMonoid β] {p k : Nat}

theorem sum_ite_lt_eq (f : Fin p → β) (hk : k ≤ p) :
    ∑ j : Fin p, (if (j : ℕ) < k then f j else 0) = ∑ i : Fin k, f (Fin.castLE hk i) := by
  have e : (Finset.univ.filter fun j : Fin p => (j : ℕ) < k)
      = Finset.univ.map (Fin.castLEEmb hk) := by
    ext j
    simp only [Finset.mem_filter, Finset.mem_univ, true_and, Finset.mem_map, Fin.castLEEmb_apply]
    exact ⟨fun h => ⟨⟨j, h⟩, rfl⟩, fun ⟨i, hi⟩ => hi ▸ i.2⟩
  rw [← Finset.sum_filter, e, Finset.sum_map]
  rfl

theorem sum_split_lt (f : Fin p → β) (hk : k ≤ p) :
    ∑ j, f j = ∑ i : Fin k, f (Fin.castLE hk i) + ∑ j : Fin p, if (j : ℕ) < k then 0 else f j := by
  rw [← sum_ite_lt_eq f hk, ← Finset.sum_add_distrib]
  refine Finset.sum_congr rfl fun j _ => ?_
  split
  exacts [(add_zero _).symm, (zero_add _).symm]

end Reindex

variable {α : Type} [Field α] [LinearOrder α] [IsStrictOrderedRing α] {p k : Nat}

/-- scalar core: weights in [0,1] summing to k cannot beat the k largest values -/
theorem weighted_sum_le_top (lam w : Fin p → α) (hk : k ≤ p)
    (hmono : ∀ i j : Fin p, i ≤ j → lam j ≤ lam i)
    (hw0 : ∀ j, 0 ≤ w j) (hw1 : ∀ j, w j ≤ 1) (hsum : ∑ j, w j = (k : α)) :
    ∑ j, lam j * w j ≤ ∑ i : Fin k, lam (Fin.castLE hk i) := by
  rcases Nat.eq_zero_or_pos k with rfl | hpos
  · have hz := (Finset.sum_eq_zero_iff_of_nonneg fun j _ => hw0 j).mp (hsum.trans Nat.cast_zero)
    exact le_of_eq (Finset.sum_eq_zero fun j hj => by rw [hz j hj, mul_zero])
  · -- with the threshold `c = lam (k-1)` every term of `∑ lam j (w j - [j < k])` is at most
    -- `c (w j - [j < k])`, and these sum to `c (k - k)`
    have hkp : k - 1 < p := by omega
    have hterm : ∀ j : Fin p, lam j * (w j - if (j : ℕ) < k then 1 else 0)
        ≤ lam ⟨k - 1, hkp⟩ * (w j - if (j : ℕ) < k then 1 else 0) := by
      intro j
      rcases lt_or_ge (j : ℕ) k with hj | hj
      · rw [if_pos hj]
        exact mul_le_mul_of_nonpos_right (hmono j ⟨k - 1, hkp⟩ (Nat.le_sub_one_of_lt hj))
          (sub_nonpos.2 (hw1 j))
      · rw [if_neg (not_lt.2 hj), sub_zero]
        exact mul_le_mul_of_nonneg_right (hmono ⟨k - 1, hkp⟩ j ((Nat.sub_le k 1).trans hj)) (hw0 j)
    have hone : ∑ j : Fin p, (if (j : ℕ) < k then (1 : α) else 0) = (k : α) := by
      rw [sum_ite_lt_eq (fun _ => (1 : α)) hk, Fin.sum_const, nsmul_eq_mul, mul_one]
    have h := Finset.sum_le_sum fun j (_ : j ∈ Finset.univ) => hterm j
    rw [← Finset.mul_sum, Finset.sum_sub_distrib, hsum, hone, sub_self, mul_zero] at h
    simp only [mul_sub, mul_ite, mul_one, mul_zero, Finset.sum_sub_distrib, sub_nonpos] at h
    rwa [sum_ite_lt_eq lam hk] at h

/-- a diagonal entry `x` of a symmetric idempotent matrix is at most one:
`x = ∑ l, P j l ^ 2 ≥ x ^ 2` -/
theorem idem_diag_le_one (P : Matrix (Fin p) (Fin p) α) (hs : Pᵀ = P) (hi : P * P = P)
    (j : Fin p) : P j j ≤ 1 := by
  have hx : P j j * P j j ≤ P j j :=
    calc P j j * P j j ≤ ∑ l, P j l * P j l :=
          Finset.single_le_sum (f := fun l => P j l * P j l) (fun l _ => mul_self_nonneg _)
            (Finset.mem_univ j)
      _ = (P * Pᵀ) j j := (Matrix.mul_apply (M := P) (N := Pᵀ)).symm
      _ = P j j := by rw [hs, hi]
  exact not_lt.1 fun h => not_lt.2 hx (lt_mul_of_one_lt_left (one_pos.trans h) h)

/-- column weights of a matrix with orthonormal rows: `R Rᵀ = 1` ⇒ each `∑ i, R i j ^ 2`
(written `R i j * R i j`) is in [0,1] and they sum to k -/
theorem col_weights (R : Matrix (Fin k) (Fin p) α) (hR : R * Rᵀ = 1) :
    (∀ j, 0 ≤ ∑ i, R i j * R i j) ∧ (∀ j, ∑ i, R i j * R i j ≤ 1)
      ∧ ∑ j, ∑ i, R i j * R i j = (k : α) := by
  refine ⟨fun j => Finset.sum_nonneg fun i _ => mul_self_nonneg _, fun j => ?_, ?_⟩
  · exact (Matrix.mul_apply (M := Rᵀ) (N := R)).symm.trans_le
      (idem_diag_le_one _ (PcaMatrix.proj_symm R) (PcaMatrix.proj_idem R hR) j)
  · rw [Finset.sum_comm, Finset.sum_congr rfl fun i _ => PcaMatrix.row_sqnorm_one R hR i,
      Fin.sum_const, nsmul_eq_mul, mul_one]

omit [LinearOrder α] [IsStrictOrderedRing α] in
/-- trace of `R diag(lam) Rᵀ` as a weighted sum of `lam` with the column weights of `R` -/
theorem trace_diag_conj (R : Matrix (Fin k) (Fin p) α) (lam : Fin p → α) :
    trace (R * diagonal lam * Rᵀ) = ∑ j, lam j * ∑ i, R i j * R i j := by
  -- cyclicity: `tr(R D Rᵀ) = tr(RᵀR D)`, whose diagonal is `(RᵀR) j j * lam j`
  rw [Matrix.trace_mul_cycle, Matrix.trace]
  refine Finset.sum_congr rfl fun j _ => ?_
  rw [Matrix.diag_apply, Matrix.mul_diagonal, mul_comm, Matrix.mul_apply]
  rfl

/-- **Ky Fan**: `C = Uᵀ diag(lam) U` with `U` orthogonal (rows of `U` = eigenvectors) and `lam`
non-increasing; any `Q` with orthonormal rows retains at most the sum of the `k` largest
eigenvalues -/
theorem ky_fan (C U : Matrix (Fin p) (Fin p) α) (lam : Fin p → α) (hU : U * Uᵀ = 1)
    (hC : C = Uᵀ * diagonal lam * U) (hmono : ∀ i j : Fin p, i ≤ j → lam j ≤ lam i) (hk : k ≤ p)
    (Q : Matrix (Fin k) (Fin p) α) (hQ : Q * Qᵀ = 1) :
    trace (Q * C * Qᵀ) ≤ ∑ i : Fin k, lam (Fin.castLE hk i) := by
  -- `R = Q Uᵀ` has orthonormal rows again and `Q C Qᵀ = R diag(lam) Rᵀ`
  have hR : (Q * Uᵀ) * (Q * Uᵀ)ᵀ = 1 := by
    rw [Matrix.transpose_mul, Matrix.transpose_transpose, Matrix.mul_assoc, ← Matrix.mul_assoc Uᵀ,
      mul_eq_one_comm.mp hU, Matrix.one_mul, hQ]
  have hconj : Q * C * Qᵀ = (Q * Uᵀ) * diagonal lam * (Q * Uᵀ)ᵀ := by
    simp only [hC, Matrix.transpose_mul, Matrix.transpose_transpose, Matrix.mul_assoc]
  obtain ⟨hw0, hw1, hsum⟩ := col_weights (Q * Uᵀ) hR
  rw [hconj, trace_diag_conj]
  exact weighted_sum_le_top lam _ hk hmono hw0 hw1 hsum

/-- non-vacuity of the hypotheses of `ky_fan` over `Rat`: `p = 2`, `k = 1`, `U = 1`,
`lam = ![2, 1]`, `Q = !![0, 1]`; the bound reads `1 ≤ 2` -/
example : trace ((!![0, 1] : Matrix (Fin 1) (Fin 2) Rat)
      * ((1 : Matrix (Fin 2) (Fin 2) Rat)ᵀ * diagonal ![2, 1] * 1)
      * (!![0, 1] : Matrix (Fin 1) (Fin 2) Rat)ᵀ)
    ≤ ∑ i : Fin 1, (![2, 1] : Fin 2 → Rat) (Fin.castLE (by decide : 1 ≤ 2) i) :=
  ky_fan (k := 1) (p := 2) _ 1 ![2, 1] (by decide +kernel) rfl (by decide +kernel) (by decide) _
    (by decide +kernel)

omit [LinearOrder α] [IsStrictOrderedRing α] in
/-- a `V` with orthonormal rows whose rows are eigenvectors of `C` for the values `s` retains
exactly `∑ s` -/
theorem trace_of_certificate (C : Matrix (Fin p) (Fin p) α) (V : Matrix (Fin k) (Fin p) α)
    (s : Fin k → α) (hV : V * Vᵀ = 1) (hc : C * Vᵀ = Vᵀ * diagonal s) :
    trace (V * C * Vᵀ) = ∑ i, s i := by
  rw [PcaMatrix.conj_certificate C V s hV hc, Matrix.trace_diagonal]

/-- **optimality of the leading certificate for the scatter `XcᵀXc = Uᵀ diag(lam) U`**: `W` has
`r ≤ k` orthonormal rows that are eigenvectors for the `r` leading eigenvalues; projecting on any `k`
orthonormal directions `Q` retains at most what `W` retains plus the eigenvalues `lam_r … lam_{k-1}` -/
theorem scatter_retained_le {n r : Nat} (Xc : Matrix (Fin n) (Fin p) α)
    (U : Matrix (Fin p) (Fin p) α) (lam : Fin p → α) (hU : U * Uᵀ = 1)
    (hS : Xcᵀ * Xc = Uᵀ * diagonal lam * U) (hmono : ∀ i j : Fin p, i ≤ j → lam j ≤ lam i)
    (hr : r ≤ k) (hk : k ≤ p) (W : Matrix (Fin r) (Fin p) α) (s : Fin r → α)
    (hlead : ∀ i, s i = lam (Fin.castLE (hr.trans hk) i)) (hW : W * Wᵀ = 1)
    (hc : Xcᵀ * Xc * Wᵀ = Wᵀ * diagonal s) (Q : Matrix (Fin k) (Fin p) α) (hQ : Q * Qᵀ = 1) :
    trace ((Xc * Qᵀ)ᵀ * (Xc * Qᵀ)) ≤ trace ((Xc * Wᵀ)ᵀ * (Xc * Wᵀ))
      + ∑ i : Fin k, if (i : ℕ) < r then 0 else lam (Fin.castLE hk i) := by
  rw [PcaMatrix.scatter_proj, PcaMatrix.scatter_proj, trace_of_certificate _ W s hW hc,
    Finset.sum_congr rfl fun i _ => hlead i]
  exact (ky_fan _ U lam hU hS hmono hk Q hQ).trans_eq
    (sum_split_lt (fun i : Fin k => lam (Fin.castLE hk i)) hr)

end LinfaSpec.PcaKyFan
