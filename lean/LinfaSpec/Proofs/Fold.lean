import LinfaSpec.Model.Fold
import LinfaSpec.Proofs.Lists

/-! What `fold` and `iter_fold` compute (core Lean only): `chunks` and the rotating chunk vector of
`fold`'s loop, the (outside block `i`, block `i`) pairs it yields, and the block swap of `iter_fold`. -/
namespace LinfaSpec.Fold

theorem chunks_length {α} (fs : Nat) (l : List α) :
    (chunks fs l).length = (l.length + fs - 1) / fs := by
  simp only [chunks, List.length_map, List.length_range]

theorem chunks_getElem? {α} (fs : Nat) (l : List α) (i : Nat) (h : i < (chunks fs l).length) :
    (chunks fs l)[i]? = some ((l.drop (i * fs)).take fs) := by
  rw [chunks_length] at h
  simp only [chunks, List.getElem?_map, List.getElem?_range h, Option.map_some]

theorem le_chunks_length {α} (fs k : Nat) (l : List α) (hfs : 0 < fs) (h : k * fs ≤ l.length) :
    k ≤ (chunks fs l).length := by
  rw [chunks_length, Nat.le_div_iff_mul_le hfs]
  omega

theorem flatten_slices {α} (fs : Nat) (l : List α) (m : Nat) :
    ((List.range m).map fun i => (l.drop (i * fs)).take fs).flatten = l.take (m * fs) := by
  induction m with
  | zero => simp
  | succ m ih =>
    rw [List.range_succ, List.map_append, List.flatten_append, ih, Nat.succ_mul, List.take_add]
    simp

theorem flatten_take_chunks {α} (fs : Nat) (l : List α) (i : Nat) (h : i ≤ (chunks fs l).length) :
    ((chunks fs l).take i).flatten = l.take (i * fs) := by
  rw [chunks_length] at h
  rw [chunks, ← List.map_take, List.take_range, Nat.min_eq_left h, flatten_slices]

theorem chunks_flatten {α} (fs : Nat) (hfs : 0 < fs) (l : List α) :
    (chunks fs l).flatten = l := by
  have h := flatten_take_chunks fs l _ (Nat.le_refl _)
  rw [List.take_length] at h
  rw [h, chunks_length]
  -- the chunks cover the list: `n ≤ ceil(n / fs) * fs`
  apply List.take_of_length_le
  have := Nat.lt_mul_div_succ (l.length + fs - 1) hfs
  rw [Nat.mul_succ, Nat.mul_comm] at this
  omega

theorem flatten_drop_chunks {α} (fs : Nat) (hfs : 0 < fs) (l : List α) (i : Nat)
    (h : i ≤ (chunks fs l).length) : ((chunks fs l).drop i).flatten = l.drop (i * fs) := by
  have e := congrArg List.flatten (List.take_append_drop i (chunks fs l))
  rw [List.flatten_append, flatten_take_chunks fs l i h, chunks_flatten fs hfs] at e
  exact List.append_cancel_left (e.trans (List.take_append_drop (i * fs) l).symm)

/-- the chunk vector at the top of iteration `i` of `fold`'s loop: chunk `i` in front, the others
in their original order -/
def rot {α} (cs : List α) (i : Nat) : List α :=
  match cs[i]? with
  | some c => c :: (cs.take i ++ cs.drop (i + 1))
  | none => cs

theorem rot_zero {α} (cs : List α) : rot cs 0 = cs := by
  cases cs <;> rfl

theorem rot_of_lt {α} (cs : List α) (i : Nat) (h : i < cs.length) :
    rot cs i = cs[i] :: (cs.take i ++ cs.drop (i + 1)) := by
  simp only [rot, List.getElem?_eq_getElem h]

theorem swap0_cons_append {α} (x y : α) (A D : List α) :
    swap0 (x :: (A ++ y :: D)) (A.length + 1) = y :: (A ++ x :: D) := by
  simp [swap0]

theorem swap0_rot {α} (cs : List α) (i : Nat) (h : i + 1 < cs.length) :
    swap0 (rot cs i) (i + 1) = rot cs (i + 1) := by
  have hi : i < cs.length := Nat.lt_of_succ_lt h
  have e := swap0_cons_append cs[i] cs[i + 1] (cs.take i) (cs.drop (i + 1 + 1))
  rw [List.length_take_of_le (Nat.le_of_lt hi)] at e
  rw [rot_of_lt cs i hi, rot_of_lt cs (i + 1) h, List.drop_eq_getElem_cons h,
    List.take_succ_eq_append_getElem hi, List.append_assoc, List.singleton_append, e]

theorem foldGo_spec {α} (k : Nat) (cs : List (List α)) (hk : k ≤ cs.length) :
    ∀ fuel i, i + fuel = k →
      foldGo k fuel i (rot cs i) =
        (List.range' i fuel).map fun j =>
          ((cs.take j ++ cs.drop (j + 1)).flatten, (cs[j]?).getD []) := by
  intro fuel
  induction fuel with
  | zero => intro i _; rfl
  | succ f ih =>
    intro i hik
    have hi : i < cs.length :=
      Nat.lt_of_lt_of_le (Nat.lt_of_lt_of_eq (Nat.lt_add_of_pos_right (Nat.succ_pos f)) hik) hk
    rw [foldGo, List.range'_succ, List.map_cons]
    congr 1
    · rw [rot_of_lt cs i hi, List.getElem?_eq_getElem hi]; rfl
    · cases f with
      | zero => rfl  -- last iteration: no swap, no tail
      | succ f =>
        have h1 : i + 1 < k :=
          Nat.lt_of_lt_of_eq (Nat.add_lt_add_left (Nat.succ_lt_succ (Nat.succ_pos f)) i) hik
        rw [if_pos (Nat.lt_sub_of_add_lt h1), swap0_rot cs i (Nat.lt_of_lt_of_le h1 hk),
          ih (i + 1) ((Nat.succ_add_eq_add_succ i (f + 1)).trans hik)]

/-- `fold` with any chunk size that leaves room for `k ≥ 2` whole blocks: pair `i` is
(all rows outside block `i`, in their original order; block `i`) -/
theorem foldWith_spec {α} (fs k : Nat) (ds : List α) (hfs : 0 < fs) (hk : 2 ≤ k)
    (hn : k * fs ≤ ds.length) :
    foldWith fs k ds = some ((List.range k).map fun i =>
      (ds.take (i * fs) ++ ds.drop ((i + 1) * fs), (ds.drop (i * fs)).take fs)) := by
  have hlen := le_chunks_length fs k ds hfs hn
  have hgo := foldGo_spec k (chunks fs ds) hlen k 0 (Nat.zero_add k)
  rw [rot_zero, ← List.range_eq_range'] at hgo
  simp only [foldWith, if_neg (Nat.ne_of_gt hfs), hgo,
    if_neg (show ¬ ((chunks fs ds).length < 2 ∨ (chunks fs ds).length < k) by omega)]
  congr 1
  apply List.map_congr_left
  intro i hi
  rw [List.mem_range] at hi
  rw [List.flatten_append, flatten_take_chunks fs ds i (Nat.le_trans (Nat.le_of_lt hi) hlen),
    flatten_drop_chunks fs hfs ds (i + 1) (Nat.le_trans hi hlen),
    chunks_getElem? fs ds i (Nat.lt_of_lt_of_le hi hlen), Option.getD_some]

theorem foldPairs_eq_foldWith {α} (k : Nat) (ds : List α) (hk : k ≠ 0) :
    foldPairs k ds = foldWith (ds.length / k) k ds := by
  simp only [foldPairs, foldWith, if_neg hk]

/-- outside `2 ≤ k ≤ n` the call panics: `k = 0` divides by zero, `k = 1` leaves a single chunk,
`k > n` makes the chunk size 0 -/
theorem foldPairs_eq_none {α} (k : Nat) (ds : List α) (h : k < 2 ∨ ds.length < k) :
    foldPairs k ds = none := by
  by_cases hk : k = 0
  · rw [foldPairs, if_pos hk]
  · rw [foldPairs_eq_foldWith k ds hk, foldWith]
    by_cases hfs : ds.length / k = 0
    · rw [if_pos hfs]
    · have hk1 : k = 1 := by
        rcases h with h | h
        · omega
        · exact absurd (Nat.div_eq_of_lt h) hfs
      subst hk1
      rw [Nat.div_one] at hfs ⊢
      have hpos := Nat.pos_of_ne_zero hfs
      -- a single chunk: `ceil(n / n) = 1`
      have : (chunks ds.length ds).length = 1 := by
        rw [chunks_length, Nat.add_sub_assoc hpos, Nat.add_div_left _ hpos,
          Nat.div_eq_of_lt (Nat.sub_one_lt hfs)]
      simp only [if_neg hfs, this, if_pos (Or.inl (Nat.lt_succ_self 1))]

/-! ### pair `i` of a fold: the rows outside block `i`, and block `i` -/

theorem outside_block_perm {α} (ds : List α) (i fs : Nat) :
    (ds.take (i * fs) ++ ds.drop ((i + 1) * fs) ++ (ds.drop (i * fs)).take fs).Perm ds := by
  have e : ds.drop ((i + 1) * fs) = (ds.drop (i * fs)).drop fs := by
    rw [List.drop_drop, Nat.succ_mul]
  have h := (List.perm_append_comm (l₁ := (ds.drop (i * fs)).drop fs)
    (l₂ := (ds.drop (i * fs)).take fs)).append_left (ds.take (i * fs))
  rwa [List.take_append_drop, List.take_append_drop, ← List.append_assoc, ← e] at h

theorem block_length {α} (ds : List α) (i fs : Nat) (h : (i + 1) * fs ≤ ds.length) :
    ((ds.drop (i * fs)).take fs).length = fs := by
  rw [Nat.succ_mul] at h
  exact List.length_take_of_le (by rw [List.length_drop]; exact Nat.le_sub_of_add_le' h)

theorem length_zip_eq {α β} {rs : List α} {ts : List β} (h : rs.length = ts.length) :
    (rs.zip ts).length = rs.length := by
  rw [List.length_zip, ← h, Nat.min_self]

theorem zip_outside {α β} (rs : List α) (ts : List β) (a b : Nat) (h : rs.length = ts.length) :
    (rs.zip ts).take a ++ (rs.zip ts).drop b =
      (rs.take a ++ rs.drop b).zip (ts.take a ++ ts.drop b) := by
  rw [List.zip_append (by rw [List.length_take, List.length_take, h])]
  simp only [List.zip, List.take_zipWith, List.drop_zipWith]

theorem zip_block {α β} (rs : List α) (ts : List β) (a n : Nat) :
    ((rs.zip ts).drop a).take n = ((rs.drop a).take n).zip ((ts.drop a).take n) := by
  simp only [List.zip, List.take_zipWith, List.drop_zipWith]

/-- `assist_swap_array2!` on a buffer split as `A ++ B ++ C ++ D` with `A` = block 0,
`C` = block `i`: the two blocks are exchanged, nothing else moves. -/
theorem swapBlock_decomp {α} (A B C D : List α) (i fs s : Nat) (hi : i ≠ 0)
    (hA : A.length = fs * s) (hAB : (A ++ B).length = fs * s * i) (hC : C.length = fs * s) :
    swapBlock (A ++ B ++ C ++ D) i fs s = C ++ B ++ A ++ D := by
  simp only [swapBlock, if_neg hi]
  rw [List.append_assoc (A ++ B) C D, ← List.drop_drop,
    List.take_left' hAB, List.drop_left' hAB, List.take_left' hC, List.drop_left' hC,
    List.drop_left' hA, List.append_assoc A B, List.take_left' hA]

/-- a buffer holding blocks `0 .. i` of width `w`, cut around block 0 and block `i` -/
theorem exists_blocks {α} (buf : List α) (i w : Nat) (hi : i ≠ 0) (h : (i + 1) * w ≤ buf.length) :
    ∃ A B C D, buf = A ++ B ++ C ++ D ∧ A.length = w ∧ (A ++ B).length = w * i ∧ C.length = w := by
  rw [Nat.succ_mul, Nat.mul_comm] at h
  have hwi : w * i ≤ buf.length := Nat.le_of_add_right_le h
  have hw : w ≤ w * i := Nat.le_mul_of_pos_right w (Nat.pos_of_ne_zero hi)
  have hAB : buf.take w ++ (buf.take (w * i)).drop w = buf.take (w * i) := by
    have e : buf.take w = (buf.take (w * i)).take w := by rw [List.take_take, Nat.min_eq_left hw]
    rw [e, List.take_append_drop]
  refine ⟨buf.take w, (buf.take (w * i)).drop w, (buf.drop (w * i)).take w, buf.drop (w * i + w),
    ?_, List.length_take_of_le (Nat.le_trans hw hwi), ?_, ?_⟩
  · rw [hAB, List.append_assoc, ← List.drop_drop, List.take_append_drop, List.take_append_drop]
  · rw [hAB]; exact List.length_take_of_le hwi
  · exact List.length_take_of_le (by rw [List.length_drop]; exact Nat.le_sub_of_add_le' h)

theorem swapBlock_involutive {α} (buf : List α) (i fs s : Nat)
    (hlen : (i + 1) * (fs * s) ≤ buf.length) :
    swapBlock (swapBlock buf i fs s) i fs s = buf := by
  by_cases hi : i = 0
  · simp only [swapBlock, hi, if_true]
  · obtain ⟨A, B, C, D, rfl, hA, hAB, hC⟩ := exists_blocks buf i (fs * s) hi hlen
    have hCB : (C ++ B).length = fs * s * i := by
      rw [List.length_append, hC, ← hA, ← List.length_append, hA]; exact hAB
    rw [swapBlock_decomp A B C D i fs s hi hA hAB hC, swapBlock_decomp C B A D i fs s hi hC hCB hA]

/-- rows of the training view of fold `i`: a permutation of the complement of block `i` -/
theorem swapBlock_drop_perm {α} (rows : List α) (i fs : Nat) (hlen : (i + 1) * fs ≤ rows.length) :
    ((swapBlock rows i fs 1).drop fs).Perm (rows.take (i * fs) ++ rows.drop ((i + 1) * fs)) := by
  by_cases hi : i = 0
  · simp [swapBlock, hi]
  · obtain ⟨A, B, C, D, rfl, hA, hAB, hC⟩ :=
      exists_blocks rows i (fs * 1) hi (by rwa [Nat.mul_one])
    rw [swapBlock_decomp A B C D i fs 1 hi hA hAB hC]
    rw [Nat.mul_one] at hA hAB hC
    rw [Nat.mul_comm] at hAB
    have hABC : (A ++ B ++ C).length = (i + 1) * fs := by
      rw [List.length_append, hAB, hC, Nat.succ_mul]
    rw [List.drop_left' hABC, List.append_assoc (A ++ B) C D, List.take_left' hAB]
    simp only [List.append_assoc]
    rw [List.drop_left' hC, ← List.append_assoc B, ← List.append_assoc A]
    exact List.perm_append_comm.append_right D

theorem mem_swapBlock {α} {buf : List α} {i fs s : Nat} {x : α} (h : x ∈ swapBlock buf i fs s) :
    x ∈ buf := by
  unfold swapBlock at h
  split at h
  · exact h
  · simp only [List.mem_append] at h
    rcases h with ((h | h) | h) | h
    · exact List.mem_of_mem_drop (List.mem_of_mem_take h)
    · exact List.mem_of_mem_take (List.mem_of_mem_drop h)
    · exact List.mem_of_mem_take h
    · exact List.mem_of_mem_drop h

/-- with every block restored after use, the loop hands each fold the buffers with blocks `0` and
`i` exchanged, first block dropped, and returns them as they were -/
theorem iterGo_spec {α β} (fs p t : Nat) (r : List α) (g : List β) :
    ∀ fuel i, (i + fuel) * (fs * p) ≤ r.length → (i + fuel) * (fs * t) ≤ g.length →
      iterGo fs p t fuel i r g =
        ((List.range' i fuel).map fun j =>
            ((swapBlock r j fs p).drop (fs * p), (swapBlock g j fs t).drop (fs * t)),
          r, g) := by
  intro fuel
  induction fuel with
  | zero => intro i _ _; rfl
  | succ f ih =>
    intro i hr hg
    rw [← Nat.succ_add_eq_add_succ] at hr hg
    -- blocks `0 .. i` fit, so the second swap undoes the first
    have hr1 := Nat.le_trans (Nat.mul_le_mul_right (fs * p) (Nat.le_add_right (i + 1) f)) hr
    have hg1 := Nat.le_trans (Nat.mul_le_mul_right (fs * t) (Nat.le_add_right (i + 1) f)) hg
    simp only [iterGo, ih (i + 1) hr hg, swapBlock_involutive r i fs p hr1,
      swapBlock_involutive g i fs t hg1, List.range'_succ, List.map_cons]

theorem sampleChunks_zip_take {α β} (n fs p t k : Nat) (a : List α) (b : List β) (h : k ≤ n / fs) :
    ((sampleChunks n fs p a).zip (sampleChunks n fs t b)).take k =
      (List.range k).map fun i =>
        ((a.drop (i * (fs * p))).take (fs * p), (b.drop (i * (fs * t))).take (fs * t)) := by
  unfold sampleChunks
  rw [List.zip_map', ← List.map_take, List.take_range, Nat.min_eq_left h]

/-- the block swap on the flat row-major buffer is the block swap on whole rows:
row boundaries are mapped to row boundaries -/
theorem swapBlock_flatten {α} (rows : List (List α)) (p i fs : Nat)
    (h : ∀ r ∈ rows, r.length = p) :
    swapBlock rows.flatten i fs p = (swapBlock rows i fs 1).flatten := by
  unfold swapBlock
  by_cases hi : i = 0
  · simp [hi]
  · simp only [hi, if_false, Nat.mul_one, List.flatten_append]
    have e1 : fs * p * i = (fs * i) * p := by
      rw [Nat.mul_assoc, Nat.mul_comm p i, ← Nat.mul_assoc]
    have e2 : fs * p * i + fs * p = (fs * i + fs) * p := by rw [Nat.add_mul, e1]
    have hd : ∀ m, ∀ r ∈ rows.drop m, r.length = p := fun m r hr => h r (List.mem_of_mem_drop hr)
    have ht : ∀ m, ∀ r ∈ rows.take m, r.length = p := fun m r hr => h r (List.mem_of_mem_take hr)
    rw [e2, e1, drop_flatten_uniform rows p _ h, drop_flatten_uniform rows p _ h,
      take_flatten_uniform rows p _ h, take_flatten_uniform rows p _ h,
      take_flatten_uniform _ p _ (hd _), drop_flatten_uniform _ p _ (ht _)]

end LinfaSpec.Fold
