/-
The multi-task part of C11.  Matrices are lists of rows; `colK`/`colsOf` read their columns, `frob` is the Frobenius
inner product ("column by column = row by row").  First the duality side: Cauchy–Schwarz on lists, Hölder for the
(max row norm, sum of row norms) pair, multi-task weak duality over ℝ, and `objectiveMtl` / `dualityGapMtl` written in
these terms.  Then the modelled solver: the invariant `R = Y − XW` of block coordinate descent through `bcdCoord`,
the sweep and the loop, what `compute_intercept` returns for a 2-D target, and the block update as an argmin.
-/
import LinfaSpec.Proofs.LeastSquares
import LinfaSpec.Proofs.Lists
import Mathlib.Analysis.SpecialFunctions.Log.Basic
import Mathlib.Analysis.Real.Sqrt

namespace LinfaSpec.LeastSquares
open LinfaSpec

noncomputable instance realTranscC11 : Transc ℝ := ⟨Real.sqrt, Real.exp, Real.log⟩

/-- Frobenius inner product of two lists of vectors (rows or columns alike) -/
def frob {α : Type} [Field α] (A B : List (List α)) : α := (List.zipWith dot A B).sum

/-- column `k` of a matrix given by its rows -/
def colK {α : Type} [OfNat α 0] (k : Nat) (M : List (List α)) : List α := M.map fun row => row.getD k 0

section field
variable {α : Type} [Field α] [LinearOrder α] [IsStrictOrderedRing α]

section
omit [LinearOrder α] [IsStrictOrderedRing α]

theorem colsOf_eq (t : Nat) (M : List (List α)) : colsOf t M = (List.range t).map fun k => colK k M := rfl

theorem dot_eq_sum_range (t : Nat) (a b : List α) (ha : a.length = t) (hb : b.length = t) :
    dot a b = ((List.range t).map fun k => a.getD k 0 * b.getD k 0).sum := by
  induction t generalizing a b with
  | zero =>
    have : a = [] := List.length_eq_zero_iff.mp ha
    subst this; simp
  | succ t ih =>
    cases a with
    | nil => simp at ha
    | cons x xs => cases b with
      | nil => simp at hb
      | cons y ys =>
        rw [List.range_succ_eq_map]
        simp only [List.map_cons, List.map_map, List.sum_cons, dot_cons, List.getD_cons_zero]
        rw [ih xs ys (by simpa using ha) (by simpa using hb)]
        congr 2

theorem sum_flatten_sq (M : List (List α)) : (M.flatten.map fun x => x * x).sum = frob M M := by
  induction M with
  | nil => simp [frob]
  | cons r M ih =>
    simp only [List.flatten_cons, List.map_append, List.sum_append, ih, frob, List.zipWith_cons_cons, List.sum_cons]
    congr 1
    induction r with
    | nil => simp
    | cons x xs ihx => simp [ihx]

theorem zipWith_map_map_self {ι β γ δ : Type} (F : β → γ → δ) (f : ι → β) (g : ι → γ) (l : List ι) :
    List.zipWith F (l.map f) (l.map g) = l.map fun k => F (f k) (g k) := by
  rw [List.zipWith_map, List.zipWith_self]

theorem colK_length (k : Nat) (M : List (List α)) : (colK k M).length = M.length := by simp [colK]

theorem zipWith_map_range_getD {β δ : Type} (F : β → α → δ) (f : Nat → β) (t : Nat) (b : List α) (hb : b.length = t) :
    List.zipWith F ((List.range t).map f) b = (List.range t).map fun k => F (f k) (b.getD k 0) := by
  apply List.ext_getElem (by simp [hb])
  intro i h1 h2
  have hi : i < b.length := by simp at h1; omega
  simp [List.getD_eq_getElem?_getD, hi]

theorem xta_row_length (t : Nat) (C : List (List α)) (W R : List (List α)) (l2 : α)
    (hW : ∀ wj ∈ W, wj.length = t) :
    ∀ row ∈ List.zipWith (fun c wj => List.zipWith (fun rk wjk => dot c rk - wjk * l2) (colsOf t R) wj) C W,
      row.length = t := by
  induction C generalizing W with
  | nil => simp
  | cons c C ih =>
    cases W with
    | nil => simp
    | cons wj W =>
      intro row hrow
      simp only [List.zipWith_cons_cons, List.mem_cons] at hrow
      rcases hrow with rfl | h
      · simp [colsOf, hW wj (by simp)]
      · exact ih W (fun x hx => hW x (by simp [hx])) row h

theorem rankOne_length (neg : Bool) (cj v : List α) (R : List (List α)) (h : cj.length = R.length) :
    (rankOne neg cj v R).length = R.length := by simp [rankOne, h]

theorem rankOne_rows (neg : Bool) (t : Nat) (cj v : List α) (R : List (List α)) (hv : v.length = t)
    (hR : ∀ r ∈ R, r.length = t) : ∀ r ∈ rankOne neg cj v R, r.length = t := by
  intro r hr
  simp only [rankOne, List.mem_iff_getElem, List.length_zipWith] at hr
  obtain ⟨i, hi, rfl⟩ := hr
  simp only [List.getElem_zipWith, List.length_zipWith, hv]
  rw [hR _ (List.getElem_mem _)]; simp

theorem colK_set (k j : Nat) (W : List (List α)) (new : List α) :
    colK k (W.set j new) = (colK k W).set j (new.getD k 0) := by
  simp [colK, List.map_set]

theorem colK_getD (k j : Nat) (W : List (List α)) (hj : j < W.length) :
    (colK k W).getD j 0 = (W.getD j []).getD k 0 := by
  simp [colK, List.getD_eq_getElem?_getD, hj]

end

section
set_option linter.unusedSectionVars false

/-- summing column by column is summing row by row -/
theorem frob_colsOf (t : Nat) (A B : List (List α)) (hA : ∀ a ∈ A, a.length = t) (hB : ∀ b ∈ B, b.length = t) :
    ((List.range t).map fun k => dot (colK k A) (colK k B)).sum = frob A B := by
  induction A generalizing B with
  | nil => simp [colK, frob]
  | cons a A ih =>
    cases B with
    | nil => simp [colK, frob]
    | cons b B =>
      have h1 : ∀ k, dot (colK k (a :: A)) (colK k (b :: B)) = a.getD k 0 * b.getD k 0 + dot (colK k A) (colK k B) := by
        intro k; simp [colK]
      simp only [h1, List.sum_map_add]
      rw [ih B (fun x hx => hA x (by simp [hx])) (fun x hx => hB x (by simp [hx]))]
      rw [← dot_eq_sum_range t a b (hA a (by simp)) (hB b (by simp))]
      simp [frob]

/-- column `k` of the matrix `XᵀR − l2·W` (as the model builds it, row by row) is the single-task
`Xᵀ r_k − l2·w_k` of task `k` -/
theorem colK_xta (t k : Nat) (hk : k < t) (C : List (List α)) (W R : List (List α)) (l2 : α)
    (hW : ∀ wj ∈ W, wj.length = t) :
    colK k (List.zipWith (fun c wj => List.zipWith (fun rk wjk => dot c rk - wjk * l2) (colsOf t R) wj) C W)
      = List.zipWith (fun c wjk => dot c (colK k R) - wjk * l2) C (colK k W) := by
  induction C generalizing W with
  | nil => simp [colK]
  | cons c C ih =>
    cases W with
    | nil => simp [colK]
    | cons wj W =>
      have := ih W (fun x hx => hW x (by simp [hx]))
      simp only [colK, List.zipWith_cons_cons, List.map_cons] at this ⊢
      rw [this, colsOf_eq, zipWith_map_range_getD _ _ t wj (hW wj (by simp))]
      simp [List.getD_eq_getElem?_getD, hk, colK]

/-- transposing twice gives the matrix back -/
theorem colsOf_colsOf (t n : Nat) (cols : List (List α)) (hlen : cols.length = t)
    (hc : ∀ c ∈ cols, c.length = n) : colsOf t (colsOf n cols) = cols := by
  apply List.ext_getElem (by simp [colsOf, hlen])
  intro k h1 h2
  have hk : k < cols.length := h2
  have hcl : (cols[k]).length = n := hc _ (List.getElem_mem hk)
  simp only [colsOf, List.getElem_map, List.getElem_range, List.map_map]
  apply List.ext_getElem (by simp [hcl])
  intro i h3 h4
  simp [List.getD_eq_getElem?_getD, hk, h4]

theorem residualMtl_spec (t : Nat) (C : List (List α)) (Y W : List (List α)) (hC : ∀ c ∈ C, c.length = Y.length) :
    (residualMtl t C Y W).length = Y.length ∧ (∀ r ∈ residualMtl t C Y W, r.length = t) ∧
      colsOf t (residualMtl t C Y W)
        = List.zipWith (fun yk wk => LeastSquares.residual C yk wk 0) (colsOf t Y) (colsOf t W) := by
  refine ⟨by simp [residualMtl, colsOf], ?_, ?_⟩
  · intro r hr
    simp only [residualMtl, colsOf, List.mem_map, List.mem_range] at hr
    obtain ⟨i, _, rfl⟩ := hr
    simp
  · unfold residualMtl
    apply colsOf_colsOf
    · simp [colsOf]
    · intro c hc
      rw [colsOf_eq, colsOf_eq, zipWith_map_map_self] at hc
      obtain ⟨k, _, rfl⟩ := List.mem_map.mp hc
      rw [residual_length C _ _ 0 (by intro c hc'; rw [colK_length]; exact hC c hc'), colK_length]

theorem colK_rankOne (neg : Bool) (t k : Nat) (hk : k < t) (cj v : List α) (R : List (List α)) (hv : v.length = t)
    (hR : ∀ r ∈ R, r.length = t) :
    colK k (rankOne neg cj v R) = axpy (if neg then -(v.getD k 0) else v.getD k 0) cj (colK k R) := by
  unfold colK rankOne axpy
  apply List.ext_getElem (by simp)
  intro i h1 h2
  have hi : i < R.length := by simp at h1; omega
  have hrl : (R[i]).length = t := hR _ (List.getElem_mem hi)
  have hk1 : k < (R[i]).length := by omega
  have hk2 : k < v.length := by omega
  simp only [List.getElem_map, List.getElem_zipWith, List.getD_eq_getElem?_getD]
  rw [List.getElem?_zipWith]
  simp only [List.getElem?_eq_getElem hk1, List.getElem?_eq_getElem hk2, Option.getD_some]
  cases neg <;> simp only [Bool.false_eq_true, if_false, if_true] <;> ring

end

/-- a binary quadratic form that is non-negative everywhere has non-positive discriminant -/
theorem sq_le_mul_of_quad_nonneg (A B d : α) (h : ∀ s t : α, 0 ≤ s ^ 2 * A + 2 * s * t * d + t ^ 2 * B) :
    d ^ 2 ≤ A * B := by
  have hA : 0 ≤ A := by linear_combination h 1 0
  have hB : 0 ≤ B := by linear_combination h 0 1
  -- the form at `(B, −d)` and at `(−d, A)`
  have h1 : 0 ≤ (A + B) * (A * B - d ^ 2) := by linear_combination h B (-d) + h (-d) A
  rcases (add_nonneg hA hB).eq_or_lt with h0 | hpos
  · obtain ⟨rfl, rfl⟩ := (add_eq_zero_iff_of_nonneg hA hB).mp h0.symm
    linear_combination 1 / 2 * h 1 (-d)
  · exact sub_nonneg.mp (nonneg_of_mul_nonneg_right h1 hpos)

/-- Cauchy–Schwarz for lists -/
theorem dot_sq_le (a b : List α) : dot a b ^ 2 ≤ dot a a * dot b b :=
  sq_le_mul_of_quad_nonneg _ _ _ (dot_quad_nonneg a b)

/-- a linear combination of termwise inequalities, summed over an index list -/
theorem sum_col_ineq {ι : Type} (l : List ι) (a b d e f g : ι → α) (c l2 : α)
    (h : ∀ k ∈ l, c * a k - 1 / 2 * c ^ 2 * b k - 1 / 2 * l2 * c ^ 2 * d k - c * e k ≤ 1 / 2 * f k + 1 / 2 * l2 * g k) :
    c * (l.map a).sum - 1 / 2 * c ^ 2 * (l.map b).sum - 1 / 2 * l2 * c ^ 2 * (l.map d).sum - c * (l.map e).sum ≤
      1 / 2 * (l.map f).sum + 1 / 2 * l2 * (l.map g).sum := by
  induction l with
  | nil => simp
  | cons x xs ih =>
    simp only [List.map_cons, List.sum_cons]
    linear_combination h x List.mem_cons_self + ih fun k hk => h k (List.mem_cons_of_mem _ hk)

theorem dot_self_eq_zero (v : List α) (h : dot v v = 0) : ∀ x ∈ v, x = 0 := by
  induction v with
  | nil => simp
  | cons a as ih =>
    simp only [dot_cons] at h
    have h1 := dot_self_nonneg as
    have h2 := mul_self_nonneg a
    have ha : a * a = 0 := by linarith
    have has : dot as as = 0 := by linarith
    intro x hx
    rcases List.mem_cons.mp hx with rfl | hx
    · exact mul_self_eq_zero.mp ha
    · exact ih has x hx

section
omit [IsStrictOrderedRing α]
theorem blockSoft_length [Transc α] (x : List α) (thr : α) : (blockSoft x thr).length = x.length := by
  unfold blockSoft
  by_cases h : norm2U x ≤ thr <;> simp [h]
end

end field

theorem norm2U_eq (x : List ℝ) : norm2U x = Real.sqrt (dot x x) := by
  unfold norm2U; rw [dotU_eq]; rfl

theorem dot_le_norm_mul (a b : List ℝ) : dot a b ≤ Real.sqrt (dot a a) * Real.sqrt (dot b b) := by
  have h := dot_sq_le a b
  have h1 : |dot a b| ≤ Real.sqrt (dot a a * dot b b) := Real.abs_le_sqrt h
  rw [Real.sqrt_mul (dot_self_nonneg a)] at h1
  exact le_trans (le_abs_self _) h1

/-- Hölder for the pair (max row norm, sum of row norms) -/
theorem holder_rows (A B : List (List ℝ)) (dn : ℝ) (hdn0 : 0 ≤ dn)
    (h : ∀ a ∈ A, Real.sqrt (dot a a) ≤ dn) :
    frob A B ≤ dn * (B.map fun b => Real.sqrt (dot b b)).sum :=
  sum_zipWith_le_mul_sum dot (fun b => Real.sqrt (dot b b)) dn hdn0 (fun _ => Real.sqrt_nonneg _) A B fun a ha b =>
    (dot_le_norm_mul a b).trans (mul_le_mul_of_nonneg_right (h a ha) (Real.sqrt_nonneg _))

/-- **multi-task weak duality** (for an arbitrary matrix `R`): for every scaling `c ≥ 0` with
`c · max_j ‖(XᵀR − l2·W)_j‖₂ ≤ l1`, the dual value is below the primal value at every `W'`.
Matrices are lists of rows; `Y`, `R` : `n` rows of `t`; `W`, `W'` : `p` rows of `t`. -/
theorem weak_duality_mtl (t : Nat) (C : List (List ℝ)) (Y W W' R : List (List ℝ)) (l1 l2 c dn : ℝ)
    (hC : ∀ c ∈ C, c.length = Y.length) (hRn : R.length = Y.length)
    (hR : ∀ r ∈ R, r.length = t) (hY : ∀ y ∈ Y, y.length = t)
    (hWp : W.length = C.length) (hW : ∀ wj ∈ W, wj.length = t)
    (hWp' : W'.length = C.length) (hW' : ∀ wj ∈ W', wj.length = t)
    (hl2 : 0 ≤ l2) (hc : 0 ≤ c) (hcd : c * dn ≤ l1) (hdn0 : 0 ≤ dn)
    (hdn : ∀ row ∈ List.zipWith (fun cj wj => List.zipWith (fun rk wjk => dot cj rk - wjk * l2) (colsOf t R) wj) C W,
      Real.sqrt (dot row row) ≤ dn) :
    c * frob R Y - 1 / 2 * c ^ 2 * frob R R - 1 / 2 * l2 * c ^ 2 * frob W W ≤
      1 / 2 * ((List.range t).map fun k =>
          dot (List.zipWith (fun yi xi => yi - xi) (colK k Y) (matVec Y.length C (colK k W')))
            (List.zipWith (fun yi xi => yi - xi) (colK k Y) (matVec Y.length C (colK k W')))).sum
        + l1 * (W'.map fun wj => Real.sqrt (dot wj wj)).sum + 1 / 2 * l2 * frob W' W' := by
  set XTA := List.zipWith (fun cj wj => List.zipWith (fun rk wjk => dot cj rk - wjk * l2) (colsOf t R) wj) C W
    with hXTA
  have hcol : ∀ k ∈ List.range t,
      c * dot (colK k R) (colK k Y) - 1 / 2 * c ^ 2 * dot (colK k R) (colK k R)
          - 1 / 2 * l2 * c ^ 2 * dot (colK k W) (colK k W) - c * dot (colK k XTA) (colK k W') ≤
        1 / 2 * dot (List.zipWith (fun yi xi => yi - xi) (colK k Y) (matVec Y.length C (colK k W')))
            (List.zipWith (fun yi xi => yi - xi) (colK k Y) (matVec Y.length C (colK k W')))
          + 1 / 2 * l2 * dot (colK k W') (colK k W') := by
    intro k hk
    have hk' : k < t := List.mem_range.mp hk
    have := col_ineq C (colK k Y) (colK k W) (colK k W') (colK k R) l2 c
      (by intro c hc; rw [colK_length]; exact hC c hc) (by rw [colK_length, hWp]) (by rw [colK_length, hWp'])
      (by rw [colK_length, colK_length, hRn]) hl2
    rw [colK_length] at this
    rw [hXTA, colK_xta t k hk' C W R l2 hW]
    exact this
  have hsum := sum_col_ineq (List.range t) _ _ _ _ _ _ c l2 hcol
  rw [frob_colsOf t R Y hR hY, frob_colsOf t R R hR hR, frob_colsOf t W W hW hW, frob_colsOf t W' W' hW' hW',
    frob_colsOf t XTA W' (by rw [hXTA]; exact xta_row_length t C W R l2 hW) hW'] at hsum
  have f5 := scaled_holder (holder_rows XTA W' dn hdn0 hdn) hc hcd
    (sum_map_nonneg _ (fun _ => Real.sqrt_nonneg _) W')
  linear_combination hsum + f5

/-- `objectiveMtl` with arbitrary intercepts, unfolded task by task -/
theorem objectiveMtl_eq_b (t : Nat) (C : List (List ℝ)) (Y W : List (List ℝ)) (b : List ℝ) (l1r pen n : ℝ)
    (hW : ∀ wj ∈ W, wj.length = t) (hb : b.length = t) :
    objectiveMtl C (colsOf t Y) (colsOf t W) W b l1r pen n
      = 1 / 2 * ((List.range t).map fun k =>
            dot (residual C (colK k Y) (colK k W) (b.getD k 0))
              (residual C (colK k Y) (colK k W) (b.getD k 0))).sum
        + l1r * pen * n * (W.map fun wj => Real.sqrt (dot wj wj)).sum
        + 1 / 2 * ((1 - l1r) * pen * n) * frob W W := by
  have hn2 : (norm2U : List ℝ → ℝ) = fun wj => Real.sqrt (dot wj wj) := funext norm2U_eq
  unfold objectiveMtl
  simp only [colsOf_eq, List.zip_map', sumS_eq_sum, dotS_eq, half_eq, hn2, List.map_map]
  rw [zipWith_map_range_getD _ _ t b hb]
  have h3 : (List.map ((fun w => dot w w) ∘ fun k => colK k W) (List.range t)).sum = frob W W :=
    frob_colsOf t W W hW hW
  rw [h3]

theorem objectiveMtl_eq (t : Nat) (C : List (List ℝ)) (Y W : List (List ℝ)) (l1r pen n : ℝ)
    (hW : ∀ wj ∈ W, wj.length = t) :
    objectiveMtl C (colsOf t Y) (colsOf t W) W (List.replicate t 0) l1r pen n
      = 1 / 2 * ((List.range t).map fun k =>
            dot (residual C (colK k Y) (colK k W) 0) (residual C (colK k Y) (colK k W) 0)).sum
        + l1r * pen * n * (W.map fun wj => Real.sqrt (dot wj wj)).sum
        + 1 / 2 * ((1 - l1r) * pen * n) * frob W W := by
  rw [objectiveMtl_eq_b t C Y W _ l1r pen n hW List.length_replicate]
  simp only [getD_replicate_self]

/-- `duality_gap_mtl` computes the same function of its scalars as `duality_gap` -/
theorem dualityGapMtl_eq (t : Nat) (C : List (List ℝ)) (Y W R : List (List ℝ)) (l1r pen n : ℝ)
    (hRt : ∀ r ∈ R, r.length = t) (hY : ∀ y ∈ Y, y.length = t) :
    dualityGapMtl t C Y W R l1r pen n
      = gapValue (l1r * pen * n) ((1 - l1r) * pen * n)
          (normMax ((List.zipWith (fun c wj => List.zipWith (fun rk wjk => dot c rk - wjk * ((1 - l1r) * pen * n))
            (colsOf t R) wj) C W).map fun wj => Real.sqrt (dot wj wj)))
          (frob R R) (frob W W) (frob R Y) (W.map fun wj => Real.sqrt (dot wj wj)).sum := by
  have hn2 : (norm2U : List ℝ → ℝ) = fun wj => Real.sqrt (dot wj wj) := funext norm2U_eq
  have htr : (List.zipWith (fun a b => dot a b) (colsOf t R) (colsOf t Y)).sum = frob R Y := by
    rw [colsOf_eq, colsOf_eq, zipWith_map_map_self]
    exact frob_colsOf t R Y hRt hY
  simp only [dualityGapMtl, dualNormMtl, gapValue, sumS_eq_sum, sumU_eq, dotS_eq, half_eq, sum_flatten_sq, htr, hn2]

/-- the guard `‖v‖₂ != 0` only skips updates that change nothing -/
theorem rankOne_if_zero (neg : Bool) (t : Nat) (cj v : List ℝ) (R : List (List ℝ)) (hv : v.length = t)
    (hR : ∀ r ∈ R, r.length = t) (hcj : cj.length = R.length) :
    (if absS (norm2U v) ≤ 0 then R else rankOne neg cj v R) = rankOne neg cj v R := by
  split
  · rename_i h0
    rw [absS_eq_abs, norm2U_eq] at h0
    have h1 : Real.sqrt (dot v v) = 0 := abs_nonpos_iff.mp h0
    have h2 : dot v v = 0 := le_antisymm (Real.sqrt_eq_zero'.mp h1) (dot_self_nonneg v)
    have hz := dot_self_eq_zero v h2
    unfold rankOne
    apply List.ext_getElem (by simp [hcj])
    intro i h3 h4
    simp only [List.getElem_zipWith]
    have hrl : (R[i]).length = t := hR _ (List.getElem_mem h3)
    apply List.ext_getElem (by simp [hrl, hv])
    intro k h5 h6
    have : v[k]'(by simp at h6; omega) = 0 := hz _ (List.getElem_mem _)
    simp only [List.getElem_zipWith, this]
    cases neg <;> simp
  · rfl

/-- the invariant of the multi-task descent: shapes, and `R = Y − XW` task by task -/
def BcdInv (t : Nat) (C : List (List ℝ)) (Y : List (List ℝ)) (st : BcdState ℝ) : Prop :=
  st.r.length = Y.length ∧ (∀ r ∈ st.r, r.length = t) ∧ st.w.length = C.length ∧ (∀ wj ∈ st.w, wj.length = t) ∧
    ∀ k, k < t → colK k st.r = LeastSquares.residual C (colK k Y) (colK k st.w) 0

theorem bcdCoord_inv (contig : Bool) (t : Nat) (thr denAdd : ℝ) (C : List (List ℝ)) (Y : List (List ℝ))
    (st : BcdState ℝ) (j : Nat) (cj : List ℝ) (nrm : ℝ) (hC : ∀ c ∈ C, c.length = Y.length)
    (hcj : C[j]? = some cj) (h : BcdInv t C Y st) : BcdInv t C Y (bcdCoord contig t thr denAdd st j cj nrm) := by
  obtain ⟨hrn, hrt, hwp, hwt, hres⟩ := h
  unfold bcdCoord
  split
  · exact ⟨hrn, hrt, hwp, hwt, hres⟩
  · have hcjl : cj.length = Y.length := hC cj (List.mem_of_getElem? hcj)
    have hj : j < st.w.length := by
      rw [hwp]; exact (List.getElem?_eq_some_iff.mp hcj).1
    have hold : (st.w.getD j []).length = t := by
      rw [List.getD_eq_getElem?_getD, List.getElem?_eq_getElem hj]
      exact hwt _ (List.getElem_mem hj)
    dsimp only
    generalize hold' : st.w.getD j [] = old at hold
    rw [rankOne_if_zero false t cj old st.r hold hrt (by rw [hcjl, hrn])]
    set r1 := rankOne false cj old st.r with hr1
    have hr1n : r1.length = Y.length := by rw [hr1, rankOne_length _ _ _ _ (by rw [hcjl, hrn]), hrn]
    have hr1t : ∀ r ∈ r1, r.length = t := rankOne_rows false t cj old st.r hold hrt
    generalize hnew : List.map (fun x => x / (nrm + denAdd))
      (blockSoft (List.map (fun rc => dotC (contig && t == 1) rc cj) (colsOf t r1)) thr) = new
    have hnewl : new.length = t := by
      rw [← hnew]; simp [blockSoft_length, colsOf]
    rw [rankOne_if_zero true t cj new r1 hnewl hr1t (by rw [hcjl, hr1n])]
    refine ⟨?_, ?_, by simp [hwp], ?_, ?_⟩
    · rw [rankOne_length _ _ _ _ (by rw [hcjl, hr1n]), hr1n]
    · exact rankOne_rows true t cj new r1 hnewl hr1t
    · intro wj hwj
      rcases List.mem_or_eq_of_mem_set hwj with h | h
      · exact hwt wj h
      · rw [h]; exact hnewl
    · intro k hk
      rw [colK_rankOne true t k hk cj new r1 hnewl hr1t, hr1, colK_rankOne false t k hk cj old st.r hold hrt,
        colK_set, hres k hk]
      simp only [if_true, Bool.false_eq_true, if_false]
      have hg : old.getD k 0 = (colK k st.w).getD j 0 := by rw [colK_getD k j st.w hj, hold']
      rw [hg]
      exact residual_set C (colK k Y) (colK k st.w) j cj (new.getD k 0)
        (by intro c hc; rw [colK_length]; exact hC c hc) (by rw [colK_length, hwp]) hcj

theorem bcdSweepGo_inv (contig : Bool) (t : Nat) (thr denAdd : ℝ) (C : List (List ℝ)) (Y : List (List ℝ))
    (hC : ∀ c ∈ C, c.length = Y.length) (Cr : List (List ℝ)) :
    ∀ (j : Nat) (ns : List ℝ) (st : BcdState ℝ), (∀ k, Cr[k]? = C[j + k]?) → BcdInv t C Y st →
      BcdInv t C Y (bcdSweepGo contig t thr denAdd j Cr ns st) := by
  induction Cr with
  | nil => intro j ns st _ h; simpa [bcdSweepGo] using h
  | cons c Cr ih =>
    intro j ns st hk h
    cases ns with
    | nil => simpa [bcdSweepGo] using h
    | cons nrm ns =>
      simp only [bcdSweepGo]
      apply ih
      · intro k
        have := hk (k + 1)
        simp only [List.getElem?_cons_succ] at this
        rw [this]; congr 1; omega
      · apply bcdCoord_inv contig t thr denAdd C Y st j c nrm hC _ h
        have := hk 0
        simpa using this.symm

theorem bcdLoop_certificate (contig : Bool) (t : Nat) (eps thr denAdd : ℝ) (C : List (List ℝ)) (norms : List ℝ)
    (Y : List (List ℝ)) (n tol tolS l1r pen : ℝ) (maxSteps : Nat) (hC : ∀ c ∈ C, c.length = Y.length) :
    ∀ (fuel steps : Nat) (w r : List (List ℝ)) (gap : ℝ) (w' : List (List ℝ)) (g' : ℝ) (s' : Nat),
      BcdInv t C Y { w := w, r := r, wMax := 0, dwMax := 0 } →
      bcdLoop contig t eps thr denAdd C norms Y n tol tolS l1r pen maxSteps fuel steps w r gap = (w', g', s') →
      s' ≤ steps + fuel ∧
        (s' < steps + fuel → ∃ r', BcdInv t C Y { w := w', r := r', wMax := 0, dwMax := 0 } ∧
          g' = dualityGapMtl t C Y w' r' l1r pen n ∧ g' < tolS) := by
  intro fuel
  induction fuel with
  | zero =>
    intro steps w r gap w' g' s' _ h
    simp only [bcdLoop, Prod.mk.injEq] at h
    obtain ⟨rfl, rfl, rfl⟩ := h
    exact ⟨le_refl _, fun h => absurd h (lt_irrefl _)⟩
  | succ fuel ih =>
    intro steps w r gap w' g' s' hinv0 h
    have hinv : BcdInv t C Y (bcdSweepGo contig t thr denAdd 0 C norms { w := w, r := r, wMax := 0, dwMax := 0 }) :=
      bcdSweepGo_inv contig t thr denAdd C Y hC C 0 norms _ (fun k => by simp) hinv0
    simp only [bcdLoop] at h
    generalize bcdSweepGo contig t thr denAdd 0 C norms { w := w, r := r, wMax := 0, dwMax := 0 } = st at hinv h
    have hinv' : BcdInv t C Y { w := st.w, r := st.r, wMax := 0, dwMax := 0 } := hinv
    split at h
    · split at h
      · rename_i hg
        simp only [Prod.mk.injEq] at h
        obtain ⟨rfl, rfl, rfl⟩ := h
        exact ⟨by omega, fun _ => ⟨st.r, hinv', rfl, hg⟩⟩
      · have := ih (steps + 1) st.w st.r _ w' g' s' hinv' h
        exact ⟨by omega, fun hlt => this.2 (by omega)⟩
    · have := ih (steps + 1) st.w st.r _ w' g' s' hinv' h
      exact ⟨by omega, fun hlt => this.2 (by omega)⟩

theorem bcdInv_hres (t : Nat) (C : List (List ℝ)) (Y : List (List ℝ)) (st : BcdState ℝ) (h : BcdInv t C Y st) :
    colsOf t st.r = List.zipWith (fun yk wk => LeastSquares.residual C yk wk 0) (colsOf t Y) (colsOf t st.w) := by
  rw [colsOf_eq, colsOf_eq, colsOf_eq, zipWith_map_map_self]
  apply List.map_congr_left
  intro k hk
  exact h.2.2.2.2 k (List.mem_range.mp hk)

theorem bcdInv_start (t : Nat) (C : List (List ℝ)) (Y : List (List ℝ)) (hC : ∀ c ∈ C, c.length = Y.length)
    (hY : ∀ y ∈ Y, y.length = t) :
    BcdInv t C Y { w := List.replicate C.length (List.replicate t 0), r := Y, wMax := 0, dwMax := 0 } := by
  refine ⟨rfl, hY, by simp, ?_, ?_⟩
  · intro wj hwj
    rw [List.eq_of_mem_replicate hwj]; simp
  · intro k hk
    have : colK k (List.replicate C.length (List.replicate t (0 : ℝ))) = List.replicate C.length 0 := by
      simp [colK, hk]
    simp only [this]
    exact (residual_zero_start C (colK k Y) (by intro c hc; rw [colK_length]; exact hC c hc)).symm

/-- what `compute_intercept` returns for a 2-D target: shapes, and task `k` of the centred target is task `k`
of the target minus its mean -/
theorem computeInterceptMtl_spec (t : Nat) (Y : List (List ℝ)) (n : ℝ) (hY : ∀ y ∈ Y, y.length = t) :
    (computeInterceptMtl true t Y n).1.length = t ∧
    (computeInterceptMtl true t Y n).2.length = Y.length ∧
    (∀ y ∈ (computeInterceptMtl true t Y n).2, y.length = t) ∧
    ∀ k, k < t → (computeInterceptMtl true t Y n).1.getD k 0 = (colK k Y).sum / n ∧
      colK k (computeInterceptMtl true t Y n).2 = (colK k Y).map (· - (colK k Y).sum / n) := by
  simp only [computeInterceptMtl, if_true]
  refine ⟨by simp [colsOf], by simp, ?_, ?_⟩
  · intro y hy
    obtain ⟨row, hrow, rfl⟩ := List.mem_map.mp hy
    simp [colsOf, hY row hrow]
  · intro k hk
    have hm : (List.map (fun c => sumS c / n) (colsOf t Y)).getD k 0 = (colK k Y).sum / n := by
      simp [colsOf_eq, List.getD_eq_getElem?_getD, hk, sumS_eq_sum]
    refine ⟨hm, ?_⟩
    unfold colK
    rw [List.map_map, List.map_map]
    apply List.map_congr_left
    intro row hrow
    have hrl : k < row.length := by rw [hY row hrow]; exact hk
    simp only [Function.comp]
    have hm' : (List.map (fun c => sumS c / n) (colsOf t Y)).getD k 0
        = (List.map (fun row => row.getD k 0) Y).sum / n := hm
    rw [← hm']
    have hMl : (List.map (fun c => sumS c / n) (colsOf t Y)).length = t := by simp [colsOf]
    generalize List.map (fun c => sumS c / n) (colsOf t Y) = M at hMl ⊢
    have hk2 : k < M.length := by omega
    simp [List.getD_eq_getElem?_getD, hrl, hk2]

theorem fitMtl_eq (contig : Bool) (t : Nat) (eps : ℝ) (C : List (List ℝ)) (Y : List (List ℝ)) (n tol : ℝ)
    (maxSteps : Nat) (l1r pen : ℝ) (wi : Bool) :
    fitMtl contig t eps C Y n tol maxSteps l1r pen wi
      = ((computeInterceptMtl wi t Y n).1,
          blockCoordinateDescent contig t eps C (computeInterceptMtl wi t Y n).2 n tol maxSteps l1r pen) := rfl

theorem dot_replicate_zero_left (n : Nat) (z : List ℝ) : dot (List.replicate n 0) z = 0 := by
  rw [dot_comm]; exact dot_replicate_zero z n

/-- the block update is `x` scaled by some `c ≥ 0`, and its norm `c·‖x‖` is the scalar soft-threshold of `‖x‖` -/
theorem blockSoft_div_eq (x : List ℝ) (thr den : ℝ) (hthr : 0 ≤ thr) (hden : 0 < den) :
    ∃ c, 0 ≤ c ∧ (blockSoft x thr).map (· / den) = x.map (· * c) ∧
      c * Real.sqrt (dot x x) = softThreshold (Real.sqrt (dot x x)) thr den := by
  have ha0 : 0 ≤ Real.sqrt (dot x x) := Real.sqrt_nonneg _
  unfold blockSoft
  rw [norm2U_eq, softThreshold_nonneg_arg _ thr den ha0]
  generalize Real.sqrt (dot x x) = a at ha0
  by_cases h : a ≤ thr
  · refine ⟨0, le_rfl, ?_, ?_⟩
    · rw [if_pos h]; simp
    · rw [max_eq_right (sub_nonpos.mpr h), zero_mul, zero_div]
  · have hlt : thr < a := lt_of_not_ge h
    have ha : a ≠ 0 := (hthr.trans_lt hlt).ne'
    refine ⟨(1 - thr / a) / den, div_nonneg (sub_nonneg.mpr ((div_le_one (hthr.trans_lt hlt)).mpr hlt.le)) hden.le, ?_, ?_⟩
    · rw [if_neg h, List.map_map]
      apply List.map_congr_left
      intro v _
      simp only [Function.comp]; ring
    · rw [max_eq_left (sub_pos.mpr hlt).le]; field_simp

/-- **the block update is the exact minimiser of the per-feature subproblem**: Cauchy–Schwarz reduces the
problem in `z` to the scalar problem in `‖z‖` that `soft_threshold_argmin` solves -/
theorem blockSoft_argmin (x z : List ℝ) (thr den : ℝ) (hthr : 0 ≤ thr) (hden : 0 < den) :
    1 / 2 * den * dot ((blockSoft x thr).map (· / den)) ((blockSoft x thr).map (· / den))
        - dot x ((blockSoft x thr).map (· / den))
        + thr * Real.sqrt (dot ((blockSoft x thr).map (· / den)) ((blockSoft x thr).map (· / den)))
      ≤ 1 / 2 * den * dot z z - dot x z + thr * Real.sqrt (dot z z) := by
  obtain ⟨c, hc0, hw, hcτ⟩ := blockSoft_div_eq x thr den hthr hden
  have ha0 : 0 ≤ Real.sqrt (dot x x) := Real.sqrt_nonneg _
  have haa : Real.sqrt (dot x x) * Real.sqrt (dot x x) = dot x x := Real.mul_self_sqrt (dot_self_nonneg x)
  have hs0 : 0 ≤ Real.sqrt (dot z z) := Real.sqrt_nonneg _
  have hss : Real.sqrt (dot z z) * Real.sqrt (dot z z) = dot z z := Real.mul_self_sqrt (dot_self_nonneg z)
  have hcs := dot_le_norm_mul x z
  have hsc := soft_threshold_argmin (Real.sqrt (dot x x)) thr den (Real.sqrt (dot z z)) hthr hden
  rw [← hcτ, abs_of_nonneg (mul_nonneg hc0 ha0), abs_of_nonneg hs0] at hsc
  rw [hw, dot_map_mul_self, dot_map_mul_right, Real.sqrt_mul (sq_nonneg c), Real.sqrt_sq hc0]
  linear_combination hsc + hcs - (1 / 2 * den * c ^ 2 - c) * haa + (1 / 2 * den) * hss
end LinfaSpec.LeastSquares
