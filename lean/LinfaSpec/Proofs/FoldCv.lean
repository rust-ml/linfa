import LinfaSpec.Model.Fold
import LinfaSpec.Proofs.Lists
import Mathlib.Algebra.Group.Defs

/-! The cross-validation half of C01: `mapM` in `Except`, and the accumulated score table read entry by entry. -/
namespace LinfaSpec.Fold

/-! ### `mapM` in `Except`: every call succeeds, or the first error surfaces -/

theorem mapM_ok_map {α β ε} (f : α → Except ε β) (g : α → β) (l : List α)
    (h : ∀ a ∈ l, f a = .ok (g a)) : l.mapM f = .ok (l.map g) := by
  induction l with
  | nil => rfl
  | cons a l ih =>
    rw [List.mapM_cons, h a List.mem_cons_self, ih fun x hx => h x (List.mem_cons_of_mem a hx)]
    rfl

theorem mapM_except_error {α β ε} (f : α → Except ε β) (pre : List α) (x : α) (post : List α)
    (e : ε) (hpre : ∀ a ∈ pre, ∃ b, f a = .ok b) (hx : f x = .error e) :
    (pre ++ x :: post).mapM f = .error e := by
  induction pre with
  | nil => rw [List.nil_append, List.mapM_cons, hx]; rfl
  | cons a pre ih =>
    obtain ⟨b, hb⟩ := hpre a List.mem_cons_self
    rw [List.cons_append, List.mapM_cons, hb, ih fun a' ha' => hpre a' (List.mem_cons_of_mem a ha')]
    rfl

theorem mapM_except_error_mem {α β ε} (f : α → Except ε β) (l : List α) (e : ε)
    (h : l.mapM f = .error e) : ∃ a ∈ l, f a = .error e := by
  induction l with
  | nil => cases h
  | cons a l ih =>
    rw [List.mapM_cons] at h
    cases hfa : f a with
    | error e' =>
      rw [hfa] at h; cases h
      exact ⟨a, List.mem_cons_self, hfa⟩
    | ok b =>
      cases hl : l.mapM f with
      | error e' =>
        rw [hfa, hl] at h; cases h
        obtain ⟨x, hx, hfx⟩ := ih hl
        exact ⟨x, List.mem_cons_of_mem a hx, hfx⟩
      | ok bs => rw [hfa, hl] at h; cases h

theorem mapM_id_eq_ok {α ε} {l : List (Except ε α)} {vs : List α} :
    l.mapM id = .ok vs ↔ l = vs.map .ok := by
  refine ⟨fun h => ?_, fun h => ?_⟩
  · induction l generalizing vs with
    | nil => cases h; rfl
    | cons a l ih =>
      rw [List.mapM_cons] at h
      cases a with
      | error e => cases h
      | ok v =>
        cases hl : l.mapM id with
        | error e => rw [hl] at h; cases h
        | ok vs' => rw [hl] at h; cases h; rw [ih hl]; rfl
  · rw [h, List.mapM_map, mapM_ok_map (id ∘ Except.ok) id vs fun _ _ => rfl, List.map_id]

theorem mapM_id_map_map {α β ε} (f : α → β) (l : List (Except ε α)) :
    (l.map (Except.map f)).mapM id = (l.mapM id).map (List.map f) := by
  induction l with
  | nil => rfl
  | cons a l ih =>
    rw [List.map_cons, List.mapM_cons, List.mapM_cons, ih]
    cases a with
    | error e => rfl
    | ok v => cases l.mapM id <;> rfl

/-! ### one fold of `cross_validate` on real fit results -/

theorem cvFold_scriptOf {ε μ σ} (fits : List (Except ε μ)) (score : μ → Except ε (List σ)) :
    cvFold (scriptOf fits score).1 (scriptOf fits score).2 = cvFoldM fits score := by
  simp only [cvFoldM, cvFold, scriptOf]
  rw [mapM_id_map_map]
  cases h : fits.mapM id with
  | error e => rfl
  | ok ms => rw [mapM_id_eq_ok.1 h, List.map_map, List.mapM_map]; rfl

/-- every fold succeeds with its table of score rows, whatever the training views `trs i` and
validation views `vas i` are, once model `j` fits to `md i j` on `trs i` and scores `sc i j` on `vas i` -/
theorem mapM_cvFold_views {τ υ : Type _} {ε μ σ} (params : List (τ → Except ε μ))
    (score : μ → υ → Except ε (List σ)) (trs : Nat → τ) (vas : Nat → υ) (k : Nat)
    (md : Nat → Nat → μ) (sc : Nat → Nat → List σ)
    (hfit : ∀ i, i < k → ∀ j (hj : j < params.length), params[j] (trs i) = .ok (md i j))
    (hsc : ∀ i, i < k → ∀ j, j < params.length → score (md i j) (vas i) = .ok (sc i j)) :
    ((List.range k).map fun i =>
        scriptOf (params.map fun f => f (trs i)) fun m => score m (vas i)).mapM
        (fun f => cvFold f.1 f.2) =
      .ok ((List.range k).map fun i => (List.range params.length).map (sc i)) := by
  rw [List.mapM_map]
  refine mapM_ok_map _ _ _ fun i hi => ?_
  have hi := List.mem_range.mp hi
  -- by `hfit` the fits of fold `i` are `ok (md i 0), ok (md i 1), …`; then every score is `ok (sc i j)`
  have e : (params.map fun f => f (trs i)) = ((List.range params.length).map (md i)).map .ok := by
    apply List.ext_getElem (by simp only [List.length_map, List.length_range])
    intro j h₁ _
    rw [List.length_map] at h₁
    simp only [List.getElem_map, hfit i hi j h₁, List.getElem_range]
  simp only [Function.comp, cvFold_scriptOf, cvFoldM, e, mapM_id_eq_ok.2 rfl, List.mapM_map]
  exact mapM_ok_map _ (sc i) _ fun j hj => hsc i hi j (List.mem_range.mp hj)

/-- `M` is an `m × t` matrix -/
def Shaped {σ} (m t : Nat) (M : List (List σ)) : Prop := M.length = m ∧ ∀ r ∈ M, r.length = t

def entry {σ} [OfNat σ 0] (M : List (List σ)) (i j : Nat) : σ := ((M[i]?.getD [])[j]?).getD 0

theorem entry_eq {σ} [OfNat σ 0] (m t : Nat) (M : List (List σ)) (h : Shaped m t M) (i j : Nat)
    (hi : i < m) (hj : j < t) :
    ∃ (h1 : i < M.length) (h2 : j < M[i].length), entry M i j = M[i][j] := by
  have h1 : i < M.length := h.1 ▸ hi
  have h2 : j < M[i].length := h.2 _ (List.getElem_mem h1) ▸ hj
  refine ⟨h1, h2, ?_⟩
  rw [entry, List.getElem?_eq_getElem h1, Option.getD_some, List.getElem?_eq_getElem h2,
    Option.getD_some]

theorem addMat_shaped {σ} [Add σ] (m t : Nat) (a b : List (List σ)) (ha : Shaped m t a)
    (hb : Shaped m t b) : Shaped m t (addMat a b) := by
  refine ⟨by rw [addMat, List.length_zipWith, ha.1, hb.1, Nat.min_self], ?_⟩
  intro r hr
  obtain ⟨i, hi, rfl⟩ := List.mem_iff_getElem.mp hr
  simp only [addMat, addRow, List.getElem_zipWith, List.length_zipWith,
    ha.2 _ (List.getElem_mem _), hb.2 _ (List.getElem_mem _), Nat.min_self]

theorem entry_addMat {σ} [AddMonoid σ] (m t : Nat) (a b : List (List σ)) (ha : Shaped m t a)
    (hb : Shaped m t b) (i j : Nat) (hi : i < m) (hj : j < t) :
    entry (addMat a b) i j = entry a i j + entry b i j := by
  obtain ⟨a1, a2, ea⟩ := entry_eq m t a ha i j hi hj
  obtain ⟨b1, b2, eb⟩ := entry_eq m t b hb i j hi hj
  obtain ⟨c1, c2, ec⟩ := entry_eq m t _ (addMat_shaped m t a b ha hb) i j hi hj
  rw [ea, eb, ec]
  simp only [addMat, addRow, List.getElem_zipWith]

theorem entry_map {σ τ} [OfNat σ 0] [OfNat τ 0] (f : σ → τ) (m t : Nat) (M : List (List σ))
    (h : Shaped m t M) (i j : Nat) (hi : i < m) (hj : j < t) :
    entry (M.map fun r => r.map f) i j = f (entry M i j) := by
  obtain ⟨h1, h2, _⟩ := entry_eq m t M h i j hi hj
  simp only [entry, List.getElem?_map, List.getElem?_eq_getElem h1, List.getElem?_eq_getElem h2,
    Option.map_some, Option.getD_some]

theorem zero_shaped {σ} [OfNat σ 0] (m t : Nat) :
    Shaped m t (List.replicate m (List.replicate t (0 : σ))) :=
  ⟨List.length_replicate, fun r hr => by rw [(List.mem_replicate.mp hr).2, List.length_replicate]⟩

theorem entry_zero {σ} [OfNat σ 0] (m t i j : Nat) :
    entry (List.replicate m (List.replicate t (0 : σ))) i j = 0 := by
  rw [entry, List.getElem?_replicate]
  split
  · rw [Option.getD_some, List.getElem?_replicate]
    split <;> rfl
  · rfl

/-- the accumulation loop of `cross_validate`: shapes are kept and every entry is the sum of the
folds' entries -/
theorem foldl_acc {σ} [AddMonoid σ] (m t : Nat) (zero : List (List σ)) (hz : Shaped m t zero)
    (hz0 : ∀ i j, entry zero i j = 0)
    (fes : List (List (List σ))) (hs : ∀ fe ∈ fes, Shaped m t fe)
    (acc : List (List σ)) (hacc : Shaped m t acc) :
    Shaped m t (fes.foldl (fun acc fe => addMat acc (addMat zero fe)) acc) ∧
    ∀ i j, i < m → j < t →
      entry (fes.foldl (fun acc fe => addMat acc (addMat zero fe)) acc) i j =
        entry acc i j + (fes.map (entry · i j)).sum := by
  induction fes generalizing acc with
  | nil => exact ⟨hacc, fun i j _ _ => (add_zero _).symm⟩
  | cons fe fes ih =>
    have hfe := hs fe List.mem_cons_self
    have h1 := addMat_shaped m t zero fe hz hfe
    obtain ⟨s, e⟩ := ih (fun x hx => hs x (List.mem_cons_of_mem fe hx)) _
      (addMat_shaped m t acc _ hacc h1)
    refine ⟨s, fun i j hi hj => ?_⟩
    rw [List.foldl_cons, e i j hi hj, entry_addMat m t _ _ hacc h1 i j hi hj,
      entry_addMat m t _ _ hz hfe i j hi hj, hz0, zero_add, List.map_cons, List.sum_cons, add_assoc]

theorem eq_map_range_getD {α} (l : List α) (k : Nat) (d : α) (h : l.length = k) :
    l = (List.range k).map fun i => (l[i]?).getD d :=
  h ▸ ((map_getD_range (fun x => x) l d).trans (List.map_id' l)).symm

end LinfaSpec.Fold
