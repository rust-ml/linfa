import LinfaSpec.Proofs.SmoPub
import LinfaSpec.Proofs.SmoGrad
import Mathlib.Algebra.Order.Field.Rat

/-!
# C13 — SVM solutions satisfy the dual feasibility and KKT conditions they publish; shrinking bookkeeping is sound

Theorems about `LinfaSpec.Smo` (the model of `linfa-svm/src/solver_smo.rs` after the `fix:`
commits), over any linearly ordered field `α` — the same definitions the driver runs on `Float`.

Not proved (correspondence / oracle only): termination; that the state's gradient is `p + Qα` through
`swap` / `do_shrinking` / `reconstruct_gradient` and from the non-zero starts of the nu forms and
one-class (proved here: through every run of `update`s and from the zero start; oracle clauses
`gradient_active`, `gradient_fixed`, `gradient_reconstructed` after every scripted step) — the KKT
theorems are about the gradient the solver holds.  IEEE rounding is outside these statements.
-/
namespace LinfaSpec.Props.C13
open LinfaSpec.Smo

variable {α : Type} [Field α] [LinearOrder α] [IsStrictOrderedRing α]

/-- a small concrete state used by the non-vacuity examples: three variables, unequal bounds,
labels `+ - +`, one variable at its upper bound -/
def exSt : St ℚ :=
  { alpha := [0, 1/2, 2], ub := [1, 1, 2], grad := [-1, -1, -1], gbar := [0, 0, 0],
    active := [2, 0, 1], nactive := 3, unshrink := false, p := [-1, -1, -1],
    y := [true, false, true], bounds := [1, 1, 2], kidx := [2, 0, 1] }

def exEnv : Env ℚ :=
  { K := [[2, 1, 0], [1, 2, 1], [0, 1, 2]], y0 := [false, true, true], eps := 1/1000,
    tiny := 1/10000000000, inf := 1000000 }

theorem exSt_box : Box exSt := by
  unfold Box; decide +kernel

/-- **labels differ, all clipping cases**: a pair on the line `a_i - a_j = diff` (as produced by
moving both variables by the same `delta`, whatever its size) is clipped into the box
`[0,b_i] × [0,b_j]` and stays on the line; the guard is the feasibility of the old pair
(`-b_j ≤ diff ≤ b_i`). -/
theorem clip_opposite_labels (ai aj diff bi bj : α) (hline : ai - aj = diff)
    (h1 : -bj ≤ diff) (h2 : diff ≤ bi) (hbi : 0 ≤ bi) (hbj : 0 ≤ bj) :
    0 ≤ (clipOpp ai aj diff bi bj).1 ∧ (clipOpp ai aj diff bi bj).1 ≤ bi ∧
    0 ≤ (clipOpp ai aj diff bi bj).2 ∧ (clipOpp ai aj diff bi bj).2 ≤ bj ∧
    (clipOpp ai aj diff bi bj).1 - (clipOpp ai aj diff bi bj).2 = diff :=
  clipOpp_spec ai aj diff bi bj hline h1 h2 hbi hbj

/-- the unclipped step overshoots both ends: `(5, 4)` on the line `a_i - a_j = 1`, boxes `[0,2]`, `[0,3]` -/
example : clipOpp (5 : ℚ) 4 1 2 3 = (2, 1) := by decide +kernel

/-- **labels agree, all clipping cases**: a pair on the line `a_i + a_j = sum` is clipped into the
box and stays on the line. -/
theorem clip_equal_labels (ai aj sum bi bj : α) (hline : ai + aj = sum)
    (h1 : 0 ≤ sum) (h2 : sum ≤ bi + bj) (hbi : 0 ≤ bi) (hbj : 0 ≤ bj) :
    0 ≤ (clipSame ai aj sum bi bj).1 ∧ (clipSame ai aj sum bi bj).1 ≤ bi ∧
    0 ≤ (clipSame ai aj sum bi bj).2 ∧ (clipSame ai aj sum bi bj).2 ≤ bj ∧
    (clipSame ai aj sum bi bj).1 + (clipSame ai aj sum bi bj).2 = sum :=
  clipSame_spec ai aj sum bi bj hline h1 h2 hbi hbj

example : clipSame (-1 : ℚ) 4 3 2 2 = (1, 2) := by decide +kernel

/-- **`update` keeps both touched variables (and all others) inside their boxes**, for every
working pair `i ≠ j` in range, every kernel, gradient and step length (including the `1e-10`
guard for a non-positive curvature). -/
theorem update_preserves_box (e : Env α) (s : St α) (i j : Nat) (hij : i ≠ j)
    (hi : i < s.alpha.length) (hj : j < s.alpha.length) (hb : Box s) : Box (update e s i j) :=
  update_box e s i j hij hi hj hb

/-- **`update` keeps the equality constraint** `Σ_k y_k α_k`. -/
theorem update_preserves_equality (e : Env α) (s : St α) (i j : Nat) (hij : i ≠ j)
    (hi : i < s.alpha.length) (hj : j < s.alpha.length) (hb : Box s) :
    ySum (update e s i j) = ySum s :=
  update_ySum e s i j hij hi hj hb

example : Box exSt ∧ (0 : Nat) ≠ 1 ∧ 0 < exSt.alpha.length ∧ 1 < exSt.alpha.length :=
  ⟨exSt_box, by decide, by decide, by decide⟩

/-- a real step on the example: variables 0 (`+`, at 0) and 1 (`-`, at 1/2) both move up by the
same amount until variable 1 hits its bound -/
example : (update exEnv exSt 0 1).alpha = [1/2, 1, 2] := by decide +kernel

/-- **feasibility is an invariant of the whole optimisation**: after any sequence of working
pairs (distinct, in range — what `select_working_set` returns) the point is still in the box,
`Σ y α` has its initial value and the bounds are untouched. -/
theorem feasible_invariant (e : Env α) (steps : List (Nat × Nat)) (s : St α)
    (hv : ValidSteps s.alpha.length steps) (hb : Box s) :
    Box (steps.foldl (fun s st => update e s st.1 st.2) s) ∧
    ySum (steps.foldl (fun s st => update e s st.1 st.2) s) = ySum s ∧
    (steps.foldl (fun s st => update e s st.1 st.2) s).bounds = s.bounds :=
  updates_feasible e steps s hv hb

example : ValidSteps exSt.alpha.length [(0, 1), (2, 0), (1, 2)] := by
  unfold ValidSteps; decide

section bookkeeping
variable {β : Type} [OfNat β 0]

/-- **`swap` keeps the state aligned with `active_set`**: after swapping positions `i`, `j`
every position still holds the linear term, the label, *both copies of the bound* and the kernel
index of the sample `active_set` names.  (False before the `fix:` commit 8e0ed66 of /repo: `bounds` stayed.) -/
theorem swap_preserves_aligned (p0 b0 : List β) (y0 : List Bool) (s : St β) (i j : Nat)
    (hi : i < s.alpha.length) (hj : j < s.alpha.length) (h : Aligned p0 b0 y0 s) :
    Aligned p0 b0 y0 (swap s i j) :=
  swap_aligned p0 b0 y0 s i j hi hj h

/-- `swap` moves the variables by the same transposition -/
theorem swap_moves_alpha (s : St β) (i j k : Nat) (hi : i < s.alpha.length) (hj : j < s.alpha.length) :
    gf (swap s i j).alpha k = gf s.alpha (swapIdx i j k) :=
  swap_alpha s i j k hi hj

/-- **write-back is correct for every permutation**: the published vector holds, at the sample
`active_set[i]`, the variable at position `i`.  (Before the `fix:` commit 3676000 of /repo the code read
`alpha[active_set[i]]`, right only for involutions.) -/
theorem writeBack_correct (s : St β) (hlen : s.active.length = s.alpha.length)
    (hnd : s.active.Nodup) (hr : ∀ a ∈ s.active, a < s.alpha.length) (i : Nat)
    (hi : i < s.alpha.length) :
    (writeBack s).length = s.alpha.length ∧ gf (writeBack s) (gn s.active i) = gf s.alpha i := by
  have h := writeBack_spec s hlen hnd hr
  exact ⟨h.1, h.2 i hi⟩

end bookkeeping

/-- **`update` keeps the state aligned** (it rewrites `Alpha::upper_bound` of the two touched
positions from `bounds`, which is aligned). -/
theorem update_preserves_aligned (e : Env α) (p0 b0 : List α) (y0 : List Bool) (s : St α) (i j : Nat)
    (hi : i < s.alpha.length) (hj : j < s.alpha.length) (h : Aligned p0 b0 y0 s) :
    Aligned p0 b0 y0 (update e s i j) :=
  update_aligned e p0 b0 y0 s i j h

/-- `exSt` is aligned with the sample-order data `p0 = [-1,-1,-1]`, `b0 = [1,2,1]`, `y0 = [-,+,+]` -/
example : Aligned (α := ℚ) [-1, -1, -1] [1, 2, 1] [false, true, true] exSt := by
  unfold Aligned; decide +kernel


/-- **the working pair `select_working_set` returns is legal** (plain and nu form, whatever the
gradient, the kernel and the tolerance): two *distinct* positions inside the active range — exactly the
hypothesis `ValidSteps` of `feasible_invariant`, so every step the solver's own selection triggers keeps
the point feasible. -/
theorem selected_pair_valid (e : Env α) (s : St α) (i j : Nat)
    (h : selectWorkingSet e s = (i, j, false)) : i ≠ j ∧ i < s.nactive ∧ j < s.nactive :=
  selectWorkingSet_valid e s i j h

/-- the selection on the example state (all three variables active, none optimal): the maximal
violator is position 0, its partner position 1 -/
example : selectWorkingSet exEnv exSt = (0, 1, false) := by
  decide +kernel


/-- **feasibility is an invariant of the whole main loop of `solve`** — working-set selection (plain or
nu form), the two-variable step, `do_shrinking(_nu)` with its swaps, `reconstruct_gradient` and the
re-activation before the final check, for every fuel (iteration bound), kernel, tolerance and
shrinking setting: the state the loop stops in is inside the box, has the initial `Σ y α` and the
size of the problem.  Hypotheses = what `SolverState::new` establishes for a feasible start. -/
theorem solve_loop_feasible (e : Env α) (shrinking : Bool) (fuel : Nat) (s : St α) (iter counter : Nat)
    (hb : Box s) (hy : s.y.length = s.alpha.length) (hn : s.nactive ≤ s.alpha.length) :
    Box (solveLoop e shrinking fuel s iter counter).1 ∧
    ySum (solveLoop e shrinking fuel s iter counter).1 = ySum s ∧
    (solveLoop e shrinking fuel s iter counter).1.alpha.length = s.alpha.length := by
  have h := solveLoop_inv (feas_loop e s.alpha.length (ySum s)) shrinking fuel s iter counter
    ⟨hb, hy, rfl, hn, rfl⟩
  exact ⟨h.1, h.2.2.2.2, h.2.2.1⟩

example : Box exSt ∧ exSt.y.length = exSt.alpha.length ∧ exSt.nactive ≤ exSt.alpha.length :=
  ⟨exSt_box, by decide, by decide⟩

/-- **`do_shrinking` (plain and nu form) keeps the point feasible**: it only permutes positions. -/
theorem shrinking_preserves_feasible (e : Env α) (s : St α)
    (hb : Box s) (hy : s.y.length = s.alpha.length) (hn : s.nactive ≤ s.alpha.length) :
    Box (doShrinking e s) ∧ ySum (doShrinking e s) = ySum s := by
  have h := doShrinking_inv (feas_loop e s.alpha.length (ySum s)) s ⟨hb, hy, rfl, hn, rfl⟩
  exact ⟨h.1, h.2.2.2.2⟩


/-- a two-sample problem at its optimum: `x = ±1` (`K = [[1,-1],[-1,1]]`), labels `+ -`, `C = 1`,
`α = (1/2, 1/2)`, gradient `p + Qα = 0` -/
def kEnv : Env ℚ :=
  { K := [[1, -1], [-1, 1]], y0 := [true, false], eps := 1/1000, tiny := 1/10000000000, inf := 1000000 }

def kSt : St ℚ :=
  { alpha := [1/2, 1/2], ub := [1, 1], grad := [0, 0], gbar := [0, 0], active := [0, 1], nactive := 2,
    unshrink := false, p := [-1, -1], y := [true, false], bounds := [1, 1], kidx := [0, 1] }

/-- **the stopping test implies the eps-KKT conditions** (plain form).  For any solver state — any
kernel, any coefficients, any `n`, any bounds, over the active range (all variables after the final
re-activation) — if the code's test `gmax + gmax2 < eps` holds for the gradient the state holds, then
with `rho := calculate_rho()` every active `i` satisfies the clause set of the oracle clause `kkt`:
`-y_i G_i + rho ≤ eps` if `i ∈ I_up` (positive below its bound / negative above zero) and
`-y_i G_i + rho ≥ -eps` if `i ∈ I_low` (so `|y_i G_i - rho| ≤ eps` for a free variable; for
C-classification, `p = -1`, this is `y_i f(x_i) ≥ 1 - eps` resp. `≤ 1 + eps`, the clause `kkt_margin`).
Guards: `eps ≥ 0` and positive bounds (`SvmParams::check`: `InvalidEps`, `InvalidC`); `e.inf` stands
for `F::infinity()`, so it bounds every gradient entry. -/
theorem exit_test_implies_kkt (e : Env α) (s : St α) (heps : 0 ≤ e.eps)
    (hpos : ∀ k, k < s.nactive → 0 < gf s.ub k)
    (hdom : ∀ k, k < s.nactive → -e.inf ≤ gf s.grad k ∧ gf s.grad k ≤ e.inf)
    (hstop : (maxViolatingPair e s).1.1 + (maxViolatingPair e s).2.1 < e.eps) :
    KktEps s (calculateRhoC e s) e.eps :=
  gap_implies_kkt e s heps (fun k hk => upper_not_lower s k (hpos k hk))
    (fun k hk => dom_yG e s k (hdom k hk)) (exit_test_gap e s hstop)

example : 0 ≤ kEnv.eps ∧ (∀ k, k < kSt.nactive → 0 < gf kSt.ub k) ∧
    (∀ k, k < kSt.nactive → -kEnv.inf ≤ gf kSt.grad k ∧ gf kSt.grad k ≤ kEnv.inf) ∧
    (maxViolatingPair kEnv kSt).1.1 + (maxViolatingPair kEnv kSt).2.1 < kEnv.eps := by
  decide +kernel

/-- on the example both variables are free and `rho = 0` -/
example : calculateRhoC kEnv kSt = 0 := by decide +kernel

/-- **the nu stopping test implies the eps-KKT conditions of the nu dual**: if
`max(gmaxp1 + gmaxp2, gmaxn1 + gmaxn2) < eps`, then with `(rho, r) := calculate_rho_nu()` every
active variable of the positive class satisfies `G_i ≥ (r + rho) - eps` below its bound and
`G_i ≤ (r + rho) + eps` above zero, every variable of the negative class the same with `r - rho`
(the clause set of the oracle clause `kkt_nu`). -/
theorem exit_test_implies_kkt_nu (e : Env α) (s : St α) (heps : 0 ≤ e.eps)
    (hpos : ∀ k, k < s.nactive → 0 < gf s.ub k)
    (hdom : ∀ k, k < s.nactive → -e.inf ≤ gf s.grad k ∧ gf s.grad k ≤ e.inf)
    (hstop : maxS ((maxViolatingPairNu e s).1.1 + (maxViolatingPairNu e s).2.2.1.1)
      ((maxViolatingPairNu e s).2.1.1 + (maxViolatingPairNu e s).2.2.2.1) < e.eps) :
    KktNuEps s ((calculateRhoNu e s).2 + (calculateRhoNu e s).1)
      ((calculateRhoNu e s).2 - (calculateRhoNu e s).1) e.eps := by
  obtain ⟨h1, h2⟩ := calculateRhoNu_split e s
  rw [h1, h2]
  exact gap_implies_kkt_nu e s heps (fun k hk => upper_not_lower s k (hpos k hk)) hdom
    (exit_test_gap_nu e s hstop)

/-- the same example read as a nu problem (`p = 0` would shift `G` by a constant per class; the test
only compares inside a class) -/
example : maxS ((maxViolatingPairNu kEnv kSt).1.1 + (maxViolatingPairNu kEnv kSt).2.2.1.1)
    ((maxViolatingPairNu kEnv kSt).2.1.1 + (maxViolatingPairNu kEnv kSt).2.2.2.1) < kEnv.eps := by
  decide +kernel

/-- **what `solve` returns is feasible, and eps-KKT unless it stopped at the iteration limit**
(plain form, `nu_constraint = false`).  For every start that `SolverState::new` can produce from a
feasible `α` (box, equal lengths, positive bounds), every kernel, shrinking on or off, every fuel:
* the state the main loop returns is in the box, has the initial `Σ y α` and the problem's size
  (also when the fuel — `max_iter` — ran out: `ExitReason::ReachedIterations`);
* if the loop ended by `break` (`ExitReason::ReachedThreshold`) all variables are active and, for the
  gradient the state holds, the oracle's clause set `kkt` holds with `rho := calculate_rho()` —
  whichever of its three reasons made `select_working_set` answer `is_optimal`.
Guards: `eps ≥ 0`, `C > 0` (`SvmParams::check`), `1e-10 > 0`; `e.inf` stands for `F::infinity()`. -/
theorem solve_returns_kkt_or_maxiter (e : Env α) (hnu : e.nu = false) (heps : 0 ≤ e.eps)
    (htiny : 0 < e.tiny) (hinf : 0 ≤ e.inf) (shrinking : Bool) (fuel : Nat) (s : St α)
    (iter counter : Nat) (hb : Box s) (hy : s.y.length = s.alpha.length)
    (hn : s.nactive ≤ s.alpha.length) (hub : s.ub.length = s.alpha.length)
    (hpos : ∀ k, k < s.alpha.length → 0 < gf s.ub k ∧ 0 < gf s.bounds k) :
    (Box (solveLoop e shrinking fuel s iter counter).1 ∧
      ySum (solveLoop e shrinking fuel s iter counter).1 = ySum s ∧
      (solveLoop e shrinking fuel s iter counter).1.alpha.length = s.alpha.length) ∧
    ((solveLoop e shrinking fuel s iter counter).2.2 = true →
      (solveLoop e shrinking fuel s iter counter).1.nactive =
        (solveLoop e shrinking fuel s iter counter).1.alpha.length ∧
      ((∀ k, k < (solveLoop e shrinking fuel s iter counter).1.nactive →
          -e.inf ≤ gf (solveLoop e shrinking fuel s iter counter).1.grad k ∧
          gf (solveLoop e shrinking fuel s iter counter).1.grad k ≤ e.inf) →
        KktEps (solveLoop e shrinking fuel s iter counter).1
          (calculateRho e (solveLoop e shrinking fuel s iter counter).1) e.eps)) := by
  obtain ⟨h1, h3⟩ := solveLoop_returns e shrinking fuel s iter counter hb hy hn hub hpos
  generalize solveLoop e shrinking fuel s iter counter = r at h1 h3 ⊢
  refine ⟨⟨h1.1, h1.2.2.2.2, h1.2.2.1⟩, fun hfin => ?_⟩
  obtain ⟨hopt, hall, hul⟩ := h3 hfin
  refine ⟨hall, fun hdom => ?_⟩
  have hrho : calculateRho e r.1 = calculateRhoC e r.1 := by unfold calculateRho; simp [hnu]
  have hsel : selectWorkingSet e r.1 = selectWorkingSetC e r.1 := by unfold selectWorkingSet; simp [hnu]
  rw [hrho]
  rw [hsel] at hopt
  have hdomY := fun k hk => dom_yG e r.1 k (hdom k hk)
  exact gap_implies_kkt e r.1 heps hul hdomY (optimal_flag_gap e r.1 heps htiny hinf hdomY hopt)

/-- the example problem solved from `α = 0`: `SolverState::new` gives a state that meets the
hypotheses, and the loop ends by `break` after one step at `α = (1/2, 1/2)` -/
example : Box (init kEnv [0, 0] [-1, -1] [1, 1] [true, false]) ∧
    (solveLoop kEnv false 10 (init kEnv [0, 0] [-1, -1] [1, 1] [true, false]) 0 3).2.2 = true ∧
    (solveLoop kEnv false 10 (init kEnv [0, 0] [-1, -1] [1, 1] [true, false]) 0 3).1.alpha = [1/2, 1/2] := by
  refine ⟨⟨rfl, ?_⟩, ?_, ?_⟩
  · decide +kernel
  · decide +kernel
  · decide +kernel

/-- **nu form** (`nu_constraint = true`): what the main loop returns is feasible, and when it ended by
`break` every active variable satisfies the clause set of the oracle clause `kkt_nu` with
`(rho, r) := calculate_rho_nu()` — whichever reason made `select_working_set_nu` answer `is_optimal`
(an empty second-order scan or `max(gmaxp1 + gmaxp2, gmaxn1 + gmaxn2) < eps`).  `-inf` has to lie
*strictly* below every gradient entry because `max_violating_pair_nu` compares with `>`. -/
theorem solve_returns_kkt_or_maxiter_nu (e : Env α) (hnu : e.nu = true) (heps : 0 ≤ e.eps)
    (htiny : 0 < e.tiny) (hinf : 0 ≤ e.inf) (shrinking : Bool) (fuel : Nat) (s : St α)
    (iter counter : Nat) (hb : Box s) (hy : s.y.length = s.alpha.length)
    (hn : s.nactive ≤ s.alpha.length) (hub : s.ub.length = s.alpha.length)
    (hpos : ∀ k, k < s.alpha.length → 0 < gf s.ub k ∧ 0 < gf s.bounds k) :
    (Box (solveLoop e shrinking fuel s iter counter).1 ∧
      ySum (solveLoop e shrinking fuel s iter counter).1 = ySum s ∧
      (solveLoop e shrinking fuel s iter counter).1.alpha.length = s.alpha.length) ∧
    ((solveLoop e shrinking fuel s iter counter).2.2 = true →
      (solveLoop e shrinking fuel s iter counter).1.nactive =
        (solveLoop e shrinking fuel s iter counter).1.alpha.length ∧
      ((∀ k, k < (solveLoop e shrinking fuel s iter counter).1.nactive →
          -e.inf < gf (solveLoop e shrinking fuel s iter counter).1.grad k ∧
          gf (solveLoop e shrinking fuel s iter counter).1.grad k < e.inf) →
        KktNuEps (solveLoop e shrinking fuel s iter counter).1
          ((calculateRhoNu e (solveLoop e shrinking fuel s iter counter).1).2 +
            (calculateRhoNu e (solveLoop e shrinking fuel s iter counter).1).1)
          ((calculateRhoNu e (solveLoop e shrinking fuel s iter counter).1).2 -
            (calculateRhoNu e (solveLoop e shrinking fuel s iter counter).1).1) e.eps)) := by
  obtain ⟨h1, h3⟩ := solveLoop_returns e shrinking fuel s iter counter hb hy hn hub hpos
  generalize solveLoop e shrinking fuel s iter counter = r at h1 h3 ⊢
  refine ⟨⟨h1.1, h1.2.2.2.2, h1.2.2.1⟩, fun hfin => ?_⟩
  obtain ⟨hopt, hall, hul⟩ := h3 hfin
  refine ⟨hall, fun hdom => ?_⟩
  have hsel : selectWorkingSet e r.1 = selectWorkingSetNu e r.1 := by unfold selectWorkingSet; simp [hnu]
  rw [hsel] at hopt
  obtain ⟨s1, s2⟩ := calculateRhoNu_split e r.1
  rw [s1, s2]
  exact gap_implies_kkt_nu e r.1 heps hul
    (fun k hk => ⟨le_of_lt (hdom k hk).1, le_of_lt (hdom k hk).2⟩)
    (optimal_flag_gap_nu e r.1 heps htiny hinf (fun k hk => dom_yG_lt e r.1 k (hdom k hk)) hopt)

/-- a nu start on the example (`p = 0`, `α = (1/2, 1/2)` = `ν n / 2` per class): the loop ends by `break` -/
example : (solveLoop { kEnv with nu := true } false 10
    (init { kEnv with nu := true } [1/2, 1/2] [0, 0] [1, 1] [true, false]) 0 3).2.2 = true := by
  decide +kernel

/-- **under `nu_constraint` both selected variables belong to one class** -/
theorem nu_selected_pair_same_class (e : Env α) (s : St α) (i j : Nat)
    (h : selectWorkingSetNu e s = (i, j, false)) :
    i ≠ j ∧ i < s.nactive ∧ j < s.nactive ∧ gb s.y i = gb s.y j :=
  selectWorkingSetNu_valid e s i j h

/-- **a step on a pair of one class keeps the sum of either class** (the second equality constraint
of the nu duals, `e'α = ν n`, split by class), for every kernel, gradient and step length. -/
theorem nu_update_preserves_class_sums (e : Env α) (s : St α) (i j : Nat) (hij : i ≠ j)
    (hi : i < s.alpha.length) (hj : j < s.alpha.length) (hb : Box s)
    (hy : gb s.y i = gb s.y j) (c : Bool) :
    classSum (update e s i j) c = classSum s c :=
  update_classSum e s i j hij hi hj hb hy c

/-- positions 0 and 2 of the example carry the same label -/
example : gb exSt.y 0 = gb exSt.y 2 ∧ (0 : Nat) ≠ 2 ∧ 2 < exSt.alpha.length := by decide

/-- **the two class multipliers of the nu dual are `r + rho` and `r - rho`** for the values
`calculate_rho_nu` returns / stores (what `fit_nu` divides the coefficients by is their mean `r`). -/
theorem rho_nu_split (e : Env α) (s : St α) :
    (calculateRhoNu e s).2 + (calculateRhoNu e s).1 = rhoNuClass e s true ∧
    (calculateRhoNu e s).2 - (calculateRhoNu e s).1 = rhoNuClass e s false :=
  calculateRhoNu_split e s

/-- **the regression fold** publishes `m` coefficients `α_i - α_{i+m}` from the `2 m` variables. -/
theorem regression_fold (alpha : List α) (m : Nat) (hm : m < alpha.length) :
    (foldRegression alpha m).length = m ∧
    ∀ i, i < m → gf (foldRegression alpha m) i = gf alpha i - gf alpha (i + m) :=
  foldRegression_spec alpha m hm

example : foldRegression ([1, 0, 1/2, 0, 2, 0] : List ℚ) 3 = [1, -2, 1/2] := by decide +kernel

/-- **the number of support vectors is the number of coefficients above the threshold**, and it
is the number of rows `solve` selected. -/
theorem nsupport_counts_nonzero (thr : α) (alpha : List α) :
    nsupport thr alpha = (supportIdx thr alpha).length := by
  unfold nsupport supportIdx
  rw [← filter_range_map alpha (fun a => decide (thr < absS a)), List.length_map]

/-- **`weighted_sum` pairs every selected support vector with its own coefficient**: zipping the
rows selected by `solve` (kernel values `kf i` for sample `i`) with the coefficients re-filtered by
`weighted_sum` gives `Σ_{i : |α_i| > thr} K(x_i, x) α_i` — provided both filters see the same
coefficient vector `alpha` (true for C-classification, one-class and regression; nu-classification
rescales `alpha` by `1/r` between the two filters, there the index sets must coincide — checked by
the oracle clause `decision_value`). -/
theorem weightedSum_pairs (thr : α) (alpha : List α) (kf : Nat → α) :
    weightedSum thr alpha ((supportIdx thr alpha).map kf) =
      sumS ((supportIdx thr alpha).map fun i => kf i * gf alpha i) := by
  unfold weightedSum
  rw [← filter_range_map alpha (fun a => decide (thr < absS a))]
  unfold supportIdx
  rw [List.zipWith_map, List.zipWith_self]

example : supportIdx (1/100 : ℚ) [1/2, 0, -2, 1/1000] = [0, 2] := by decide +kernel


/-- **`active_set` stays a permutation of the samples through the whole main loop** (selection, step,
`do_shrinking(_nu)` with its swaps, `reconstruct_gradient`, re-activation; every fuel, plain and nu
form): the hypotheses `Nodup` / range of `writeBack_correct` hold for whatever state the loop returns. -/
theorem solve_loop_keeps_permutation (e : Env α) (shrinking : Bool) (fuel : Nat) (s : St α)
    (iter counter n : Nat) (h : PermInv n s) :
    PermInv n (solveLoop e shrinking fuel s iter counter).1 :=
  solveLoop_inv (permInv_loop e n) shrinking fuel s iter counter h

/-- **labels and bounds stay aligned with `active_set` through the whole main loop** (for all three
kernel wrappers): position `k` of the returned state holds label and bound of sample `active_set[k]`. -/
theorem solve_loop_keeps_alignment (e : Env α) (b0 : List α) (y0 : List Bool) (shrinking : Bool)
    (fuel : Nat) (s : St α) (iter counter : Nat) (h : AlignedBY b0 y0 s) :
    AlignedBY b0 y0 (solveLoop e shrinking fuel s iter counter).1 :=
  solveLoop_inv (alignedBY_loop e b0 y0) shrinking fuel s iter counter h

/-- `SolverState::new` establishes both (identity `active_set`), the box and the sizes -/
theorem init_establishes (e : Env α) (a0 p0 b0 : List α) (y0 : List Bool)
    (hb : b0.length = a0.length) (hy : y0.length = a0.length)
    (hbox : ∀ k, k < a0.length → 0 ≤ gf a0 k ∧ gf a0 k ≤ gf b0 k) :
    PermInv a0.length (init e a0 p0 b0 y0) ∧ AlignedBY b0 y0 (init e a0 p0 b0 y0) ∧
    Feas a0.length (∑ k ∈ Finset.range a0.length, (if gb y0 k then (1 : α) else -1) * gf a0 k)
      (init e a0 p0 b0 y0) := by
  obtain ⟨c1, c2, c3, c4, c5, _, _⟩ := init_core e a0 p0 b0 y0
  have hP : PermInv a0.length (init e a0 p0 b0 y0) := by
    rw [PermInv, c1, c4, c5, List.length_range]
    exact ⟨rfl, rfl, Nat.le_refl _, List.nodup_range, fun a ha => List.mem_range.mp ha⟩
  have hA : AlignedBY b0 y0 (init e a0 p0 b0 y0) := by
    rw [AlignedBY, c1, c2, c3, c4, c5, List.length_range]
    exact ⟨⟨hy, hb, rfl, Nat.le_refl _⟩, fun k hk => by rw [gn_range _ k hk]; exact ⟨rfl, rfl⟩⟩
  refine ⟨hP, hA, ?_⟩
  unfold Feas Box ySum tgt
  rw [c1, c2, c3, c5]
  exact ⟨⟨hb, hbox⟩, hy, rfl, Nat.le_refl _, rfl⟩

example : (∀ k, k < ([0, 1/2] : List ℚ).length → 0 ≤ gf ([0, 1/2] : List ℚ) k ∧ gf ([0, 1/2] : List ℚ) k ≤ gf ([1, 1] : List ℚ) k) := by
  decide +kernel

/-- **the coefficient vector the solver writes back is feasible sample by sample** — for every
problem (`alpha0` in the box of `b0`, any kernel, linear term, labels, tolerance), every kernel wrapper,
plain or nu selection, shrinking on or off, every fuel (so also at the iteration limit): with
`s` the state the main loop of `solve` stops in, started from `SolverState::new`,
`writeBack s` — the vector `solve` builds through `active_set` — has one entry per variable, entry `a`
lies in `[0, b0[a]]` (the bound **of that sample**, whatever permutation shrinking left behind), and
`Σ_a y_a · out_a` is the value the start had.  No hypothesis beyond the feasibility of the start:
permutation and alignment of the bookkeeping are established by `SolverState::new` and kept by the loop
(`solve_loop_keeps_permutation`, `solve_loop_keeps_alignment`). -/
theorem published_alpha_feasible (e : Env α) (shrinking : Bool) (fuel : Nat) (a0 p0 b0 : List α)
    (y0 : List Bool) (iter counter : Nat)
    (hb : b0.length = a0.length) (hy : y0.length = a0.length)
    (hbox : ∀ k, k < a0.length → 0 ≤ gf a0 k ∧ gf a0 k ≤ gf b0 k) :
    (writeBack (solveLoop e shrinking fuel (init e a0 p0 b0 y0) iter counter).1).length = a0.length ∧
    (∀ a, a < a0.length →
      0 ≤ gf (writeBack (solveLoop e shrinking fuel (init e a0 p0 b0 y0) iter counter).1) a ∧
      gf (writeBack (solveLoop e shrinking fuel (init e a0 p0 b0 y0) iter counter).1) a ≤ gf b0 a) ∧
    ∑ a ∈ Finset.range a0.length, (if gb y0 a then (1 : α) else -1) *
        gf (writeBack (solveLoop e shrinking fuel (init e a0 p0 b0 y0) iter counter).1) a =
      ∑ a ∈ Finset.range a0.length, (if gb y0 a then (1 : α) else -1) * gf a0 a := by
  obtain ⟨hP, hA, hF⟩ := init_establishes e a0 p0 b0 y0 hb hy hbox
  have h1 := solve_loop_keeps_permutation e shrinking fuel _ iter counter _ hP
  have h2 := solve_loop_keeps_alignment e b0 y0 shrinking fuel _ iter counter hA
  have h3 := solveLoop_inv (feas_loop e _ _) shrinking fuel _ iter counter hF
  obtain ⟨r1, r2, r3⟩ := writeBack_feasible b0 y0 _ a0.length h1 h2 h3.1
  exact ⟨r1, r2, by rw [r3]; exact h3.2.2.2.2⟩

/-- the loop of `solve` as `solve` calls it -/
def solveState (e : Env α) (shrinking : Bool) (fuel : Nat) (s0 : St α) : St α :=
  (solveLoop e shrinking fuel s0 0 (min (ntotal s0) 1000 + 1)).1

/-- `Svm.alpha` as `solve` computes it: write-back, then the regression fold -/
theorem solve_alpha_eq (e : Env α) (thr : α) (shrinking : Bool) (fuel : Nat) (X : List (List α)) (d : Nat)
    (s0 : St α) :
    (solve e thr shrinking fuel X d s0).alpha =
      foldRegression (writeBack (solveState e shrinking fuel s0)) X.length := rfl

/-- **classification / one-class: `Svm.alpha` of `solve` is feasible** — as many data rows as variables
(no fold): the published vector itself lies in the per-sample box and keeps `Σ y α` of the start. -/
theorem solve_publishes_feasible (e : Env α) (thr : α) (shrinking : Bool) (fuel : Nat)
    (X : List (List α)) (d : Nat) (a0 p0 b0 : List α) (y0 : List Bool)
    (hX : X.length = a0.length) (hb : b0.length = a0.length) (hy : y0.length = a0.length)
    (hbox : ∀ k, k < a0.length → 0 ≤ gf a0 k ∧ gf a0 k ≤ gf b0 k) :
    (∀ a, a < a0.length →
      0 ≤ gf (solve e thr shrinking fuel X d (init e a0 p0 b0 y0)).alpha a ∧
      gf (solve e thr shrinking fuel X d (init e a0 p0 b0 y0)).alpha a ≤ gf b0 a) ∧
    ∑ a ∈ Finset.range a0.length, (if gb y0 a then (1 : α) else -1) *
        gf (solve e thr shrinking fuel X d (init e a0 p0 b0 y0)).alpha a =
      ∑ a ∈ Finset.range a0.length, (if gb y0 a then (1 : α) else -1) * gf a0 a := by
  obtain ⟨r1, r2, r3⟩ := published_alpha_feasible e shrinking fuel a0 p0 b0 y0 0
    (min (ntotal (init e a0 p0 b0 y0)) 1000 + 1) hb hy hbox
  have hfold : (solve e thr shrinking fuel X d (init e a0 p0 b0 y0)).alpha =
      writeBack (solveLoop e shrinking fuel (init e a0 p0 b0 y0) 0
        (min (ntotal (init e a0 p0 b0 y0)) 1000 + 1)).1 := by
    rw [solve_alpha_eq]
    unfold foldRegression solveState
    rw [r1, hX]
    simp
  rw [hfold]
  exact ⟨r2, r3⟩

/-- **regression: the folded coefficient of sample `i` lies in `[-b0[i+m], b0[i]]`** (`2 m` variables over
`m` data rows, `Svm.alpha[i] = out[i] - out[i+m]`). -/
theorem solve_publishes_feasible_regression (e : Env α) (thr : α) (shrinking : Bool) (fuel : Nat)
    (X : List (List α)) (d : Nat) (a0 p0 b0 : List α) (y0 : List Bool)
    (hX : X.length + X.length = a0.length) (hm : 0 < X.length)
    (hb : b0.length = a0.length) (hy : y0.length = a0.length)
    (hbox : ∀ k, k < a0.length → 0 ≤ gf a0 k ∧ gf a0 k ≤ gf b0 k) :
    (solve e thr shrinking fuel X d (init e a0 p0 b0 y0)).alpha.length = X.length ∧
    ∀ i, i < X.length →
      -gf b0 (i + X.length) ≤ gf (solve e thr shrinking fuel X d (init e a0 p0 b0 y0)).alpha i ∧
      gf (solve e thr shrinking fuel X d (init e a0 p0 b0 y0)).alpha i ≤ gf b0 i := by
  obtain ⟨r1, r2, _⟩ := published_alpha_feasible e shrinking fuel a0 p0 b0 y0 0
    (min (ntotal (init e a0 p0 b0 y0)) 1000 + 1) hb hy hbox
  rw [solve_alpha_eq]
  have hlt : X.length < (writeBack (solveState e shrinking fuel (init e a0 p0 b0 y0))).length := by
    unfold solveState; rw [r1]; omega
  obtain ⟨f1, f2⟩ := foldRegression_spec _ X.length hlt
  refine ⟨f1, ?_⟩
  intro i hi
  rw [f2 i hi]
  unfold solveState
  have hi1 := r2 i (by omega)
  have hi2 := r2 (i + X.length) (by omega)
  constructor <;> linarith [hi1.1, hi1.2, hi2.1, hi2.2]

/-- the example problem `x = ±1` solved from `α = 0`: the published vector is `(1/2, 1/2)` -/
example : (solve kEnv (1/1000000) false 10 [[1], [-1]] 1 (init kEnv [0, 0] [-1, -1] [1, 1] [true, false])).alpha
    = [1/2, 1/2] := by
  decide +kernel

/-- **under `nu_constraint` every class keeps its sum through the whole main loop** (the second equality
constraint `e'α = ν n` of the nu duals, per class; loop level — `nu_update_preserves_class_sums` is the
single step): selection by `select_working_set_nu` (same class), step, shrinking swaps, reconstruction. -/
theorem solve_loop_keeps_class_sums (e : Env α) (hnu : e.nu = true) (shrinking : Bool) (fuel : Nat)
    (s : St α) (iter counter : Nat) (hb : Box s) (hy : s.y.length = s.alpha.length)
    (hn : s.nactive ≤ s.alpha.length) (c : Bool) :
    classSum (solveLoop e shrinking fuel s iter counter).1 c = classSum s c :=
  (solveLoop_inv (classInv_loop e hnu c (classSum s c)) shrinking fuel s iter counter
    ⟨hb, hy, hn, rfl⟩).2.2.2

/-- **the rows `solve` stores are the rows of the coefficients above the threshold, and `nsupport()` counts
them**: stated about `solve` itself (`Solved.support`, `Solved.alpha`), not about an arbitrary list. -/
theorem solve_support_is_nonzero (e : Env α) (thr : α) (shrinking : Bool) (fuel : Nat) (X : List (List α))
    (d : Nat) (s0 : St α) :
    (solve e thr shrinking fuel X d s0).support = supportIdx thr (solve e thr shrinking fuel X d s0).alpha ∧
    nsupport thr (solve e thr shrinking fuel X d s0).alpha = (solve e thr shrinking fuel X d s0).support.length ∧
    ∀ kf : Nat → α, weightedSum thr (solve e thr shrinking fuel X d s0).alpha
        ((solve e thr shrinking fuel X d s0).support.map kf) =
      sumS ((solve e thr shrinking fuel X d s0).support.map fun i =>
        kf i * gf (solve e thr shrinking fuel X d s0).alpha i) := by
  have h1 : (solve e thr shrinking fuel X d s0).support =
      supportIdx thr (solve e thr shrinking fuel X d s0).alpha := rfl
  refine ⟨h1, ?_, ?_⟩
  · rw [h1]; exact nsupport_counts_nonzero thr _
  · intro kf; rw [h1]; exact weightedSum_pairs thr _ kf

/-- **one SMO step keeps the gradient invariant `G_k = p_k + Σ_l Q_kl α_l` on the active positions**
(`Q_kl` = entry `k` of `kernel.distances(l, ·)` as the kernel wrapper of the state serves it — any of the
three wrappers, any kernel matrix, symmetric or not): the incremental update
`G_k += Q_ki Δα_i + Q_kj Δα_j` of `update` is exact, for every pair of distinct active positions and every
step length / clipping case.  Hypotheses = what `SolverState::new` establishes (sizes).

PARTIAL with respect to the statement one wants: *the gradient the main loop holds when it stops is
`p + Qα` of the published point* (so that `solve_returns_kkt_or_maxiter` speaks about the true gradient).
Missing: the same invariant through `swap` / `do_shrinking` (positions beyond `nactive` hold stale
gradients by design), through both branches of `reconstruct_gradient` (needs the companion invariant
`Ḡ_k = Σ_{l at upper bound} C_l Q_kl` that `update` maintains on **all** positions) and through
`SolverState::new` from a non-zero start (nu forms, one-class).  Those stay with the oracle clauses `gradient_active`, `gradient_fixed`,
`gradient_reconstructed` (every scripted step) and with the bit-for-bit correspondence. -/
theorem gradient_invariant_partial (e : Env α) (s : St α) (i j : Nat) (hij : i ≠ j)
    (hi : i < s.nactive) (hj : j < s.nactive) (hn : s.nactive ≤ s.alpha.length)
    (hg : s.grad.length = s.alpha.length) (h : GradOK e s) : GradOK e (update e s i j) :=
  update_gradOK e s i j hij hi hj hn hg h

/-- **the gradient invariant survives every run of SMO steps on the active prefix** (any number of
steps, any distinct working pairs below `nactive`, any clipping case): the multi-step lift of
`gradient_invariant_partial`.  Still PARTIAL: no `swap` / `do_shrinking` / `reconstruct_gradient` between the
steps (i.e. the loop with shrinking off, or between two shrinking events). -/
theorem gradient_invariant_steps_partial (e : Env α) (steps : List (Nat × Nat)) (s : St α)
    (hv : ActiveSteps s steps) (hn : s.nactive ≤ s.alpha.length) (hg : s.grad.length = s.alpha.length)
    (h : GradOK e s) : GradOK e (steps.foldl (fun s st => update e s st.1 st.2) s) :=
  updates_gradOK e steps s hv hn hg h

/-- **from the zero start (`SolverState::new` as C-classification and epsilon-regression call it) the
solver holds the true gradient `p + Qα` after any sequence of working pairs** — `SolverState::new`
establishes the invariant (no variable off its lower bound, so the gradient is the linear term) and
every step keeps it.  No hypothesis on the kernel, labels, bounds or step count.  PARTIAL as above
(shrinking off); the nu-variants start off zero and are not covered by the start lemma. -/
theorem gradient_true_from_zero_start_partial (e : Env α) (a0 p0 b0 : List α) (y0 : List Bool)
    (hz : ∀ k, gf a0 k = 0) (hp : p0.length = a0.length) (steps : List (Nat × Nat))
    (hv : ValidSteps a0.length steps) :
    GradOK e (steps.foldl (fun s st => update e s st.1 st.2) (init e a0 p0 b0 y0)) := by
  obtain ⟨c1, c2, _, c4⟩ := init_zero_core e a0 p0 b0 y0 hz
  apply updates_gradOK
  · intro st hst; rw [c4]; exact hv st hst
  · rw [c4, c1]
  · rw [c2, c1]; exact hp
  · exact init_zero_gradOK e a0 p0 b0 y0 hz

/-- non-vacuity: a zero start of two variables with a valid two-step working-pair sequence -/
example : (∀ k, gf ([0, 0] : List ℚ) k = 0) ∧ ValidSteps ([0, 0] : List ℚ).length [(0, 1), (1, 0)] := by
  refine ⟨fun k => ?_, ?_⟩
  · unfold gf
    rcases k with _ | _ | k <;> simp
  · unfold ValidSteps; decide

/-- the two-sample optimum holds the exact gradient: `Q = [[1,1],[1,1]]`, `p + Qα = -1 + 1/2 + 1/2 = 0` -/
example : GradOK kEnv kSt := by
  unfold GradOK; decide +kernel

/-- the example's `active_set` is a 3-cycle (not an involution): variable values `[0, 1/2, 2]` at
positions 0,1,2 belong to samples 2,0,1 -/
example : writeBack exSt = [1/2, 2, 0] := by decide +kernel

example : exSt.active.Nodup ∧ (∀ a ∈ exSt.active, a < exSt.alpha.length) := by decide

end LinfaSpec.Props.C13
