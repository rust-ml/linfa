import LinfaSpec.Proofs.Predict
import Mathlib.Order.Defs.LinearOrder

/-! Over a linear order: the running arg-max returns the first maximum (`MultiClassModel`, `argmax` of a score
row), `closest_centroid` a nearest centroid. -/
namespace LinfaSpec.Predict

/-- Either the initial pair survives and nothing in `ds` beats it, or the result sits in `ds`, beats the
initial pair and everything before it strictly, and is not beaten by anything after it. -/
theorem argmaxPairGo_spec {L P : Type} [LinearOrder P] (best : L × P) (ds : List (L × P)) :
    (argmaxPairGo best ds = best ∧ ∀ d ∈ ds, d.2 ≤ best.2) ∨
    ∃ pre post, ds = pre ++ argmaxPairGo best ds :: post ∧ best.2 < (argmaxPairGo best ds).2 ∧
      (∀ d ∈ pre, d.2 < (argmaxPairGo best ds).2) ∧ ∀ d ∈ post, d.2 ≤ (argmaxPairGo best ds).2 := by
  induction ds generalizing best with
  | nil => exact .inl ⟨rfl, nofun⟩
  | cons d rest ih =>
    rw [argmaxPairGo]
    by_cases h : best.2 < d.2
    · rw [if_pos h]
      refine .inr ?_
      rcases ih d with ⟨e, hall⟩ | ⟨pre, post, e, hlt, hpre, hpost⟩
      · exact ⟨[], rest, by rw [e]; rfl, by rwa [e], nofun, by rwa [e]⟩
      · exact ⟨d :: pre, post, congrArg (d :: ·) e, lt_trans h hlt, List.forall_mem_cons.mpr ⟨hlt, hpre⟩, hpost⟩
    · rw [if_neg h]
      rcases ih best with ⟨e, hall⟩ | ⟨pre, post, e, hlt, hpre, hpost⟩
      · exact .inl ⟨e, List.forall_mem_cons.mpr ⟨not_lt.mp h, hall⟩⟩
      · exact .inr ⟨d :: pre, post, congrArg (d :: ·) e, hlt,
          List.forall_mem_cons.mpr ⟨lt_of_le_of_lt (not_lt.mp h) hlt, hpre⟩, hpost⟩

/-- the running arg-max returns the first pair attaining the maximum -/
theorem argmaxPairGo_first_max {L P : Type} [LinearOrder P] (best : L × P) (ds : List (L × P)) :
    ∃ pre post, best :: ds = pre ++ argmaxPairGo best ds :: post ∧
      (∀ d ∈ pre, d.2 < (argmaxPairGo best ds).2) ∧
      (∀ d ∈ best :: ds, d.2 ≤ (argmaxPairGo best ds).2) := by
  have spec := argmaxPairGo_spec best ds
  generalize argmaxPairGo best ds = r at spec ⊢
  rcases spec with ⟨rfl, hall⟩ | ⟨pre, post, rfl, hlt, hpre, hpost⟩
  · exact ⟨[], ds, rfl, nofun, List.forall_mem_cons.mpr ⟨le_refl _, hall⟩⟩
  · exact ⟨best :: pre, post, rfl, List.forall_mem_cons.mpr ⟨hlt, hpre⟩,
      List.forall_mem_cons.mpr ⟨le_of_lt hlt, List.forall_mem_append.mpr
        ⟨fun d hd => le_of_lt (hpre d hd), List.forall_mem_cons.mpr ⟨le_refl _, hpost⟩⟩⟩⟩

/-- `argmax` is the running arg-max over the (index, score) pairs -/
theorem argmaxGo_eq_argmaxPairGo {α : Type} [LT α] [DecidableLT α] (l : List α) (idx : Nat)
    (best : Nat × α) :
    argmaxGo l idx best = argmaxPairGo best ((List.range' idx l.length).zip l) := by
  induction l generalizing idx best with
  | nil => rfl
  | cons x rest ih =>
    rw [argmaxGo, List.length_cons, List.range'_succ, List.zip_cons_cons, argmaxPairGo]
    exact ih _ _

/-- `argmax` of a non-empty score vector: the index is in range, its score is maximal and every
earlier score is strictly smaller (the FIRST maximum) -/
theorem argmaxIdx_first_max {α : Type} [LinearOrder α] (l : List α) (hne : l ≠ []) :
    ∃ v, l[argmaxIdx l]? = some v ∧ (∀ x ∈ l, x ≤ v) ∧
      ∀ j y, j < argmaxIdx l → l[j]? = some y → y < v := by
  obtain ⟨x, rest, rfl⟩ := List.exists_cons_of_ne_nil hne
  rw [argmaxIdx, argmaxGo_eq_argmaxPairGo]
  obtain ⟨pre, post, e, hpre, hall⟩ := argmaxPairGo_first_max (0, x) ((List.range' 1 rest.length).zip rest)
  generalize argmaxPairGo (0, x) ((List.range' 1 rest.length).zip rest) = r at e hpre hall ⊢
  -- the pairs are the indexed scores, so position `pre.length` of the split holds `(pre.length, l[pre.length])`
  have e' : (List.range' 0 (x :: rest).length).zip (x :: rest) = pre ++ r :: post := e
  have hl : x :: rest = (pre ++ r :: post).map (·.2) := by
    rw [← e', List.map_snd_zip (Nat.le_of_eq List.length_range'.symm)]
  have hmid : ((List.range' 0 (x :: rest).length).zip (x :: rest))[pre.length]? = some r := by
    rw [e', List.getElem?_append_right (Nat.le_refl _), Nat.sub_self]
    rfl
  obtain ⟨h1, h2⟩ := List.getElem?_zip_eq_some.mp hmid
  have hr : r.1 = pre.length := by
    obtain ⟨_, h⟩ := List.getElem?_eq_some_iff.mp h1
    rw [← h, List.getElem_range', Nat.zero_add, Nat.one_mul]
  refine ⟨r.2, hr ▸ h2, ?_, fun j y hj hy => ?_⟩
  · rw [hl]
    exact List.forall_mem_map.mpr (e ▸ hall)
  · rw [hl, List.getElem?_map, List.getElem?_append_left (hr ▸ hj)] at hy
    obtain ⟨d, hd, rfl⟩ := Option.map_eq_some_iff.mp hy
    exact hpre d (List.mem_of_getElem? hd)

/-! ### nearest centroid (the same loop with `<` the other way round: first minimum) -/

theorem closestGo_spec {α : Type} [LinearOrder α] [Add α] [Sub α] [Mul α] [OfNat α 0]
    (obs : List α) (cents : List (List α)) (idx : Nat) (best : Nat × α) :
    (closestGo obs cents idx best).2 ≤ best.2 ∧
    (∀ c ∈ cents, (closestGo obs cents idx best).2 ≤ sqDist c obs) ∧
    (closestGo obs cents idx best = best ∨
      ∃ i, ∃ h : i < cents.length, closestGo obs cents idx best = (idx + i, sqDist cents[i] obs)) := by
  induction cents generalizing idx best with
  | nil => exact ⟨le_refl _, nofun, .inl rfl⟩
  | cons c rest ih =>
    -- the pair `b` the step keeps is `best` or this centroid's, and is no farther than either
    obtain ⟨b, hgo, hb, hc, hor⟩ : ∃ b, closestGo obs (c :: rest) idx best = closestGo obs rest (idx + 1) b ∧
        b.2 ≤ best.2 ∧ b.2 ≤ sqDist c obs ∧ (b = best ∨ b = (idx, sqDist c obs)) := by
      by_cases h : sqDist c obs < best.2
      · exact ⟨(idx, sqDist c obs), by rw [closestGo, if_pos h], le_of_lt h, le_refl _, .inr rfl⟩
      · exact ⟨best, by rw [closestGo, if_neg h], le_refl _, not_lt.mp h, .inl rfl⟩
    rw [hgo]
    obtain ⟨h1, h2, h3⟩ := ih (idx + 1) b
    refine ⟨le_trans h1 hb, List.forall_mem_cons.mpr ⟨le_trans h1 hc, h2⟩, ?_⟩
    rcases h3 with h3 | ⟨i, hi, h3⟩
    · rcases hor with rfl | rfl
      · exact .inl h3
      · exact .inr ⟨0, Nat.succ_pos _, h3⟩
    · exact .inr ⟨i + 1, Nat.succ_lt_succ hi, by rw [h3, Nat.add_right_comm, Nat.add_assoc]; rfl⟩

end LinfaSpec.Predict
