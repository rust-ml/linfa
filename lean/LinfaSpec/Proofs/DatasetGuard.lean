import LinfaSpec.Proofs.Dataset

/-!
C02, totality: per-sample iteration never panics on paired data, and no operation does inside its guard.
-/
namespace LinfaSpec.Dataset
variable {R T W : Type}

/-! ### per-sample iteration -/

theorem sampleIter_total {ds : DS R T W} (h3 : ds.tgts.length = ds.recs.length) : (sampleIter ds).isSome :=
  mapM_isSome fun i hi => by
    have hi : i < ds.recs.length := List.mem_range.mp hi
    rw [List.getElem?_eq_getElem hi, List.getElem?_eq_getElem (h3 ▸ hi)]
    rfl

/-! ### inside the guard nothing panics -/

theorem inRangeB_iff (idx : List Nat) (n : Nat) : inRangeB idx n = true ↔ InRange idx n := by
  simp only [inRangeB, InRange, List.all_eq_true, decide_eq_true_eq]

theorem splitView_total [DecidableEq T] {n1 : Nat} {ds : DS R T W} (hn : n1 ≤ ds.n) : (splitView n1 ds).isSome := by
  rw [splitView, if_neg (Nat.not_lt.mpr hn), ite_pair]
  rfl

theorem splitOwned_total {n1 : Nat} {ds : DS R T W} (hn : n1 ≤ ds.n) : (splitOwned true n1 ds).isSome := by
  rw [splitOwned, if_neg Bool.noConfusion, if_neg (Nat.not_lt.mpr hn)]
  dsimp only
  rw [ite_pair]
  rfl

theorem selRows_both {idx : List Nat} {ds : DS R T W} (hw : WF ds) (hi : InRange idx ds.n) :
    ∃ r g, selRows idx ds.recs = some r ∧ selRows idx ds.tgts = some g := by
  obtain ⟨r, hr⟩ := Option.isSome_iff_exists.mp (selRows_isSome (xs := ds.recs) hi)
  obtain ⟨g, hg⟩ := Option.isSome_iff_exists.mp (selRows_isSome (xs := ds.tgts) (by rw [hw.shaped.2.2]; exact hi))
  exact ⟨r, g, hr, hg⟩

theorem shuffle_total [DecidableEq T] {idx : List Nat} {ds : DS R T W} (hw : WF ds) (hi : InRange idx ds.n) :
    (shuffle idx ds).isSome := by
  obtain ⟨r, g, hr, hg⟩ := selRows_both hw hi
  simp only [shuffle, hr, hg, Option.isSome_some]

theorem bootstrapSamples_total [DecidableEq T] {ns : Nat} {idx : List Nat} {ds : DS R T W} (hw : WF ds)
    (hn : ns = 0 ∨ 0 < ds.n) (hi : InRange idx ds.n) : (bootstrapSamples ns idx ds).isSome := by
  obtain ⟨r, g, hr, hg⟩ := selRows_both hw hi
  rw [bootstrapSamples, if_neg (by omega), hr, hg]
  rfl

theorem bootstrapFeatures_total [DecidableEq T] {nf : Nat} {fidx : List Nat} {ds : DS R T W} (hw : WF ds)
    (hn : nf = 0 ∨ 0 < ds.p) (hi : InRange fidx ds.p) : (bootstrapFeatures nf fidx ds).isSome := by
  obtain ⟨r, hr⟩ := Option.isSome_iff_exists.mp (selCols_isSome hw.shaped.1 hi)
  rw [bootstrapFeatures, if_neg (by omega), hr]
  rfl

theorem bootstrap_total [DecidableEq T] {ns nf : Nat} {idx fidx : List Nat} {ds : DS R T W} (hw : WF ds)
    (hn : ns = 0 ∨ 0 < ds.n) (hf : nf = 0 ∨ 0 < ds.p) (hi : InRange idx ds.n) (hfi : InRange fidx ds.p) :
    (bootstrap ns nf idx fidx ds).isSome := by
  obtain ⟨d1, hs⟩ := Option.isSome_iff_exists.mp (bootstrapSamples_total hw hn hi)
  have hp : d1.p = ds.p := by obtain ⟨r, g, -, -, rfl⟩ := bootstrapSamples_eq_some hs; rfl
  rw [bootstrap, hs]
  exact bootstrapFeatures_total (bootstrapSamples_wf hw hs) (hp ▸ hf) (hp ▸ hfi)

theorem keptIdx_lt [DecidableEq T] (labs : List T) (tgts : List (List T)) : InRange (keptIdx labs tgts) tgts.length :=
  fun _ hi => List.mem_range.mp (List.mem_filter.mp hi).1

theorem withLabels_total [DecidableEq T] {labs : List T} {ds : DS R T W} (hw : WF ds) : (withLabels labs ds).isSome := by
  have hk : InRange (keptIdx labs (ds.tgts.take ds.n)) ds.n := fun i hi =>
    Nat.lt_of_lt_of_le (keptIdx_lt labs _ i hi) (List.length_take_le _ _)
  obtain ⟨r, g, hr, hg⟩ := selRows_both hw hk
  have hwt : ∃ w, (if ds.weights.isEmpty then some []
      else selRows (keptIdx labs (ds.tgts.take ds.n)) ds.weights) = some w := by
    split
    · exact ⟨_, rfl⟩
    · have hl : ds.weights.length = ds.n :=
        hw.wts.resolve_left fun h => ‹¬ds.weights.isEmpty = true› (by rw [h]; rfl)
      exact Option.isSome_iff_exists.mp (selRows_isSome (by rw [hl]; exact hk))
  obtain ⟨w, hwt⟩ := hwt
  rw [withLabels, hr, hg, hwt]
  rfl

theorem featureIter_total {ds : DS R T W} (hw : WF ds) : (featureIter ds).isSome :=
  mapM_isSome fun j hj => by
    have hj : j < ds.p := List.mem_range.mp hj
    obtain ⟨r, hr⟩ := Option.isSome_iff_exists.mp (selCols_isSome (cols := [j]) hw.shaped.1 (by simpa using hj))
    have hfn : ∃ fnm, (if ds.fnames.length = 1 then (ds.fnames[j]?).map ([·]) else some []) = some fnm := by
      split
      · have : j < ds.fnames.length :=
          hw.fnm.elim (fun h => absurd ‹ds.fnames.length = 1› (by rw [h]; decide)) fun h => h ▸ hj
        exact ⟨_, by rw [List.getElem?_eq_getElem this]; rfl⟩
      · exact ⟨_, rfl⟩
    obtain ⟨fnm, hfn⟩ := hfn
    rw [colOf, hr, hfn]
    rfl

theorem targetIter_total {ds : DS R T W} (hw : WF ds) : (targetIter ds).isSome :=
  mapM_isSome fun c hc => by
    have hc : c < ds.t := List.mem_range.mp hc
    obtain ⟨g, hg⟩ := Option.isSome_iff_exists.mp (selCols_isSome (cols := [c]) hw.shaped.2.1 (by simpa using hc))
    have htn : ∃ tnm, (if ds.tnames.isEmpty then some [] else (ds.tnames[c]?).map ([·])) = some tnm := by
      split
      · exact ⟨_, rfl⟩
      · have : c < ds.tnames.length :=
          hw.tnm.elim (fun h => absurd (by rw [h]; rfl) ‹¬ds.tnames.isEmpty = true›) fun h => h ▸ hc
        exact ⟨_, by rw [List.getElem?_eq_getElem this]; rfl⟩
    obtain ⟨tnm, htn⟩ := htn
    rw [colOf, hg, htn]
    rfl

theorem intoSingleTarget_total {ds : DS R T W} (hw : WF ds) (ht : ds.t = 1) : (intoSingleTarget ds).isSome := by
  have : ds.tgts.flatten.length = ds.n := by
    rw [flatten_length_uniform ds.tgts _ hw.shaped.2.1, ht, Nat.mul_one, hw.shaped.2.2, DS.n]
  rw [intoSingleTarget, if_pos this]
  rfl

theorem sampleChunks_total [DecidableEq T] {size : Nat} {ds : DS R T W} (hs : 0 < size) : (sampleChunks size ds).isSome := by
  rw [sampleChunks, if_neg (Nat.ne_of_gt hs)]
  rfl

end LinfaSpec.Dataset
