import LinfaSpec.Model.Predict
import Mathlib.Analysis.Complex.Exponential

/-! Platt scaling over `ℝ` (`Transc.exp := Real.exp`). -/
namespace LinfaSpec.Predict

/-- only `exp` is used by Platt scaling; `sqrt`, `ln` are placeholders here -/
noncomputable instance : Transc ℝ := ⟨fun x => x, Real.exp, fun x => x⟩

theorem exp_neg_div (t : ℝ) : Real.exp (-t) / (1 + Real.exp (-t)) = 1 / (1 + Real.exp t) := by
  rw [div_eq_div_iff (by positivity) (by positivity), mul_add, mul_one, one_mul, ← Real.exp_add,
    neg_add_cancel, Real.exp_zero, add_comm]

/-- both branches of `platt_predict` are the sigmoid `1 / (1 + e^t)` -/
theorem plattRaw_eq (t : ℝ) : plattRaw t = 1 / (1 + Real.exp t) := by
  unfold plattRaw
  split
  · exact exp_neg_div t
  · rfl

/-- the sigmoid is a probability: `Pr::new` accepts it -/
theorem sigmoid_mem (t : ℝ) : 0 ≤ 1 / (1 + Real.exp t) ∧ 1 / (1 + Real.exp t) ≤ 1 :=
  have h : 0 < 1 + Real.exp t := by positivity
  ⟨one_div_nonneg.mpr h.le, (div_le_one h).mpr (le_add_of_nonneg_right (Real.exp_pos t).le)⟩

end LinfaSpec.Predict
