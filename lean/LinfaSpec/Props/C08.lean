import LinfaSpec.Proofs.Dbscan
import LinfaSpec.Proofs.Optics

/-!
# C08 — DBSCAN and OPTICS output is the density clustering of the input

Theorems about `LinfaSpec.Dbscan` / `LinfaSpec.Optics`, the models of
`DbscanValidParams::transform` and `OpticsValidParams::transform`, over an **arbitrary**
neighbour function `nbrs` (what `within_range` returns) with the three properties every range
query of a metric has:

* `hrange` — the positions returned are positions of the dataset,
* `hnd`    — no position is returned twice,
* `hsym`   — `j` is in range of `i` iff `i` is in range of `j`.

`core nbrs mp x` is `min_points ≤ |within_range(x)|` (`x` itself counted when it is in its own query result),
`isLab L x v` is `L[x] = Some(v)`.  The OPTICS theorems need `hrange` at most (the identity of two orderings also
`hnd`) and take the distance `dist i j = distance(row i, row j)` as a second parameter.
-/
namespace LinfaSpec.Props.C08
open LinfaSpec LinfaSpec.Dbscan

section dbscan
variable (nbrs : Nat → List Nat) (mp n : Nat)
  (hrange : ∀ i, ∀ j ∈ nbrs i, j < n) (hnd : ∀ i, (nbrs i).Nodup)
  (hsym : ∀ i j, j ∈ nbrs i → i ∈ nbrs j)
include hrange hnd hsym

/-- one label per sample -/
theorem dbscan_length : (dbscan (some nbrs) mp n).length = n :=
  (OInv_run nbrs mp n hrange hnd hsym n).g.len

/-- **termination**: the fuel of the breadth-first loop is never the reason it stops — after every
iteration of the outer scan the search queue is empty and `search_found` is all `false`. -/
theorem dbscan_fuel_enough (k : Nat) :
    let s := ((List.range k).foldl (outerStep nbrs mp n) (init n, 0)).1
    s.queue = [] ∧ ∀ j : Nat, s.found[j]?.getD false = false := by
  intro s
  have h := OInv_run nbrs mp n hrange hnd hsym k
  refine ⟨h.qe, fun j => ?_⟩
  have := h.q.fq j
  cases hb : s.found[j]?.getD false
  · rfl
  · exact absurd (this.mp hb) List.not_mem_nil

/-- **a sample is labelled exactly when it is a core sample or lies in range of a core sample** -/
theorem dbscan_labelled_iff (x : Nat) (hx : x < n) :
    (∃ v, isLab (dbscan (some nbrs) mp n) x v) ↔
      (core nbrs mp x ∨ ∃ y, core nbrs mp y ∧ x ∈ nbrs y) := by
  have h := OInv_run nbrs mp n hrange hnd hsym n
  have hL : ∀ z, z < n → core nbrs mp z → ∃ v, isLab (dbscan (some nbrs) mp n) z v := by
    intro z hz hc
    rcases lab_cases (dbscan (some nbrs) mp n) z (by rw [dbscan_length nbrs mp n hrange hnd hsym]; exact hz) with a | a
    · exact absurd hc (h.scanned z hz a)
    · exact a
  constructor
  · rintro ⟨v, hv⟩
    rcases h.g.sound x v hv with a | ⟨y, y1, _, y3⟩
    · exact Or.inl a
    · exact Or.inr ⟨y, y1, y3⟩
  · rintro (a | ⟨y, y1, y2⟩)
    · exact hL x hx a
    · have hy : y < n := hrange x y (hsym y x y2)
      obtain ⟨v, hv⟩ := hL y hy y1
      exact h.g.closed y v hv y1 x y2

/-- **two core samples in range of each other carry the same label** -/
theorem dbscan_core_adjacent_same (x y v w : Nat)
    (hcx : core nbrs mp x) (hcy : core nbrs mp y) (hxy : y ∈ nbrs x)
    (hx : isLab (dbscan (some nbrs) mp n) x v) (hy : isLab (dbscan (some nbrs) mp n) y w) : v = w :=
  (OInv_run nbrs mp n hrange hnd hsym n).g.adj x y v w hcx hcy hxy hx hy

/-- **core samples with the same label are density-connected**: both are reached from one core
sample `s` by chains of core samples, consecutive ones in range of each other.  (Contrapositive:
core samples of different density-connected components carry different labels.) -/
theorem dbscan_components_differ (x y v : Nat)
    (hcx : core nbrs mp x) (hcy : core nbrs mp y)
    (hx : isLab (dbscan (some nbrs) mp n) x v) (hy : isLab (dbscan (some nbrs) mp n) y v) :
    ∃ s, core nbrs mp s ∧ Conn nbrs mp s x ∧ Conn nbrs mp s y := by
  have h := OInv_run nbrs mp n hrange hnd hsym n
  obtain ⟨s, _, s2, s3⟩ := h.g.seeds v (h.g.lt x v hx)
  exact ⟨s, s2, s3 x hcx hx, s3 y hcy hy⟩

/-- **a labelled sample that is not core (border sample) carries the label of a core sample that
reaches it** -/
theorem dbscan_border_label (x v : Nat) (hx : isLab (dbscan (some nbrs) mp n) x v)
    (hb : ¬ core nbrs mp x) :
    ∃ y, core nbrs mp y ∧ isLab (dbscan (some nbrs) mp n) y v ∧ x ∈ nbrs y := by
  rcases (OInv_run nbrs mp n hrange hnd hsym n).g.sound x v hx with a | a
  · exact absurd a hb
  · exact a

/-- **labels are `0..c-1` without gaps**, `c` = final `current_cluster_id`; every id labels a core
sample -/
theorem dbscan_ids_contiguous :
    (∀ x v, isLab (dbscan (some nbrs) mp n) x v → v < (run nbrs mp n).2) ∧
    ∀ v, v < (run nbrs mp n).2 → ∃ x, isLab (dbscan (some nbrs) mp n) x v ∧ core nbrs mp x := by
  have h := OInv_run nbrs mp n hrange hnd hsym n
  refine ⟨h.g.lt, fun v hv => ?_⟩
  obtain ⟨s, s1, s2, _⟩ := h.g.seeds v hv
  exact ⟨s, s1, s2⟩

end dbscan

/-- cluster ids are handed out **in the order of the smallest core sample**: for ids `v < w` in use
there is a core sample labelled `v` that precedes every core sample labelled `w` -/
theorem dbscan_ids_by_first_core (nbrs : Nat → List Nat) (mp n : Nat)
    (hrange : ∀ i, ∀ j ∈ nbrs i, j < n) (hnd : ∀ i, (nbrs i).Nodup)
    (hsym : ∀ i j, j ∈ nbrs i → i ∈ nbrs j)
    (v w y : Nat) (hvw : v < w) (hy : core nbrs mp y) (hyw : isLab (dbscan (some nbrs) mp n) y w) :
    ∃ s, core nbrs mp s ∧ isLab (dbscan (some nbrs) mp n) s v ∧
      ∀ y', core nbrs mp y' → isLab (dbscan (some nbrs) mp n) y' w → s < y' := by
  have hw := (OInv_run nbrs mp n hrange hnd hsym n).g.lt y w hyw
  obtain ⟨s, _, s2, s3, s4⟩ := Ord_run nbrs mp n hrange hnd hsym n v (by omega)
  exact ⟨s, s2, s3, fun y' hy' hl => s4 y' w hy' hl hvw⟩

/-- a chain of core samples carries one label -/
theorem dbscan_conn_same_label (nbrs : Nat → List Nat) (mp n : Nat)
    (hrange : ∀ i, ∀ j ∈ nbrs i, j < n) (hnd : ∀ i, (nbrs i).Nodup)
    (hsym : ∀ i j, j ∈ nbrs i → i ∈ nbrs j)
    (s x v : Nat) (hs : isLab (dbscan (some nbrs) mp n) s v) (hc : Conn nbrs mp s x) :
    isLab (dbscan (some nbrs) mp n) x v := by
  induction hc with
  | refl => exact hs
  | @step y z _ hcy hcz hz ih =>
    have hzn : z < n := hrange y z hz
    obtain ⟨w, hw⟩ := (dbscan_labelled_iff nbrs mp n hrange hnd hsym z hzn).mpr (Or.inl hcz)
    have := dbscan_core_adjacent_same nbrs mp n hrange hnd hsym y z v w hcy hcz hz ih hw
    subst this; exact hw

/-! ### The density clustering is a function of the neighbour RELATION

Two neighbour functions that return the same samples for every query — in any order, as different
indices do — give: the same labelled samples, the same noise, the same partition of the core samples
**with the same cluster ids**, and border samples labelled by a core sample in range in either run;
the two label vectors can differ only on a border sample in range of core samples of two clusters. -/
section determined
variable (nbrs₁ nbrs₂ : Nat → List Nat) (mp n : Nat)
  (hr₁ : ∀ i, ∀ j ∈ nbrs₁ i, j < n) (hnd₁ : ∀ i, (nbrs₁ i).Nodup)
  (hsym₁ : ∀ i j, j ∈ nbrs₁ i → i ∈ nbrs₁ j)
  (hr₂ : ∀ i, ∀ j ∈ nbrs₂ i, j < n) (hnd₂ : ∀ i, (nbrs₂ i).Nodup)
  (hsym₂ : ∀ i j, j ∈ nbrs₂ i → i ∈ nbrs₂ j)
  (hset : ∀ i j, j ∈ nbrs₁ i ↔ j ∈ nbrs₂ i)

section
include hnd₁ hnd₂ hset
theorem core_congr (x : Nat) : core nbrs₁ mp x ↔ core nbrs₂ mp x := by
  unfold core
  rw [((List.perm_ext_iff_of_nodup (hnd₁ x) (hnd₂ x)).mpr (hset x)).length_eq]

theorem Conn_congr (s x : Nat) (h : Conn nbrs₁ mp s x) : Conn nbrs₂ mp s x := by
  induction h with
  | refl => exact Conn.refl _
  | step _ hcy hcz hz ih =>
    exact Conn.step ih ((core_congr nbrs₁ nbrs₂ mp hnd₁ hnd₂ hset _).mp hcy)
      ((core_congr nbrs₁ nbrs₂ mp hnd₁ hnd₂ hset _).mp hcz) ((hset _ _).mp hz)
end

/-- the start of a chain of core samples that ends in the dataset lies in the dataset -/
theorem Conn_lt (a : Nat → List Nat) (mp n : Nat) (hra : ∀ i, ∀ j ∈ a i, j < n)
    (hsa : ∀ i j, j ∈ a i → i ∈ a j) (s x : Nat) (h : Conn a mp s x) (hx : x < n) : s < n := by
  induction h with
  | refl => exact hx
  | @step y z _ _ _ hz ih => exact ih (hra z y (hsa y z hz))

/-- one direction of "same partition of the core samples" -/
theorem dbscan_partition_dir (a b : Nat → List Nat) (mp n : Nat)
    (hra : ∀ i, ∀ j ∈ a i, j < n) (hna : ∀ i, (a i).Nodup) (hsa : ∀ i j, j ∈ a i → i ∈ a j)
    (hrb : ∀ i, ∀ j ∈ b i, j < n) (hnb : ∀ i, (b i).Nodup) (hsb : ∀ i j, j ∈ b i → i ∈ b j)
    (hab : ∀ i j, j ∈ a i ↔ j ∈ b i) (x y : Nat) (hx : core a mp x) (hy : core a mp y)
    (h : ∃ v, isLab (dbscan (some a) mp n) x v ∧ isLab (dbscan (some a) mp n) y v) :
    ∃ v, isLab (dbscan (some b) mp n) x v ∧ isLab (dbscan (some b) mp n) y v := by
  obtain ⟨v, hxv, hyv⟩ := h
  obtain ⟨s, hs, c1, c2⟩ := dbscan_components_differ a mp n hra hna hsa x y v hx hy hxv hyv
  have hxn : x < n := dbscan_isLab_lt a mp n hra hna hsa hxv
  have hsn : s < n := Conn_lt a mp n hra hsa s x c1 hxn
  have hsb' : core b mp s := (core_congr a b mp hna hnb hab s).mp hs
  obtain ⟨w, hw⟩ := (dbscan_labelled_iff b mp n hrb hnb hsb s hsn).mpr (Or.inl hsb')
  exact ⟨w, dbscan_conn_same_label b mp n hrb hnb hsb s x w hw (Conn_congr a b mp hna hnb hab s x c1),
    dbscan_conn_same_label b mp n hrb hnb hsb s y w hw (Conn_congr a b mp hna hnb hab s y c2)⟩

include hr₁ hnd₁ hsym₁ hr₂ hnd₂ hsym₂ hset

/-- same labelled samples -/
theorem dbscan_labelled_determined (x : Nat) (hx : x < n) :
    (∃ v, isLab (dbscan (some nbrs₁) mp n) x v) ↔ (∃ v, isLab (dbscan (some nbrs₂) mp n) x v) := by
  rw [dbscan_labelled_iff nbrs₁ mp n hr₁ hnd₁ hsym₁ x hx, dbscan_labelled_iff nbrs₂ mp n hr₂ hnd₂ hsym₂ x hx]
  have cc := core_congr nbrs₁ nbrs₂ mp hnd₁ hnd₂ hset
  constructor
  · rintro (a | ⟨y, y1, y2⟩)
    · exact Or.inl ((cc x).mp a)
    · exact Or.inr ⟨y, (cc y).mp y1, (hset y x).mp y2⟩
  · rintro (a | ⟨y, y1, y2⟩)
    · exact Or.inl ((cc x).mpr a)
    · exact Or.inr ⟨y, (cc y).mpr y1, (hset y x).mpr y2⟩

/-- same noise samples -/
theorem dbscan_noise_determined (x : Nat) :
    (dbscan (some nbrs₁) mp n)[x]? = some none ↔ (dbscan (some nbrs₂) mp n)[x]? = some none := by
  rw [← unl_iff, ← unl_iff, unl_iff_not_isLab, unl_iff_not_isLab, dbscan_length nbrs₁ mp n hr₁ hnd₁ hsym₁,
    dbscan_length nbrs₂ mp n hr₂ hnd₂ hsym₂]
  exact and_congr_right fun hx =>
    not_congr (dbscan_labelled_determined nbrs₁ nbrs₂ mp n hr₁ hnd₁ hsym₁ hr₂ hnd₂ hsym₂ hset x hx)

/-- **same partition of the core samples into clusters** -/
theorem dbscan_core_partition_determined (x y : Nat) (hx : core nbrs₁ mp x) (hy : core nbrs₁ mp y) :
    (∃ v, isLab (dbscan (some nbrs₁) mp n) x v ∧ isLab (dbscan (some nbrs₁) mp n) y v) ↔
    (∃ v, isLab (dbscan (some nbrs₂) mp n) x v ∧ isLab (dbscan (some nbrs₂) mp n) y v) := by
  have cc := core_congr nbrs₁ nbrs₂ mp hnd₁ hnd₂ hset
  constructor
  · exact dbscan_partition_dir nbrs₁ nbrs₂ mp n hr₁ hnd₁ hsym₁ hr₂ hnd₂ hsym₂ hset x y hx hy
  · exact dbscan_partition_dir nbrs₂ nbrs₁ mp n hr₂ hnd₂ hsym₂ hr₁ hnd₁ hsym₁ (fun i j => (hset i j).symm) x y
      ((cc x).mp hx) ((cc y).mp hy)

/-- **a border sample is labelled, in either run, with the label of a core sample that has it in range**
(in the terms of the first relation) -/
theorem dbscan_border_determined (x : Nat) (hb : ¬ core nbrs₁ mp x) :
    (∀ v, isLab (dbscan (some nbrs₁) mp n) x v →
      ∃ y, core nbrs₁ mp y ∧ isLab (dbscan (some nbrs₁) mp n) y v ∧ x ∈ nbrs₁ y) ∧
    (∀ v, isLab (dbscan (some nbrs₂) mp n) x v →
      ∃ y, core nbrs₁ mp y ∧ isLab (dbscan (some nbrs₂) mp n) y v ∧ x ∈ nbrs₁ y) := by
  have cc := core_congr nbrs₁ nbrs₂ mp hnd₁ hnd₂ hset
  refine ⟨fun v hv => dbscan_border_label nbrs₁ mp n hr₁ hnd₁ hsym₁ x v hv hb, fun v hv => ?_⟩
  obtain ⟨y, y1, y2, y3⟩ := dbscan_border_label nbrs₂ mp n hr₂ hnd₂ hsym₂ x v hv (fun h => hb ((cc x).mpr h))
  exact ⟨y, (cc y).mpr y1, y2, (hset y x).mpr y3⟩

/-- **the cluster ids of the core samples are determined** (same partition, both runs number the
clusters by their smallest core sample): a core sample carries the same label in both runs -/
theorem dbscan_core_labels_determined (x : Nat) (hx : core nbrs₁ mp x) :
    (dbscan (some nbrs₁) mp n)[x]? = (dbscan (some nbrs₂) mp n)[x]? := by
  have cc := core_congr nbrs₁ nbrs₂ mp hnd₁ hnd₂ hset
  have lab₁ : ∀ z, (core nbrs₁ mp z ∧ z < n) → ∃ v, isLab (dbscan (some nbrs₁) mp n) z v :=
    fun z hz => (dbscan_labelled_iff nbrs₁ mp n hr₁ hnd₁ hsym₁ z hz.2).mpr (Or.inl hz.1)
  have lab₂ : ∀ z, (core nbrs₁ mp z ∧ z < n) → ∃ v, isLab (dbscan (some nbrs₂) mp n) z v :=
    fun z hz => (dbscan_labelled_iff nbrs₂ mp n hr₂ hnd₂ hsym₂ z hz.2).mpr (Or.inl ((cc z).mp hz.1))
  have ltn₁ := fun z v => dbscan_isLab_lt nbrs₁ mp n hr₁ hnd₁ hsym₁ (x := z) (v := v)
  have ltn₂ := fun z v => dbscan_isLab_lt nbrs₂ mp n hr₂ hnd₂ hsym₂ (x := z) (v := v)
  have key := labels_eq_of_spec (fun z => core nbrs₁ mp z ∧ z < n)
    (dbscan (some nbrs₁) mp n) (dbscan (some nbrs₂) mp n) lab₁ lab₂
    (fun a b ha hb => dbscan_core_partition_determined nbrs₁ nbrs₂ mp n hr₁ hnd₁ hsym₁ hr₂ hnd₂ hsym₂ hset
      a b ha.1 hb.1)
    (fun v w y hvw hy hyw => by
      obtain ⟨s, s1, s2, s3⟩ := dbscan_ids_by_first_core nbrs₁ mp n hr₁ hnd₁ hsym₁ v w y hvw hy.1 hyw
      exact ⟨s, ⟨s1, ltn₁ s v s2⟩, s2, fun y' hy' hl => s3 y' hy'.1 hl⟩)
    (fun v w y hvw hy hyw => by
      obtain ⟨s, s1, s2, s3⟩ := dbscan_ids_by_first_core nbrs₂ mp n hr₂ hnd₂ hsym₂ v w y hvw
        ((cc y).mp hy.1) hyw
      exact ⟨s, ⟨(cc s).mpr s1, ltn₂ s v s2⟩, s2, fun y' hy' hl => s3 y' ((cc y').mp hy'.1) hl⟩)
  exact getElem?_eq_of_isLab_iff ((dbscan_length nbrs₁ mp n hr₁ hnd₁ hsym₁).trans (dbscan_length nbrs₂ mp n hr₂ hnd₂ hsym₂).symm) fun v =>
    ⟨fun h => (key v x ⟨hx, ltn₁ x v h⟩).mp h, fun h => (key v x ⟨hx, ltn₂ x v h⟩).mpr h⟩

/-- **a border sample all of whose core neighbours lie in one cluster carries the same label in both
runs** — so the two label vectors can differ only on a border sample shared by two clusters -/
theorem dbscan_unshared_border_determined (x : Nat) (hb : ¬ core nbrs₁ mp x)
    (hone : ∀ y z v w, core nbrs₁ mp y → core nbrs₁ mp z → x ∈ nbrs₁ y → x ∈ nbrs₁ z →
      isLab (dbscan (some nbrs₁) mp n) y v → isLab (dbscan (some nbrs₁) mp n) z w → v = w) :
    (dbscan (some nbrs₁) mp n)[x]? = (dbscan (some nbrs₂) mp n)[x]? := by
  have det := dbscan_core_labels_determined nbrs₁ nbrs₂ mp n hr₁ hnd₁ hsym₁ hr₂ hnd₂ hsym₂ hset
  have bd := dbscan_border_determined nbrs₁ nbrs₂ mp n hr₁ hnd₁ hsym₁ hr₂ hnd₂ hsym₂ hset x hb
  have lab := dbscan_labelled_determined nbrs₁ nbrs₂ mp n hr₁ hnd₁ hsym₁ hr₂ hnd₂ hsym₂ hset x
  -- the core sample that labels `x` in run 2 carries the same label in run 1 (`det`)
  have agree : ∀ v₁ v₂, isLab (dbscan (some nbrs₁) mp n) x v₁ → isLab (dbscan (some nbrs₂) mp n) x v₂ →
      v₁ = v₂ := by
    intro v₁ v₂ h₁ h₂
    obtain ⟨y₁, c₁, e₁, m₁⟩ := bd.1 v₁ h₁
    obtain ⟨y₂, c₂, e₂, m₂⟩ := bd.2 v₂ h₂
    exact hone y₁ y₂ v₁ v₂ c₁ c₂ m₁ m₂ e₁ ((det y₂ c₂).trans e₂)
  refine getElem?_eq_of_isLab_iff ((dbscan_length nbrs₁ mp n hr₁ hnd₁ hsym₁).trans (dbscan_length nbrs₂ mp n hr₂ hnd₂ hsym₂).symm)
    fun v => ⟨fun h => ?_, fun h => ?_⟩
  · obtain ⟨w, hw⟩ := (lab (dbscan_isLab_lt nbrs₁ mp n hr₁ hnd₁ hsym₁ h)).mp ⟨v, h⟩
    exact agree v w h hw ▸ hw
  · obtain ⟨w, hw⟩ := (lab (dbscan_isLab_lt nbrs₂ mp n hr₂ hnd₂ hsym₂ h)).mpr ⟨v, h⟩
    exact agree w v hw h ▸ hw

/-- **the density clustering is a function of the neighbour relation** (the uniqueness half of the
specification): the five clauses above that need no further hypothesis, in one statement -/
theorem dbscan_determined_by_relation :
    (∀ x, x < n → ((∃ v, isLab (dbscan (some nbrs₁) mp n) x v) ↔ (∃ v, isLab (dbscan (some nbrs₂) mp n) x v))) ∧
    (∀ x : Nat, (dbscan (some nbrs₁) mp n)[x]? = some none ↔ (dbscan (some nbrs₂) mp n)[x]? = some none) ∧
    (∀ x y, core nbrs₁ mp x → core nbrs₁ mp y →
      ((∃ v, isLab (dbscan (some nbrs₁) mp n) x v ∧ isLab (dbscan (some nbrs₁) mp n) y v) ↔
       (∃ v, isLab (dbscan (some nbrs₂) mp n) x v ∧ isLab (dbscan (some nbrs₂) mp n) y v))) ∧
    (∀ x : Nat, core nbrs₁ mp x → (dbscan (some nbrs₁) mp n)[x]? = (dbscan (some nbrs₂) mp n)[x]?) ∧
    (∀ x, ¬ core nbrs₁ mp x →
      (∀ v, isLab (dbscan (some nbrs₁) mp n) x v →
        ∃ y, core nbrs₁ mp y ∧ isLab (dbscan (some nbrs₁) mp n) y v ∧ x ∈ nbrs₁ y) ∧
      (∀ v, isLab (dbscan (some nbrs₂) mp n) x v →
        ∃ y, core nbrs₁ mp y ∧ isLab (dbscan (some nbrs₂) mp n) y v ∧ x ∈ nbrs₁ y)) :=
  ⟨dbscan_labelled_determined nbrs₁ nbrs₂ mp n hr₁ hnd₁ hsym₁ hr₂ hnd₂ hsym₂ hset,
   dbscan_noise_determined nbrs₁ nbrs₂ mp n hr₁ hnd₁ hsym₁ hr₂ hnd₂ hsym₂ hset,
   dbscan_core_partition_determined nbrs₁ nbrs₂ mp n hr₁ hnd₁ hsym₁ hr₂ hnd₂ hsym₂ hset,
   dbscan_core_labels_determined nbrs₁ nbrs₂ mp n hr₁ hnd₁ hsym₁ hr₂ hnd₂ hsym₂ hset,
   dbscan_border_determined nbrs₁ nbrs₂ mp n hr₁ hnd₁ hsym₁ hr₂ hnd₂ hsym₂ hset⟩

end determined

/-- non-vacuity of the section above: the same relation returned in two different orders (as a linear
scan and a tree would): two clusters `{0,1,2,(3)}` and `{(3),4,5,6}` around the core samples 2 and 4
(`min_points = 4`), sample 3 a border sample in range of both, sample 7 noise. -/
def exA : Nat → List Nat
  | 0 => [0, 1, 2]
  | 1 => [0, 1, 2]
  | 2 => [0, 1, 2, 3]
  | 3 => [2, 3, 4]
  | 4 => [3, 4, 5, 6]
  | 5 => [4, 5, 6]
  | 6 => [4, 5, 6]
  | 7 => [7]
  | _ => []
def exB : Nat → List Nat
  | 0 => [2, 0, 1]
  | 1 => [1, 2, 0]
  | 2 => [3, 2, 1, 0]
  | 3 => [4, 3, 2]
  | 4 => [6, 3, 5, 4]
  | 5 => [5, 6, 4]
  | 6 => [4, 6, 5]
  | 7 => [7]
  | _ => []

example : dbscan (some exA) 4 8 = [some 0, some 0, some 0, some 0, some 1, some 1, some 1, none] := by decide
example : dbscan (some exB) 4 8 = [some 0, some 0, some 0, some 0, some 1, some 1, some 1, none] := by decide
example : ∀ i j, j ∈ exA i ↔ j ∈ exB i := by
  have h : ∀ i < 8, (exA i).Perm (exB i) := by decide
  intro i j
  rcases Nat.lt_or_ge i 8 with hi | hi
  · exact (h i hi).mem_iff
  · rw [← Nat.sub_add_cancel hi]; exact Iff.rfl
example : (∀ i, ∀ j ∈ exB i, j < 8) ∧ (∀ i, (exB i).Nodup) ∧ (∀ i j, j ∈ exB i → i ∈ exB j) :=
  table_ok exB 8 (fun _ => rfl) (by decide)
example : (∀ i, ∀ j ∈ exA i, j < 8) ∧ (∀ i, (exA i).Nodup) ∧ (∀ i j, j ∈ exA i → i ∈ exA j) :=
  table_ok exA 8 (fun _ => rfl) (by decide)
/-- sample 3 is the shared border sample: core samples 2 (cluster 0) and 4 (cluster 1) both reach it -/
example : core exA 4 2 ∧ core exA 4 4 ∧ ¬ core exA 4 3 ∧ 3 ∈ exA 2 ∧ 3 ∈ exA 4 := by
  refine ⟨by unfold core; decide, by unfold core; decide, by unfold core; decide, by decide, by decide⟩

/-! ### DBSCAN in the terms of the definition: neighbourhood `{j < n | dist i j < tol}` of a symmetric distance

`rangeQuery dist tol n` satisfies the three hypotheses of the section above for **every** symmetric
`dist`, so the clauses hold for the labelling computed from it, with nothing assumed about an index. -/
section metric
variable {α : Type} [LT α] [DecidableLT α] (dist : Nat → Nat → α) (tol : α) (mp n : Nat)

theorem mem_rangeQuery (i j : Nat) : j ∈ rangeQuery dist tol n i ↔ i < n ∧ j < n ∧ dist i j < tol := by
  unfold rangeQuery
  by_cases h : i < n <;> simp [h]

theorem rangeQuery_range (i : Nat) : ∀ j ∈ rangeQuery dist tol n i, j < n :=
  fun j h => ((mem_rangeQuery dist tol n i j).mp h).2.1

theorem rangeQuery_nodup (i : Nat) : (rangeQuery dist tol n i).Nodup := by
  unfold rangeQuery
  split
  · exact (List.nodup_range).sublist List.filter_sublist
  · exact List.nodup_nil

theorem rangeQuery_symm (hsymm : ∀ i j, dist i j = dist j i) (i j : Nat) :
    j ∈ rangeQuery dist tol n i → i ∈ rangeQuery dist tol n j := by
  intro h
  obtain ⟨h1, h2, h3⟩ := (mem_rangeQuery dist tol n i j).mp h
  exact (mem_rangeQuery dist tol n j i).mpr ⟨h2, h1, by rw [hsymm j i]; exact h3⟩

/-- **the labelling of the definition**: with the neighbourhood `{j | dist x j < tol}` of any symmetric
distance, a sample is labelled exactly when at least `min_points` samples (itself included, when
`dist x x < tol`) lie within the tolerance of it, or it lies within the tolerance of such a sample. -/
theorem dbscan_labelled_iff_metric (hsymm : ∀ i j, dist i j = dist j i) (x : Nat) (hx : x < n) :
    (∃ v, isLab (dbscan (some (rangeQuery dist tol n)) mp n) x v) ↔
      (mp ≤ (rangeQuery dist tol n x).length ∨
        ∃ y, y < n ∧ mp ≤ (rangeQuery dist tol n y).length ∧ dist y x < tol) := by
  rw [dbscan_labelled_iff (rangeQuery dist tol n) mp n (rangeQuery_range dist tol n)
    (rangeQuery_nodup dist tol n) (rangeQuery_symm dist tol n hsymm) x hx]
  unfold core
  constructor
  · rintro (a | ⟨y, y1, y2⟩)
    · exact Or.inl a
    · obtain ⟨h1, _, h3⟩ := (mem_rangeQuery dist tol n y x).mp y2
      exact Or.inr ⟨y, h1, y1, h3⟩
  · rintro (a | ⟨y, y1, y2, y3⟩)
    · exact Or.inl a
    · exact Or.inr ⟨y, y2, (mem_rangeQuery dist tol n y x).mpr ⟨y1, hx, y3⟩⟩

/-- the number of samples within the tolerance of `x` is what `core` counts -/
theorem rangeQuery_length (x : Nat) (hx : x < n) :
    (rangeQuery dist tol n x).length = ((List.range n).filter fun j => decide (dist x j < tol)).length := by
  unfold rangeQuery; rw [if_pos hx]


/-- the other three labelling clauses in the terms of the definition (same function
`dbscan (some (rangeQuery dist tol n)) mp n`, the one the driver runs on the `dbscanrq` requests):
core samples within the tolerance of each other carry one label; a labelled non-core sample carries
the label of a core sample within the tolerance; equally labelled core samples are density-connected. -/
theorem dbscan_clauses_metric (hsymm : ∀ i j, dist i j = dist j i) :
    (∀ x y v w, x < n → y < n → mp ≤ (rangeQuery dist tol n x).length → mp ≤ (rangeQuery dist tol n y).length →
      dist x y < tol → isLab (dbscan (some (rangeQuery dist tol n)) mp n) x v →
      isLab (dbscan (some (rangeQuery dist tol n)) mp n) y w → v = w) ∧
    (∀ x v, isLab (dbscan (some (rangeQuery dist tol n)) mp n) x v → ¬ mp ≤ (rangeQuery dist tol n x).length →
      ∃ y, y < n ∧ mp ≤ (rangeQuery dist tol n y).length ∧
        isLab (dbscan (some (rangeQuery dist tol n)) mp n) y v ∧ dist y x < tol) ∧
    (∀ x y v, mp ≤ (rangeQuery dist tol n x).length → mp ≤ (rangeQuery dist tol n y).length →
      isLab (dbscan (some (rangeQuery dist tol n)) mp n) x v →
      isLab (dbscan (some (rangeQuery dist tol n)) mp n) y v →
      ∃ s, Conn (rangeQuery dist tol n) mp s x ∧ Conn (rangeQuery dist tol n) mp s y) := by
  have hr := rangeQuery_range dist tol n
  have hn := rangeQuery_nodup dist tol n
  have hs := rangeQuery_symm dist tol n hsymm
  refine ⟨?_, ?_, ?_⟩
  · intro x y v w hx hy cx cy hxy lx ly
    exact dbscan_core_adjacent_same _ mp n hr hn hs x y v w cx cy
      ((mem_rangeQuery dist tol n x y).mpr ⟨hx, hy, hxy⟩) lx ly
  · intro x v lx hb
    obtain ⟨y, y1, y2, y3⟩ := dbscan_border_label _ mp n hr hn hs x v lx hb
    obtain ⟨a, _, c⟩ := (mem_rangeQuery dist tol n y x).mp y3
    exact ⟨y, a, y1, y2, c⟩
  · intro x y v cx cy lx ly
    obtain ⟨s, _, s2, s3⟩ := dbscan_components_differ _ mp n hr hn hs x y v cx cy lx ly
    exact ⟨s, s2, s3⟩

end metric

/-- non-vacuity: samples at 0, 1, 2, 9 on a line (distance `|a - b|` on naturals, symmetric), tolerance 2,
`min_points = 3`: sample 1 is core, 0 and 2 border, 3 noise -/
def exLine (i j : Nat) : Nat :=
  let xs := [0, 1, 2, 9]
  let a := xs[i]?.getD 0; let b := xs[j]?.getD 0
  if a < b then b - a else a - b
example : ∀ i j, exLine i j = exLine j i := by
  intro i j; unfold exLine; simp only; split <;> split <;> omega
example : dbscan (some (rangeQuery exLine 2 4)) 3 4 = [some 0, some 0, some 0, none] := by decide

/-- non-vacuity: a chain `0 - 1 - 2 - 3`, sample 4 isolated, `min_points = 3`: the relation is
symmetric, duplicate free, in range; samples 1, 2 are core, 0 and 3 border, 4 noise. -/
def exNbrs : Nat → List Nat
  | 0 => [0, 1]
  | 1 => [0, 1, 2]
  | 2 => [1, 2, 3]
  | 3 => [2, 3]
  | 4 => [4]
  | _ => []

example : dbscan (some exNbrs) 3 5 = [some 0, some 0, some 0, some 0, none] := by decide
example : (∀ i, ∀ j ∈ exNbrs i, j < 5) ∧ (∀ i, (exNbrs i).Nodup) ∧ (∀ i j, j ∈ exNbrs i → i ∈ exNbrs j) :=
  table_ok exNbrs 5 (fun _ => rfl) (by decide)
example : core exNbrs 3 1 ∧ ¬ core exNbrs 3 0 ∧ isLab (dbscan (some exNbrs) 3 5) 0 0 := by
  refine ⟨by unfold core; decide, by unfold core; decide, by unfold isLab; decide⟩

/-! ## OPTICS -/
section optics
open LinfaSpec.Optics
variable {D : Type} [LinearOrder D]

/-- **core distance**: every listed sample carries, as core distance, element `min_points - 1` of
the ascending list `ds` of the distances to the samples in range — i.e. the distance to its
`min_points`-th nearest neighbour in range, undefined (`none`) where `ds` is too short.  `ds` is *the*
sorted arrangement of the in-range distances (`ds ~ map (dist i) (nbrs i)`, ascending).  For `mp = 0` the
element read is element 0 (`mp - 1` on naturals). -/
theorem optics_core_distance (nbrs : Nat → List Nat) (dist : Nat → Nat → D) (mp n : Nat) :
    ∀ e ∈ optics (some nbrs) dist mp n, ∃ ds : List D,
      ds.Perm ((nbrs e.index).map (dist e.index)) ∧ ds.Pairwise (· ≤ ·) ∧ e.core = ds[mp - 1]? := by
  intro e he
  have h := foldl_CoreOK nbrs dist mp n (List.range n) e he
  refine ⟨(findNeighbors nbrs dist e.index).map (dist e.index), ?_, ?_, ?_⟩
  · exact (findNeighbors_perm nbrs dist e.index).map _
  · exact findNeighbors_sorted nbrs dist e.index
  · rw [h, coreDist_eq]

/-- **the core distance does not depend on the neighbour index**: two query results for sample `i`
that contain the same positions in any order give the same core distance (`find_neighbors` sorts them;
the linear search returns dataset order, the trees do not). -/
theorem optics_core_distance_index_independent (nbrs nbrs' : Nat → List Nat) (dist : Nat → Nat → D)
    (mp i : Nat) (h : (nbrs i).Perm (nbrs' i)) :
    coreDist dist mp i (findNeighbors nbrs dist i) = coreDist dist mp i (findNeighbors nbrs' dist i) :=
  coreDist_congr nbrs nbrs' dist mp i h

/-- `F::max` of the model is `max` of the order -/
theorem fmax_eq_max (a b : D) : fmax a b = max a b := by
  unfold fmax
  by_cases h : a < b
  · rw [if_pos h, max_eq_right (le_of_lt h)]
  · rw [if_neg h, max_eq_left (not_lt.mp h)]

/-- **reachability**: the reachability distance of a listed sample `e` is undefined, or it equals
`max(core distance of o, dist(e, o))` for a sample `o` that is listed **strictly earlier** (position
`q < p`), is a core sample (`o.core = some c`) and has `e` in range (`e.index ∈ nbrs o.index`).
This is the statement's clause "either undefined or equals max(core distance of o, distance to o) for
some core point o within the tolerance that is listed no later than the sample". -/
theorem optics_reachability_witness (nbrs : Nat → List Nat) (dist : Nat → Nat → D) (mp n : Nat)
    (hrange : ∀ i, ∀ j ∈ nbrs i, j < n) :
    ∀ (p : Nat) (e : Entry D), (optics (some nbrs) dist mp n)[p]? = some e → ∀ r : D, e.reach = some r →
      ∃ (q : Nat) (o : Entry D) (c : D), q < p ∧ (optics (some nbrs) dist mp n)[q]? = some o ∧ o.core = some c ∧
        e.index ∈ nbrs o.index ∧ r = max c (dist e.index o.index) := by
  intro p e he r hr
  have h := Optics.foldl_RInv n nbrs dist mp hrange n (Nat.le_refl n)
  obtain ⟨o, ho, c, h1, h2, h3⟩ := h.listed p e he r hr
  obtain ⟨q, hq⟩ := List.mem_iff_getElem?.mp ho
  rw [List.getElem?_take] at hq
  by_cases hqp : q < p
  · rw [if_pos hqp] at hq
    exact ⟨q, o, c, hqp, hq, h1, h2, by rw [h3, fmax_eq_max]⟩
  · rw [if_neg hqp] at hq
    exact absurd hq (by simp)

end optics

/-- **OPTICS lists every sample exactly once**: no position occurs twice in the ordering and the
positions listed are exactly `0..n-1` (hence the ordering has `n` entries).  Only `hrange` is needed. -/
theorem optics_lists_each_once {D : Type} [LT D] [DecidableLT D]
    (nbrs : Nat → List Nat) (dist : Nat → Nat → D) (mp n : Nat)
    (hrange : ∀ i, ∀ j ∈ nbrs i, j < n) :
    ((Optics.optics (some nbrs) dist mp n).map (·.index)).Nodup ∧
    ∀ j, j ∈ (Optics.optics (some nbrs) dist mp n).map (·.index) ↔ j < n := by
  have h := Optics.foldl_LInv n nbrs dist mp hrange n (Nat.le_refl n)
  refine ⟨h.nd, fun j => (h.mem j).trans ⟨fun hp => h.plen ▸ Optics.isProcessed_lt hp, ?_⟩⟩
  exact Optics.foldl_processed n nbrs dist mp hrange n (Nat.le_refl n) j

example : (∀ i, ∀ j ∈ exNbrs i, j < 5) := (table_ok exNbrs 5 (fun _ => rfl) (by decide)).1

/-- **termination of the OPTICS seed loop**: after every iteration of the outer scan the seed list is
empty — the `while !seeds.is_empty()` loop of the model always ends because the list is empty, never
because its fuel (`n + 1`) ran out (measure: the number of samples listed; a waiting seed is an unlisted
position below `n`).  With `seedLoop_fuel_irrelevant` (Proofs/Optics.lean): more fuel gives the same
result.  Needs only `hrange`. -/
theorem optics_fuel_enough {D : Type} [LT D] [DecidableLT D]
    (nbrs : Nat → List Nat) (dist : Nat → Nat → D) (mp n : Nat)
    (hrange : ∀ i, ∀ j ∈ nbrs i, j < n) (k : Nat) (hk : k ≤ n) :
    ((List.range k).foldl (Optics.outerStep nbrs dist mp n) (Optics.init n)).seeds = [] :=
  Optics.foldl_seeds_empty n nbrs dist mp hrange k hk

/-- one more unit of fuel changes nothing once the fuel covers the samples not yet listed: from a state `s`
of the seed loop (`SInv n s`) with `n ≤ listed + fuel`, `fuel + 1` and `fuel` give the same state -/
theorem optics_seed_loop_fuel_irrelevant {D : Type} [LT D] [DecidableLT D]
    (nbrs : Nat → List Nat) (dist : Nat → Nat → D) (mp n : Nat)
    (hrange : ∀ i, ∀ j ∈ nbrs i, j < n) (s : Optics.State D) (hs : Optics.SInv n s)
    (fuel : Nat) (hf : n ≤ s.out.length + fuel) :
    Optics.seedLoop nbrs dist mp (fuel + 1) s = Optics.seedLoop nbrs dist mp fuel s :=
  Optics.seedLoop_fuel_irrelevant n nbrs dist mp hrange fuel s hs hf

example : ((List.range 5).foldl (Optics.outerStep exNbrs exLine 3 5) (Optics.init 5)).seeds = [] :=
  optics_fuel_enough exNbrs exLine 3 5 (table_ok exNbrs 5 (fun _ => rfl) (by decide)).1 5 (Nat.le_refl 5)

/-! ### OPTICS in the terms of the definition: neighbourhood `{j < n | dist i j < tol}`

The three OPTICS clauses for the very function the driver runs on the `opticsrq` requests:
`optics (some (rangeQuery dist tol n)) dist mp n`, nothing assumed about an index.  Symmetry of `dist` is
not used: the model sorts the neighbours of `i` by `dist i ·`. -/
section optics_metric
open LinfaSpec.Optics
variable {D : Type} [LinearOrder D] (dist : Nat → Nat → D) (tol : D) (mp n : Nat)

/-- every sample is listed exactly once -/
theorem optics_lists_each_once_metric :
    ((optics (some (rangeQuery dist tol n)) dist mp n).map (·.index)).Nodup ∧
    ∀ j, j ∈ (optics (some (rangeQuery dist tol n)) dist mp n).map (·.index) ↔ j < n :=
  optics_lists_each_once (rangeQuery dist tol n) dist mp n (rangeQuery_range dist tol n)

/-- **core distance = distance to the `min_points`-th nearest sample within the tolerance** (the sample
itself counted, `1 ≤ min_points`): `ds` is the ascending arrangement of the distances `dist x j` of all
`j < n` with `dist x j < tol`, and the core distance is its element `min_points - 1` — undefined exactly
when fewer than `min_points` samples lie within the tolerance. -/
theorem optics_core_distance_metric (_hmp : 1 ≤ mp) :
    ∀ e ∈ optics (some (rangeQuery dist tol n)) dist mp n, ∃ ds : List D,
      ds.Perm (((List.range n).filter fun j => decide (dist e.index j < tol)).map (dist e.index)) ∧
      ds.Pairwise (· ≤ ·) ∧ e.core = ds[mp - 1]? ∧
      (e.core = none ↔ ((List.range n).filter fun j => decide (dist e.index j < tol)).length < mp) := by
  intro e he
  obtain ⟨ds, h1, h2, h3⟩ := optics_core_distance (rangeQuery dist tol n) dist mp n e he
  have hlt : e.index < n :=
    ((optics_lists_each_once_metric dist tol mp n).2 e.index).mp (List.mem_map.mpr ⟨e, he, rfl⟩)
  have hq : rangeQuery dist tol n e.index = (List.range n).filter fun j => decide (dist e.index j < tol) := by
    unfold rangeQuery; rw [if_pos hlt]
  rw [hq] at h1
  refine ⟨ds, h1, h2, h3, ?_⟩
  rw [h3, List.getElem?_eq_none_iff, h1.length_eq, List.length_map]
  omega

/-- **reachability**: undefined, or `max(core distance of o, dist(x, o))` for a core sample `o` listed
strictly earlier with `dist o x < tol` -/
theorem optics_reachability_witness_metric :
    ∀ (p : Nat) (e : Entry D), (optics (some (rangeQuery dist tol n)) dist mp n)[p]? = some e →
      ∀ r : D, e.reach = some r →
      ∃ (q : Nat) (o : Entry D) (c : D), q < p ∧
        (optics (some (rangeQuery dist tol n)) dist mp n)[q]? = some o ∧ o.core = some c ∧
        dist o.index e.index < tol ∧ r = max c (dist e.index o.index) := by
  intro p e he r hr
  obtain ⟨q, o, c, h1, h2, h3, h4, h5⟩ :=
    optics_reachability_witness (rangeQuery dist tol n) dist mp n (rangeQuery_range dist tol n) p e he r hr
  exact ⟨q, o, c, h1, h2, h3, ((mem_rangeQuery dist tol n o.index e.index).mp h4).2.2, h5⟩

end optics_metric

example : ((Optics.optics (some (rangeQuery exLine 2 4)) exLine 3 4).map fun e => (e.index, e.core, e.reach)) =
    [(0, none, none), (1, some 1, none), (2, none, some 1), (3, none, none)] := by
  simp +decide [Optics.optics, Optics.outerStep, Optics.seedLoop, Optics.seedStep, Optics.getSeeds, Optics.init,
    Optics.coreDist, Optics.findNeighbors, Optics.isProcessed, Optics.setCore, Optics.setReach,
    Optics.getReach, Optics.fmax, Optics.argminPos, rangeQuery, List.range, List.range.loop,
    List.mergeSort, List.MergeSort.Internal.splitInTwo]

section optics_determined
open LinfaSpec.Optics
variable {D : Type} [LinearOrder D]

/-- **what of the OPTICS result is a function of the relation and the distances** (two query results
`nbrs₁ i ~ nbrs₂ i` that are permutations of each other for every sample, as two indices return them):
(a) both orderings list the same samples (each once); (b) a sample carries the same core distance in
both; (c) every defined reachability of the second run is `max(core(o), dist(x, o))` for a sample `o`
listed strictly earlier *in that run*, where `core(o)` is the core distance computed from the **first**
relation and `x` is in range of `o` in the first relation.  Needs no duplicate-freeness; the identity
of the two orderings is `optics_ordering_determined` below. -/
theorem optics_determined_by_relation (nbrs₁ nbrs₂ : Nat → List Nat) (dist : Nat → Nat → D) (mp n : Nat)
    (hrange : ∀ i, ∀ j ∈ nbrs₁ i, j < n) (hperm : ∀ i, (nbrs₁ i).Perm (nbrs₂ i)) :
    ((optics (some nbrs₁) dist mp n).map (·.index)).Perm ((optics (some nbrs₂) dist mp n).map (·.index)) ∧
    (∀ e₁ ∈ optics (some nbrs₁) dist mp n, ∀ e₂ ∈ optics (some nbrs₂) dist mp n,
      e₁.index = e₂.index → e₁.core = e₂.core) ∧
    (∀ (p : Nat) (e : Entry D), (optics (some nbrs₂) dist mp n)[p]? = some e → ∀ r : D, e.reach = some r →
      ∃ (q : Nat) (o : Entry D) (c : D), q < p ∧ (optics (some nbrs₂) dist mp n)[q]? = some o ∧
        coreDist dist mp o.index (findNeighbors nbrs₁ dist o.index) = some c ∧
        e.index ∈ nbrs₁ o.index ∧ r = max c (dist e.index o.index)) := by
  have hrange₂ : ∀ i, ∀ j ∈ nbrs₂ i, j < n := fun i j hj => hrange i j ((hperm i).symm.subset hj)
  have ok₁ := foldl_CoreOK nbrs₁ dist mp n (List.range n)
  have ok₂ := foldl_CoreOK nbrs₂ dist mp n (List.range n)
  refine ⟨?_, ?_, ?_⟩
  · obtain ⟨nd₁, m₁⟩ := optics_lists_each_once nbrs₁ dist mp n hrange
    obtain ⟨nd₂, m₂⟩ := optics_lists_each_once nbrs₂ dist mp n hrange₂
    exact (List.perm_ext_iff_of_nodup nd₁ nd₂).mpr fun j => (m₁ j).trans (m₂ j).symm
  · intro e₁ h₁ e₂ h₂ hidx
    have a := ok₁ e₁ h₁
    have b := ok₂ e₂ h₂
    rw [a, b, hidx]
    exact optics_core_distance_index_independent nbrs₁ nbrs₂ dist mp e₂.index (hperm e₂.index)
  · intro p e he r hr
    obtain ⟨q, o, c, hq, ho, hc, hm, hrr⟩ := optics_reachability_witness nbrs₂ dist mp n hrange₂ p e he r hr
    refine ⟨q, o, c, hq, ho, ?_, (hperm o.index).symm.subset hm, hrr⟩
    rw [optics_core_distance_index_independent nbrs₁ nbrs₂ dist mp o.index (hperm o.index),
      ← ok₂ o (List.mem_of_getElem? ho)]
    exact hc

/-- **the whole OPTICS result — ordering, core distances, reachabilities — is a function of the
relation and the distances**: two neighbour functions whose (duplicate-free) query results are
permutations of each other give the *identical* list of entries.  (In the code the seeds are re-sorted by
position before every selection, so neither the order in which an index returns the neighbours nor the
order in which seeds were pushed reaches the result.) -/
theorem optics_ordering_determined (nbrs₁ nbrs₂ : Nat → List Nat) (dist : Nat → Nat → D) (mp n : Nat)
    (hperm : ∀ i, (nbrs₁ i).Perm (nbrs₂ i)) (hnd : ∀ i, (nbrs₁ i).Nodup) :
    optics (some nbrs₁) dist mp n = optics (some nbrs₂) dist mp n :=
  (Optics.foldl_Sim nbrs₁ nbrs₂ dist mp hperm hnd n (List.range n) (Optics.init n) (Optics.init n)
    ⟨rfl, rfl, rfl, List.Perm.refl _⟩).out

/-- non-vacuity of the hypotheses of `optics_ordering_determined`: one query result in two orders -/
example : ∀ i, ((fun _ : Nat => [0, 2, 3, 4, 1]) i).Perm ((fun _ : Nat => [0, 1, 2, 4, 3]) i) := by
  intro i; show ([0, 2, 3, 4, 1] : List Nat).Perm [0, 1, 2, 4, 3]; decide
example : ∀ i, ((fun _ : Nat => [0, 2, 3, 4, 1]) i).Nodup := by
  intro i; show ([0, 2, 3, 4, 1] : List Nat).Nodup; decide

end optics_determined

/-- non-vacuity of the index independence: samples at `[0, 6, 1, 5, 2, 18, 19]` on a line, `min_points = 3`.
A query result `[0, 2, 3, 4]` for sample 0 (dataset order) and the same positions as `[0, 2, 4, 3]` both give
core distance 2 after sorting, while element 2 of the first list as returned is at distance 5. -/
def exDist (i j : Nat) : Nat :=
  let xs := [0, 6, 1, 5, 2, 18, 19]
  let a := xs[i]?.getD 0; let b := xs[j]?.getD 0
  if a < b then b - a else a - b

example : Optics.coreDist exDist 3 0 (Optics.findNeighbors (fun _ => [0, 2, 3, 4]) exDist 0) = some 2 := by
  simp +decide [Optics.findNeighbors, List.mergeSort, List.MergeSort.Internal.splitInTwo]
example : Optics.coreDist exDist 3 0 (Optics.findNeighbors (fun _ => [0, 2, 4, 3]) exDist 0) = some 2 := by
  simp +decide [Optics.findNeighbors, List.mergeSort, List.MergeSort.Internal.splitInTwo]
example : Optics.coreDist exDist 3 0 [0, 2, 3, 4] = some 5 := by decide
example : ([0, 2, 3, 4] : List Nat).Perm [0, 2, 4, 3] := by decide


/-- non-vacuity of `optics_reachability_witness`: two samples at distance 6 within the tolerance,
`min_points = 2`: sample 0 starts (core distance 6, reachability undefined), sample 1 follows with
reachability `6 = max(core(0), dist(1,0))`, witness sample 0 listed before it. -/
example : ((Optics.optics (some fun _ => [0, 1]) exDist 2 2).map fun e => (e.index, e.core, e.reach)) =
    [(0, some 6, none), (1, some 6, some 6)] := by
  simp +decide [Optics.optics, Optics.outerStep, Optics.seedLoop, Optics.seedStep, Optics.getSeeds, Optics.init,
    Optics.coreDist, Optics.findNeighbors, Optics.isProcessed, Optics.setCore, Optics.setReach,
    Optics.getReach, Optics.fmax, Optics.argminPos, List.range, List.range.loop,
    List.mergeSort, List.MergeSort.Internal.splitInTwo]
example : ∀ i, ∀ j ∈ (fun _ : Nat => [0, 1]) i, j < 2 := by
  intro i j h; simp at h; omega

/-- records without features (the index constructor reports `ZeroDimension`): DBSCAN returns one
`None` per sample (this is the behaviour recorded as finding `C08-zero-features-dbscan`) -/
theorem dbscan_zero_dimension (mp n : Nat) :
    dbscan none mp n = List.replicate n none := rfl

example : dbscan none 2 3 = [none, none, none] := by decide

/-! ## hyper-parameter guard (`ParamGuard::check` of `DbscanParams` / `OpticsParams`) -/
section params
variable {α : Type} [LinearOrder α] [OfNat α 0]

/-- the guard as the code states it, for **every** scalar with a decidable `≤` — no order axioms, so it
applies to the `Float` instance the driver runs (where `NaN ≤ 0` is false: a NaN tolerance is accepted,
by the code as by the model; the statement's quantifier does not contain it) -/
theorem dbscan_params_check_generic {β : Type} [LE β] [DecidableLE β] [OfNat β 0] (p q : Dbscan.Params β) :
    p.check = .ok q ↔ (2 ≤ p.minPoints ∧ ¬ p.tolerance ≤ 0 ∧ q = p) := by
  unfold Dbscan.Params.check
  split
  · exact ⟨nofun, fun h => by omega⟩
  · rename_i h1
    split
    · rename_i h2
      exact ⟨nofun, fun h => absurd h2 h.2.1⟩
    · rename_i h2
      exact ⟨fun e => ⟨by omega, h2, (Except.ok.inj e).symm⟩, fun h => h.2.2 ▸ rfl⟩

theorem optics_params_check_generic {β : Type} [LE β] [DecidableLE β] [OfNat β 0] (p q : Optics.Params β) :
    p.check = .ok q ↔ (2 ≤ p.minPoints ∧ ¬ p.tolerance ≤ 0 ∧ q = p) := by
  unfold Optics.Params.check
  split
  · rename_i h2
    exact ⟨nofun, fun h => absurd h2 h.2.1⟩
  · rename_i h2
    split
    · exact ⟨nofun, fun h => by omega⟩
    · exact ⟨fun e => ⟨by omega, h2, (Except.ok.inj e).symm⟩, fun h => h.2.2 ▸ rfl⟩

/-- DBSCAN: `check` accepts exactly `min_points ≥ 2 ∧ tolerance > 0` and returns the parameters unchanged -/
theorem dbscan_params_check_iff (p q : Dbscan.Params α) :
    p.check = .ok q ↔ (2 ≤ p.minPoints ∧ 0 < p.tolerance ∧ q = p) := by
  rw [dbscan_params_check_generic, not_le]

/-- DBSCAN tests `min_points` first: the error is `MinPoints` iff `min_points ≤ 1`, and `Tolerance` iff
`min_points ≥ 2` and `tolerance ≤ 0` -/
theorem dbscan_params_check_error (p : Dbscan.Params α) :
    (p.check = .error .minPoints ↔ p.minPoints ≤ 1) ∧
    (p.check = .error .tolerance ↔ 2 ≤ p.minPoints ∧ p.tolerance ≤ 0) := by
  unfold Dbscan.Params.check
  split
  · rename_i h1
    exact ⟨⟨fun _ => h1, fun _ => rfl⟩, nofun, fun h => by omega⟩
  · rename_i h1
    split
    · rename_i h2
      exact ⟨⟨nofun, fun h => absurd h h1⟩, fun _ => ⟨by omega, h2⟩, fun _ => rfl⟩
    · rename_i h2
      exact ⟨⟨nofun, fun h => absurd h h1⟩, nofun, fun h => absurd h.2 h2⟩

/-- OPTICS: same accepted set -/
theorem optics_params_check_iff (p q : Optics.Params α) :
    p.check = .ok q ↔ (2 ≤ p.minPoints ∧ 0 < p.tolerance ∧ q = p) := by
  rw [optics_params_check_generic, not_le]

/-- OPTICS tests the tolerance first (the other order than DBSCAN) -/
theorem optics_params_check_error (p : Optics.Params α) :
    (p.check = .error .tolerance ↔ p.tolerance ≤ 0) ∧
    (p.check = .error .minPoints ↔ 0 < p.tolerance ∧ p.minPoints ≤ 1) := by
  unfold Optics.Params.check
  split
  · rename_i h2
    exact ⟨⟨fun _ => h2, fun _ => rfl⟩, nofun, fun h => absurd h2 (not_le.mpr h.1)⟩
  · rename_i h2
    split
    · rename_i h1
      exact ⟨⟨nofun, fun h => absurd h h2⟩, fun _ => ⟨not_le.mp h2, h1⟩, fun _ => rfl⟩
    · rename_i h1
      exact ⟨⟨nofun, fun h => absurd h h2⟩, nofun, fun h => absurd h.2 h1⟩

example : (Dbscan.Params.new (1 : Int) 3).check = .ok ⟨3, 1⟩ := by
  simp [Dbscan.Params.check, Dbscan.Params.new]
example : ((Dbscan.Params.new (1 : Int) 1).withTolerance 0).check = .error .minPoints := by
  simp [Dbscan.Params.check, Dbscan.Params.new, Dbscan.Params.withTolerance]
example : ((Optics.Params.new (1 : Int) 1).withTolerance 0).check = .error .tolerance := by
  simp [Optics.Params.check, Optics.Params.new, Optics.Params.withTolerance]

/-- the dataset form passes the records on untouched and its targets are the labels of the array form -/
theorem dbscan_dataset_form {R T : Type} (nbrs : R → Option (Nat → List Nat)) (nrows : R → Nat) (mp : Nat)
    (ds : R × T) :
    (transformDataset nbrs nrows mp ds).1 = ds.1 ∧
    (transformDataset nbrs nrows mp ds).2 = dbscan (nbrs ds.1) mp (nrows ds.1) := ⟨rfl, rfl⟩

end params

end LinfaSpec.Props.C08
