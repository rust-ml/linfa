import LinfaSpec.Proofs.KernelReal
import LinfaSpec.Proofs.Sparse
import LinfaSpec.Proofs.Hier

/-!
# C06 — Kernel matrices hold the kernel function; hierarchical clustering partitions

Theorems about `LinfaSpec.Kernel` (model of `linfa-kernel`) and `LinfaSpec.Hier` (model of the merge
replay of `linfa-hierarchical`).  Numeric statements are over an arbitrary field / ordered field
(resp. `ℝ` where `exp` is needed) and speak about the very definitions the driver runs on `Float`.
`Transc.exp`, `KPow.powf` are uninterpreted unless said otherwise, so symmetry holds whatever libm does.
-/
namespace LinfaSpec.Props.C06
open LinfaSpec LinfaSpec.Kernel LinfaSpec.Hier

section
variable {α : Type} [Field α] [Transc α] [KPow α]

omit [Transc α] [KPow α] in
/-- ndarray's eightfold-unrolled `sum` (the order the real code adds in) is the sum -/
theorem ndSum_is_sum (xs : List α) : ndSum xs = xs.sum := ndSum_eq_sum xs

example : ndSum ([1, 2, 3, 4, 5, 6, 7, 8, 9, 10, 11] : List ℚ) = 66 := by decide +kernel

/-- **entry `(i, j)` of the dense kernel matrix is the kernel function of rows `i` and `j`**,
for every record matrix and every kernel method -/
theorem dense_entry (m : Method α) (X : List (List α)) (i j : Nat) (hi : i < X.length) (hj : j < X.length) :
    ((dense m X)[i]?.bind (·[j]?)) = some (kernelFn m X[i] X[j]) := by
  simp [dense, hi, hj]

/-- the kernel function is symmetric for every method (Gaussian with any bandwidth, linear,
polynomial with any constant and degree), whatever `exp` and `powf` are -/
theorem kernelFn_symm (m : Method α) (a b : List α) : kernelFn m a b = kernelFn m b a := by
  cases m with
  | gaussian eps => simp only [kernelFn, sqDist_comm a b]
  | linear => simp only [kernelFn, ndDot_comm a b]
  | poly c d => simp only [kernelFn, ndDot_comm a b]

/-- **the dense kernel matrix is symmetric** -/
theorem dense_symm (m : Method α) (X : List (List α)) (i j : Nat) (hi : i < X.length) (hj : j < X.length) :
    ((dense m X)[i]?.bind (·[j]?)) = ((dense m X)[j]?.bind (·[i]?)) := by
  rw [dense_entry m X i j hi hj, dense_entry m X j i hj hi, kernelFn_symm]

/-- the Gaussian kernel of a row with itself is `exp 0`, for every bandwidth -/
theorem gaussian_self (eps : α) (a : List α) : kernelFn (.gaussian eps) a a = Transc.exp 0 := by
  simp [kernelFn, sqDist_self]

end

/-- **unit diagonal of the Gaussian kernel matrix** (over `ℝ`, `exp` = `Real.exp`) -/
theorem gaussian_diag_one (eps : ℝ) (X : List (List ℝ)) (i : Nat) (hi : i < X.length) :
    ((dense (.gaussian eps) X)[i]?.bind (·[i]?)) = some 1 := by
  rw [dense_entry _ X i i hi hi, gaussian_self, real_exp_zero]

example : kernelFn (.gaussian (2 : ℝ)) [1, 5] [1, 5] = 1 := by
  rw [gaussian_self, real_exp_zero]

section
variable {α : Type} [Field α] [LinearOrder α] [IsStrictOrderedRing α] [Transc α] [KPow α]

/-- **the linear kernel matrix is positive semidefinite**: for records with `p` features and every
vector `v`, `vᵀ K v = Σ_c (Σ_i v_i x_ic)² ≥ 0` -/
theorem linear_psd (X : List (List α)) (p : Nat) (hX : ∀ r ∈ X, r.length = p)
    (v : List α) (hv : v.length = X.length) :
    0 ≤ quadForm v (dense Method.linear X) :=
  (Finset.sum_nonneg fun _ _ => sq_nonneg _).trans_eq (quadForm_linear X p hX v hv).symm

end

noncomputable example : (0 : ℝ) ≤ quadForm [1, -1] (dense Method.linear [[1, 2], [3, 4]]) :=
  linear_psd [[1, 2], [3, 4]] 2 (by simp) [1, -1] rfl

/-! ### Gaussian kernel: the part of positive semidefiniteness that is proved (`…_partial`)

The full statement (`gaussian_psd`, at the end of this part) is not proved.  Proved below, over `ℝ` with `exp = Real.exp`, for every bandwidth `eps > 0` and all rows: every entry
lies in `(0, 1]`, hence (with the unit diagonal and symmetry) every principal 2×2 minor is
non-negative and the quadratic form is non-negative on every vector supported on two samples — the
necessary conditions a wrong sign, a missing negation or `eps` used as a multiplier would break. -/

theorem real_sqDist_nonneg (a b : List ℝ) : 0 ≤ sqDist a b := by
  rw [sqDist, sumS_eq_sum]
  apply List.sum_nonneg
  intro x hx
  rcases List.mem_iff_getElem.mp hx with ⟨i, hi, rfl⟩
  simp only [List.getElem_zipWith]
  exact mul_self_nonneg _

/-- every Gaussian kernel value is in `(0, 1]` when the bandwidth is positive -/
theorem gaussian_entry_unit_interval (eps : ℝ) (heps : 0 < eps) (a b : List ℝ) :
    0 < kernelFn (.gaussian eps) a b ∧ kernelFn (.gaussian eps) a b ≤ 1 := by
  show 0 < Real.exp (-(sqDist a b) / eps) ∧ Real.exp (-(sqDist a b) / eps) ≤ 1
  refine ⟨Real.exp_pos _, ?_⟩
  rw [Real.exp_le_one_iff]
  exact div_nonpos_of_nonpos_of_nonneg (neg_nonpos.mpr (real_sqDist_nonneg a b)) heps.le

/-- **every principal 2×2 minor of the Gaussian kernel matrix is non-negative**:
`K_ii K_jj - K_ij K_ji ≥ 0` -/
theorem gaussian_minor2_nonneg_partial (eps : ℝ) (heps : 0 < eps) (a b : List ℝ) :
    0 ≤ kernelFn (.gaussian eps) a a * kernelFn (.gaussian eps) b b
        - kernelFn (.gaussian eps) a b * kernelFn (.gaussian eps) b a := by
  obtain ⟨h0, h1⟩ := gaussian_entry_unit_interval eps heps a b
  rw [gaussian_self, gaussian_self, real_exp_zero, kernelFn_symm (.gaussian eps) b a, one_mul]
  exact sub_nonneg.mpr (mul_le_one₀ h1 h0.le h1)

/-- **the Gaussian quadratic form is non-negative on vectors supported on two samples**:
`s² K_aa + 2 s t K_ab + t² K_bb ≥ 0` -/
theorem gaussian_psd_two_point_partial (eps : ℝ) (heps : 0 < eps) (a b : List ℝ) (s t : ℝ) :
    0 ≤ s * s * kernelFn (.gaussian eps) a a + 2 * (s * t) * kernelFn (.gaussian eps) a b
        + t * t * kernelFn (.gaussian eps) b b := by
  obtain ⟨h0, h1⟩ := gaussian_entry_unit_interval eps heps a b
  rw [gaussian_self, gaussian_self, real_exp_zero]
  generalize kernelFn (.gaussian eps) a b = k at h0 h1 ⊢
  -- complete the square: the remainder `(1 - k²) t²` is non-negative because `0 < k ≤ 1`
  have : s * s * 1 + 2 * (s * t) * k + t * t * 1 = (s + k * t) * (s + k * t) + (1 - k * k) * (t * t) := by ring
  rw [this]
  exact add_nonneg (mul_self_nonneg _) (mul_nonneg (sub_nonneg.mpr (mul_le_one₀ h1 h0.le h1)) (mul_self_nonneg t))

/-- non-vacuity: a concrete pair strictly inside the interval (distinct rows, `eps = 2`) -/
example : kernelFn (.gaussian (2 : ℝ)) [1, 5] [2, 5] < 1 := by
  show Real.exp (-(0 + (1 - 2) * (1 - 2) + (5 - 5) * (5 - 5)) / 2) < 1
  rw [Real.exp_lt_one_iff]
  norm_num

/-
`gaussian_psd` — NOT proved (needs the Schur product theorem or Bochner's theorem):
  ∀ eps > 0, X with rows of equal length, v : 0 ≤ quadForm v (dense (.gaussian eps) X)   over ℝ.
Covered by the oracle only (least Jacobi eigenvalue of the real code's matrix ≥ -1e-9·trace).
-/

section
variable {α : Type} [Field α] [Transc α] [KPow α]

/-- the guard of `adjacency_matrix`: a sparse kernel exists exactly for `0 < k < n` -/
theorem sparse_guard (m : Method α) (X : List (List α)) (k : Nat) (nb : List (List Nat)) :
    (sparseFromFn m X k nb).isSome ↔ (0 < k ∧ k < X.length) := by
  rw [and_comm]
  unfold sparseFromFn
  dsimp only
  split
  · exact iff_of_true rfl ‹_›
  · exact iff_of_false Bool.false_ne_true ‹_›

/-- **stored pairs and stored values**: the sparse kernel holds at `(i, j)` exactly when `i = j` or one
of the two points is among the neighbours the index returned for the other (`Stored`, the symmetric
closure of the k-nearest-neighbour relation plus the diagonal), and the value held is the kernel
function of rows `i` and `j` — whatever neighbour index produced `nb` -/
theorem sparse_get (m : Method α) (X : List (List α)) (k : Nat) (nb : List (List Nat)) (S : Csr α)
    (h : sparseFromFn m X k nb = some S) (i j : Nat) :
    sGet S i j = if Stored X.length nb i j then some (kernelFn m (X.getD i []) (X.getD j [])) else none := by
  unfold sGet
  by_cases hi : i < X.length
  · simp only [sparse_row m X k nb S h i hi, find?_map_pair, mem_support X.length nb i j hi]
    split <;> rfl
  · rw [List.getD_eq_getElem?_getD, List.getElem?_eq_none (by rw [sparse_length m X k nb S h]; omega),
      if_neg fun hs => hi hs.1]
    rfl

/-- the diagonal is always stored -/
theorem sparse_diag_stored (n : Nat) (nb : List (List Nat)) (i : Nat) (hi : i < n) : Stored n nb i i :=
  ⟨hi, hi, Or.inl rfl⟩

/-- **the sparse kernel matrix is symmetric** (pattern and values) -/
theorem sparse_symm (m : Method α) (X : List (List α)) (k : Nat) (nb : List (List Nat)) (S : Csr α)
    (h : sparseFromFn m X k nb = some S) (i j : Nat) : sGet S i j = sGet S j i := by
  rw [sparse_get m X k nb S h i j, sparse_get m X k nb S h j i, kernelFn_symm m (X.getD i []) (X.getD j [])]
  simp only [stored_symm X.length nb i j]

/-- carriers for the concrete examples over `ℚ` (no transcendental function is evaluated in them) -/
local instance ratTransc : Transc ℚ := ⟨id, id, id⟩
local instance ratKPow : KPow ℚ := ⟨fun x _ => x⟩

example : sparseFromFn (.linear : Method ℚ) [[0], [1], [3]] 1 [[0, 1], [1, 0], [2, 1]] =
    some [[(0, 0), (1, 0)], [(0, 0), (1, 1), (2, 3)], [(1, 3), (2, 9)]] := by decide +kernel

/-! ### views of the sparse kernel against the matrix it stands for (`sToDense`) -/

/-- `size` -/
theorem views_size (n : Nat) (S : Csr α) : dSize (sToDense n S) = n := by
  simp [dSize, sToDense]

/-- `column(i)` of the sparse kernel is column `i` of the matrix (the `-0.0` fill is the number 0) -/
theorem views_column (n : Nat) (S : Csr α) (i : Nat) (hi : i < n) :
    some (sColumn n S i) = dColumn (sToDense n S) i := by
  rw [dColumn, if_pos (by rwa [sToDense, List.length_map, List.length_range]), sColumn, sToDense, List.map_map, neg_zero]
  exact congrArg some (List.map_congr_left fun r _ =>
    (getD_map_range (fun j => (sGet S r j).getD 0) hi 0).symm)

/-- `diagonal()` -/
theorem views_diagonal (n : Nat) (S : Csr α) : sDiag n S = dDiag (sToDense n S) := by
  refine List.ext_getElem (by rw [sDiag, dDiag, List.length_mapIdx, sToDense, List.length_map, List.length_map])
    fun i h1 _ => ?_
  have hi : i < n := by rwa [sDiag, List.length_map, List.length_range] at h1
  simp only [sDiag, dDiag, sToDense, List.getElem_mapIdx, List.getElem_map, List.getElem_range, getD_map_range _ hi]

/-- `to_upper_triangle()` goes through `to_dense()` -/
theorem views_upper (n : Nat) (S : Csr α) : sUpper n S = dUpper (sToDense n S) := rfl

/-- **`sum`**: the sparse kernel adds up *columns* (in CSR order), the dense one rows (`ndSum`); on the
matrix a sparse kernel stands for the two agree because that matrix is symmetric -/
theorem views_sum (m : Method α) (X : List (List α)) (k : Nat) (nb : List (List Nat)) (S : Csr α)
    (h : sparseFromFn m X k nb = some S) : sSum X.length S = dSum (sToDense X.length S) := by
  obtain ⟨hl, hg⟩ := sSum_spec X.length S
  refine ext_getD X.length hl (by rw [dSum, sToDense, List.length_map, List.length_map, List.length_range]) fun c hc => ?_
  -- entry `c`: the stored entries of column `c` on the left, those of row `c` on the right
  rw [hg c hc, ← map_getD_range _ S [], sparse_length m X k nb S h, dSum, sToDense, List.map_map,
    getD_map_range _ hc, Function.comp, ndSum_eq_sum]
  refine congrArg List.sum (List.map_congr_left fun i hi => ?_)
  rw [sum_ite_eq_find _ c (sparse_row_nodup m X k nb S h i (List.mem_range.mp hi)), ← sparse_symm m X k nb S h i c]
  rfl

/-- entry `(i, j)` of the matrix a sparse kernel stands for: the kernel function on stored pairs, 0 elsewhere -/
theorem sToDense_entry (m : Method α) (X : List (List α)) (k : Nat) (nb : List (List Nat)) (S : Csr α)
    (h : sparseFromFn m X k nb = some S) (i j : Nat) (hi : i < X.length) (hj : j < X.length) :
    ((sToDense X.length S)[i]?.bind (·[j]?)) =
      some (if Stored X.length nb i j then kernelFn m (X.getD i []) (X.getD j []) else 0) := by
  unfold sToDense
  simp only [List.getElem?_map, List.getElem?_range hi, List.getElem?_range hj, Option.map_some,
    Option.bind_some, sparse_get m X k nb S h i j]
  split <;> rfl

end

section
variable {α : Type} [Field α] [Transc α] [KPow α]

/-- **`dot`**: the matrix product reported by a sparse kernel (accumulated over the stored entries, row by
row) is the product of the matrix the kernel stands for with the right-hand side (`n × q`) -/
theorem views_dot (m : Method α) (X : List (List α)) (k : Nat) (nb : List (List Nat)) (S : Csr α)
    (h : sparseFromFn m X k nb = some S) (q : Nat) (R : List (List α)) (hR : R.length = X.length)
    (hq : ∀ r ∈ R, r.length = q) : sDot S q R = dDot (sToDense X.length S) q R := by
  rw [sDot, dDot, sToDense, ← map_getD_range _ S [], sparse_length m X k nb S h, List.map_map]
  refine List.map_congr_left fun i hi => ?_
  have hi := List.mem_range.mp hi
  obtain ⟨hl, hg⟩ := sDot_row_spec q R hq (S.getD i [])
  refine ext_getD q hl (by rw [Function.comp_apply, List.length_map, colsOf, List.length_map, List.length_range]) fun c hc => ?_
  -- entry `c` on both sides as a sum over all columns `j`
  rw [hg c hc, Function.comp_apply, colsOf, List.map_map, getD_map_range _ hc, Function.comp_apply, dotS, sumS_eq_sum,
    ← map_getD_range (fun r : List α => r.getD c 0) R (List.replicate q 0), hR, List.zipWith_map, List.zipWith_self,
    sparse_row m X k nb S h i hi, List.map_map, sum_support_row _ _ i hi]
  refine congrArg List.sum (List.map_congr_left fun j _ => ?_)
  simp only [Function.comp, sparse_get m X k nb S h i j, mem_support X.length nb i j hi]
  split
  · rfl
  · exact (zero_mul _).symm

end

example : sDot ([[(0, 0), (1, 0)], [(0, 0), (1, 1), (2, 3)], [(1, 3), (2, 9)]] : Csr ℚ) 2 [[1, 2], [0, 1], [-1, 1]] =
    dDot (sToDense 3 [[(0, 0), (1, 0)], [(0, 0), (1, 1), (2, 3)], [(1, 3), (2, 9)]]) 2 [[1, 2], [0, 1], [-1, 1]] := by
  decide +kernel

/-! ## `Kernel::new` and the accessors of `KernelBase` (all calling forms) -/

section
variable {α : Type} [Field α] [Transc α] [KPow α]

/-- `Kernel::new` succeeds exactly when the kernel is dense or `0 < k < n` -/
theorem kernel_new_guard (kind : Kind) (m : Method α) (X : List (List α)) (nb : List (List Nat)) :
    (kernelNew kind m X nb).isSome ↔
      match kind with
      | .dense => True
      | .sparse k => 0 < k ∧ k < X.length := by
  cases kind with
  | dense => exact iff_of_true rfl trivial
  | sparse k => exact (Option.isSome_map (f := Inner.sparse X.length)).symm ▸ sparse_guard m X k nb

/-- **the matrix a kernel stands for holds the kernel function**: entry `(i, j)` of a dense kernel is the
kernel function of rows `i`, `j`; of a sparse kernel it is that value on the stored pairs (`Stored`: the
diagonal and the symmetric closure of the returned neighbour relation) and 0 elsewhere -/
theorem kernel_new_entry (kind : Kind) (m : Method α) (X : List (List α)) (nb : List (List Nat)) (I : Inner α)
    (h : kernelNew kind m X nb = some I) (i j : Nat) (hi : i < X.length) (hj : j < X.length) :
    ((kMatrix I)[i]?.bind (·[j]?)) = some
      (match kind with
       | .dense => kernelFn m (X.getD i []) (X.getD j [])
       | .sparse _ => if Stored X.length nb i j then kernelFn m (X.getD i []) (X.getD j []) else 0) := by
  cases kind with
  | dense =>
    obtain rfl := Option.some.inj h
    rw [List.getD_eq_getElem?_getD, List.getD_eq_getElem?_getD, List.getElem?_eq_getElem hi,
      List.getElem?_eq_getElem hj]
    exact dense_entry m X i j hi hj
  | sparse k =>
    obtain ⟨S, hS, rfl⟩ := Option.map_eq_some_iff.mp h
    exact sToDense_entry m X k nb S hS i j hi hj

/-- **size, row sums, diagonal, upper triangle and columns reported by a kernel are those of the matrix it
stands for**, dense or sparse, through whichever wrapper it was built -/
theorem kernel_new_views (kind : Kind) (m : Method α) (X : List (List α)) (nb : List (List Nat)) (I : Inner α)
    (h : kernelNew kind m X nb = some I) :
    kSize I = X.length ∧ kSum I = dSum (kMatrix I) ∧ kDiag I = dDiag (kMatrix I) ∧
    kUpper I = dUpper (kMatrix I) ∧ ∀ i, i < X.length → kColumn I i = dColumn (kMatrix I) i := by
  cases kind with
  | dense =>
    obtain rfl := Option.some.inj h
    exact ⟨List.length_map _, rfl, rfl, rfl, fun _ _ => rfl⟩
  | sparse k =>
    obtain ⟨S, hS, rfl⟩ := Option.map_eq_some_iff.mp h
    exact ⟨rfl, views_sum m X k nb S hS, views_diagonal _ S, views_upper _ S,
      fun i hi => views_column _ S i hi⟩

/-- **`Kernel::new` hands the kernel method through untouched**: the kernel it returns carries exactly the
requested method (bandwidth, constant, degree as given — no clamping or rounding), reports `is_linear` of that
method, and its matrix is the one `kernelNew` builds from that same method -/
theorem kernel_build_method (kind : Kind) (m : Method α) (X : List (List α)) (nb : List (List Nat)) (K : Built α)
    (h : kernelBuild kind m X nb = some K) :
    K.method = m ∧ K.isLinear = m.isLinear ∧ kernelNew kind m X nb = some K.inner := by
  simp only [kernelBuild, Option.map_eq_some_iff] at h
  obtain ⟨I, hI, rfl⟩ := h
  exact ⟨rfl, rfl, hI⟩

/-- `kernelBuild` succeeds exactly when `kernelNew` does (dense, or `0 < k < n`) -/
theorem kernel_build_guard (kind : Kind) (m : Method α) (X : List (List α)) (nb : List (List Nat)) :
    (kernelBuild kind m X nb).isSome ↔
      match kind with
      | .dense => True
      | .sparse k => 0 < k ∧ k < X.length := by
  rw [← kernel_new_guard kind m X nb]
  simp [kernelBuild]

end

/-- carriers for the concrete example over `ℚ` -/
local instance ratTransc' : Transc ℚ := ⟨id, id, id⟩
local instance ratKPow' : KPow ℚ := ⟨fun x _ => x⟩

example : (kernelNew (.sparse 1) (.linear : Method ℚ) [[0], [1], [3]] [[0, 1], [1, 0], [2, 1]]).map kMatrix =
    some [[0, 0, 0], [0, 1, 3], [0, 3, 9]] := by decide +kernel

section
variable {α : Type} [Field α] [Transc α] [KPow α]

/-- **the sparse kernel depends on the neighbour index only through the sets it returns**: two indices whose
answers have the same members for every row (in whatever order) give the same kernel -/
theorem sparse_index_independent (m : Method α) (X : List (List α)) (k : Nat) (nb nb' : List (List Nat))
    (h : ∀ i j, i < X.length → (j ∈ nb.getD i [] ↔ j ∈ nb'.getD i [])) :
    sparseFromFn m X k nb = sparseFromFn m X k nb' := by
  unfold sparseFromFn
  simp only [support_congr X.length nb nb' h]

/-- **whichever neighbour index is used** (tie-free records): if both indices answer every `k_nearest(row i,
k+1)` with *the* `k+1` nearest points under a distance `d i` without ties across the cut (`Nearest`), the two
sparse kernels are equal -/
theorem sparse_whichever_index {β : Type} [Preorder β] (d : Nat → Nat → β) (m : Method α) (X : List (List α))
    (k : Nat) (nb nb' : List (List Nat))
    (h : ∀ i, i < X.length → Nearest (d i) X.length (k + 1) (nb.getD i []))
    (h' : ∀ i, i < X.length → Nearest (d i) X.length (k + 1) (nb'.getD i [])) :
    sparseFromFn m X k nb = sparseFromFn m X k nb' :=
  sparse_index_independent m X k nb nb' fun i j hi => nearest_unique (d i) X.length (k + 1) _ _ (h i hi) (h' i hi) j

end

example : Nearest (fun j => ([0, 1, 9, 4] : List Nat).getD j 0) 4 2 [1, 0] := by
  unfold Nearest
  decide +kernel

example : sparseFromFn (.linear : Method ℚ) [[0], [1], [3]] 1 [[0, 1], [1, 0], [2, 1]] =
    sparseFromFn (.linear : Method ℚ) [[0], [1], [3]] 1 [[1, 0], [0, 1], [1, 2]] := by
  decide +kernel

/-! ## Hierarchical clustering (replay of the `kodama` dendrogram)

`DendroOK steps live ct` is the dendrogram contract (each step merges two different live cluster
ids; the merged cluster gets the next id), validated by the harness on every dendrogram it reads.
`members cl` are the samples held by the clusters, `assign n cl` the label vector the code returns
(cluster `j` in enumeration order gets label `j`). -/

section
variable {α : Type} [LE α] [DecidableLE α]

/-- under the dendrogram contract the replay never meets a missing cluster id (no `unwrap` panic),
for every criterion -/
theorem replay_defined (crit : Crit α) (n : Nat) (steps : List (Step α))
    (h : DendroOK steps (List.range n) n) : (replay crit n steps).isSome :=
  replayGo_defined crit ((keys_init n).symm ▸ h)

/-- **the clusters returned partition the samples**: every sample `0..n-1` lies in exactly one
cluster, for every criterion, linkage method (dendrogram) and threshold -/
theorem replay_partition (crit : Crit α) (n : Nat) (steps : List (Step α)) (cl : Clusters)
    (h : replay crit n steps = some cl) : (members cl).Perm (List.range n) :=
  members_init n ▸ replayGo_members h

/-- **the label vector is that partition**: it has one label per sample, every sample belongs to
some cluster, and a sample of cluster `j` is labelled `j` — so two samples carry the same label
exactly when they were merged -/
theorem labels_partition (crit : Crit α) (n : Nat) (steps : List (Step α)) (cl : Clusters)
    (h : replay crit n steps = some cl) :
    (assign n cl).length = n ∧
    (∀ p, p < n → ∃ j, ∃ hj : j < cl.length, p ∈ cl[j].2) ∧
    (∀ j (hj : j < cl.length) p, p ∈ cl[j].2 → (assign n cl)[p]? = some j) := by
  have hp := replay_partition crit n steps cl h
  refine ⟨assign_length n cl, fun p hpn => ?_, fun j hj p hpj => ?_⟩
  · obtain ⟨e, he, hpe⟩ := mem_members.mp (hp.mem_iff.mpr (List.mem_range.mpr hpn))
    obtain ⟨j, hj, rfl⟩ := List.mem_iff_getElem.mp he
    exact ⟨j, hj, hpe⟩
  · exact assign_mem (hp.nodup_iff.mpr List.nodup_range) hj hpj
      (List.mem_range.mp (hp.mem_iff.mp (mem_members_getElem hj hpj)))

/-- **cluster count**: with `NumClusters(c)`, `c ≥ 1`, on a full dendrogram (`n - 1` steps) the
replay ends with exactly `min c n` clusters (the test `clusters.len() <= c` is made before each merge) -/
theorem replay_count (c n : Nat) (steps : List (Step α)) (cl : Clusters)
    (h : replay (Crit.num c : Crit α) n steps = some cl) (hs : steps.length = n - 1) (hc : 1 ≤ c) :
    cl.length = min c n := by
  have hl := length_init n
  by_cases hn : n ≤ c
  · obtain rfl := Option.some.inj ((replayGo_num_of_le steps n (hl.trans_le hn)).symm.trans h)
    rw [hl, Nat.min_eq_right hn]
  · have hn : c ≤ n := Nat.le_of_not_le hn
    rw [replayGo_num_length h (hn.trans_eq hl.symm), hl, hs, Nat.sub_sub_self (hc.trans hn), Nat.max_eq_left hc,
      Nat.min_eq_left hn]

end

section
variable {α : Type} [LE α] [DecidableLE α]

/-- **the labels used are exactly `0 … (number of clusters) - 1`**: every label in the vector is below the
number of clusters and every such label is carried by some sample (clusters are never empty) -/
theorem labels_range (crit : Crit α) (n : Nat) (steps : List (Step α)) (cl : Clusters)
    (h : replay crit n steps = some cl) :
    (∀ p, p < n → ∃ j, j < cl.length ∧ (assign n cl)[p]? = some j) ∧
    (∀ j, j < cl.length → ∃ p, p < n ∧ (assign n cl)[p]? = some j) := by
  obtain ⟨_, hcov, hlab⟩ := labels_partition crit n steps cl h
  have hp := replay_partition crit n steps cl h
  have hne : ∀ e ∈ cl, e.2 ≠ [] := replayGo_nonempty h fun e he => mem_init he ▸ List.cons_ne_nil _ _
  refine ⟨fun p hpn => ?_, fun j hj => ?_⟩
  · obtain ⟨j, hj, hm⟩ := hcov p hpn
    exact ⟨j, hj, hlab j hj p hm⟩
  · obtain ⟨p, hpm⟩ := List.exists_mem_of_ne_nil _ (hne cl[j] (List.getElem_mem hj))
    exact ⟨p, List.mem_range.mp (hp.mem_iff.mp (mem_members_getElem hj hpm)), hlab j hj p hpm⟩

/-- **exactly `min(requested, n)` clusters in the label vector**: with `NumClusters(c)`, `c ≥ 1`, on a
complete dendrogram the labels used are exactly `0 … min c n - 1` -/
theorem labels_count (c n : Nat) (steps : List (Step α)) (cl : Clusters)
    (h : replay (Crit.num c : Crit α) n steps = some cl) (hs : steps.length = n - 1) (hc : 1 ≤ c) :
    (∀ p, p < n → ∃ j, j < min c n ∧ (assign n cl)[p]? = some j) ∧
    (∀ j, j < min c n → ∃ p, p < n ∧ (assign n cl)[p]? = some j) := by
  have := labels_range (Crit.num c : Crit α) n steps cl h
  rwa [replay_count c n steps cl h hs hc] at this

end

example : replay (Crit.num 2 : Crit Nat) 4 [⟨0, 1, 1, 2⟩, ⟨2, 3, 2, 2⟩, ⟨4, 5, 5, 4⟩] =
    some [(5, [2, 3]), (4, [0, 1])] := by decide
example : DendroOK ([⟨0, 1, 1, 2⟩, ⟨2, 3, 2, 2⟩, ⟨4, 5, 5, 4⟩] : List (Step Nat)) (List.range 4) 4 :=
  .cons _ _ _ _ (by decide) (by decide) <| .cons _ _ _ _ (by decide) (by decide) <|
    .cons _ _ _ _ (by decide) (by decide) <| .nil _ _
example : assign 4 [(5, [2, 3]), (4, [0, 1])] = [1, 1, 0, 0] := by decide

section
variable {α : Type} [LinearOrder α]

/-- **distance threshold**: the replay performs exactly the merges of the longest prefix of the
dendrogram whose dissimilarities are below the threshold (`dissimilarity >= dis` stops, so a merge
*at* the threshold is not performed) -/
theorem replay_threshold (d : α) (n : Nat) (steps : List (Step α)) :
    replay (Crit.dist d) n steps =
      mergeAll (steps.takeWhile fun s => decide (s.dis < d)) (initClusters n) n :=
  replayGo_dist_prefix d steps (initClusters n) n

/-- **… which is every merge below the threshold** when the dendrogram's dissimilarities are
non-decreasing (single, complete, average, weighted, Ward linkage; checked by the harness on every
dendrogram of these methods).  For centroid/median linkage dissimilarities can decrease; there the
replay still stops at the first merge at or above the threshold (`replay_threshold`). -/
theorem replay_threshold_all (d : α) (n : Nat) (steps : List (Step α))
    (hm : steps.Pairwise fun a b => a.dis ≤ b.dis) :
    replay (Crit.dist d) n steps =
      mergeAll (steps.filter fun s => decide (s.dis < d)) (initClusters n) n := by
  rw [replay_threshold, takeWhile_eq_filter_of_sorted d steps hm]

end

example : replay (Crit.dist 2 : Crit Nat) 4 [⟨0, 1, 1, 2⟩, ⟨2, 3, 2, 2⟩, ⟨4, 5, 5, 4⟩] =
    some [(4, [0, 1]), (2, [2]), (3, [3])] := by decide

section
variable {α : Type} [LinearOrder α]

/-- **every merge below the threshold, without exact monotonicity**: it suffices that no merge below `d`
follows a merge at or above `d` (the recomputed dissimilarities of average / weighted / Ward linkage are
non-decreasing only up to rounding; this hypothesis tolerates any noise that does not cross the threshold) -/
theorem replay_threshold_all_closed (d : α) (n : Nat) (steps : List (Step α))
    (hm : ∀ pre s post, steps = pre ++ s :: post → d ≤ s.dis → ∀ t ∈ post, d ≤ t.dis) :
    replay (Crit.dist d) n steps =
      mergeAll (steps.filter fun s => decide (s.dis < d)) (initClusters n) n := by
  rw [replay_threshold, takeWhile_eq_filter_of_closed d steps hm]

end

example : replay (Crit.dist 3 : Crit Nat) 4 [⟨0, 1, 2, 2⟩, ⟨2, 3, 1, 2⟩, ⟨4, 5, 5, 4⟩] =
    mergeAll (([⟨0, 1, 2, 2⟩, ⟨2, 3, 1, 2⟩, ⟨4, 5, 5, 4⟩] : List (Step Nat)).filter fun s => decide (s.dis < 3))
      (initClusters 4) 4 := by decide

/-! ## parameter guard and the unchecked-parameter `transform` -/

/-- **the guard, for the predicates the driver runs**: with *any* reading of `is_negative` / `is_nan` /
`is_infinite` (the sign-bit reading of `Float` and `Float32` in `Drv/C06.lean` included) the guard accepts
exactly a count of at least one and a threshold for which none of the three predicates fires.
`guard_accepts` is the instance for an ordered field. -/
theorem guard_accepts_preds {α : Type} (fp : FloatPreds α) (crit : Crit α) :
    checkCrit fp crit = true ↔
      match crit with
      | .num c => 1 ≤ c
      | .dist d => fp.isNeg d = false ∧ fp.isNan d = false ∧ fp.isInf d = false := by
  match crit with
  | .num 0 => exact iff_of_false Bool.false_ne_true (Nat.not_succ_le_zero 0)
  | .num (c + 1) => exact iff_of_true rfl (Nat.succ_pos c)
  | .dist d => simp only [checkCrit, Bool.not_eq_true', Bool.or_eq_false_iff, and_assoc]

example : checkCrit (⟨fun x => decide (x < 0), fun _ => false, fun x => decide (x = 1000)⟩ : FloatPreds ℚ) (.dist 5) = true :=
  (guard_accepts_preds _ _).mpr ⟨by decide, rfl, by decide⟩

section
variable {α : Type} [LinearOrder α] [Zero α]

/-- the float predicates of the guard read over an ordered field (no NaN, no infinity; "negative" = `< 0`) -/
def realPreds : FloatPreds α := ⟨fun x => decide (x < 0), fun _ => false, fun _ => false⟩

/-- **the guard accepts exactly the criteria of the property's quantifier**: a cluster count of at least one,
a non-negative threshold -/
theorem guard_accepts (crit : Crit α) :
    checkCrit realPreds crit = true ↔
      match crit with
      | .num c => 1 ≤ c
      | .dist d => 0 ≤ d := by
  rw [guard_accepts_preds]
  cases crit with
  | num c => rfl
  | dist d => simp only [realPreds, and_true, decide_eq_false_iff_not, not_lt]

end

section
variable {α : Type} [LE α] [DecidableLE α]

/-- a rejected criterion is `InvalidStoppingCondition` whatever the kernel -/
theorem transform_invalid (fp : FloatPreds α) (crit : Crit α) (n : Nat) (steps : List (Step α))
    (h : checkCrit fp crit = false) : transform fp crit n steps = .invalid := by
  simp [transform, h]

/-- **an accepted criterion on a well-formed dendrogram yields a partition** (no error, no panic), for both
calling forms (kernel, dataset of a kernel) -/
theorem transform_ok (fp : FloatPreds α) (crit : Crit α) (n : Nat) (steps : List (Step α))
    (hg : checkCrit fp crit = true) (hd : DendroOK steps (List.range n) n) :
    ∃ cl, transform fp crit n steps = .ok cl ∧ (members cl).Perm (List.range n) := by
  have hsome := replay_defined crit n steps hd
  obtain ⟨cl, hcl⟩ := Option.isSome_iff_exists.mp hsome
  exact ⟨cl, by simp [transform, hg, hcl], replay_partition crit n steps cl hcl⟩

end

example : ∃ cl, transform (realPreds : FloatPreds ℚ) (Crit.num 2) 4
    [⟨0, 1, 1, 2⟩, ⟨2, 3, 2, 2⟩, ⟨4, 5, 5, 4⟩] = .ok cl := ⟨_, rfl⟩

example : checkCrit (realPreds : FloatPreds ℚ) (.dist 0) = true ∧ checkCrit (realPreds : FloatPreds ℚ) (.dist (-1)) = false ∧
    checkCrit (realPreds : FloatPreds ℚ) (.num 0) = false := by
  decide +kernel

section
variable {α : Type} [LT α] [DecidableLT α] [LE α] [DecidableLE α] [Neg α] [Transc α]

/-- **`transform` from the kernel**: a rejected criterion is an error before the kernel is looked at -/
theorem transform_kernel_invalid (fp : FloatPreds α) (thr : α) (link : List α → Nat → List (Step α))
    (crit : Crit α) (n : Nat) (ut : List α) (h : checkCrit fp crit = false) :
    transformKernel fp thr link crit n ut = .invalid :=
  transform_invalid fp crit n _ h

/-- **`transform` from the kernel**: for an accepted criterion, whatever the kernel's entries, if the external
linkage answers the `-ln`-transformed upper triangle with a well-formed dendrogram, the result is a partition of
the samples -/
theorem transform_kernel_ok (fp : FloatPreds α) (thr : α) (link : List α → Nat → List (Step α))
    (crit : Crit α) (n : Nat) (ut : List α) (hg : checkCrit fp crit = true)
    (hd : DendroOK (link (distances thr ut) n) (List.range n) n) :
    ∃ cl, transformKernel fp thr link crit n ut = .ok cl ∧ (members cl).Perm (List.range n) :=
  transform_ok fp crit n _ hg hd

/-- the recorded linkage the driver uses answers the model's own question with the recorded dendrogram — so
the driver's `transformKernel … (recorded close q steps)` is `transform … steps` whenever the model's distance
vector is the recorded one -/
theorem transform_kernel_recorded (fp : FloatPreds α) (thr : α) (close : α → α → Bool) (steps : List (Step α))
    (crit : Crit α) (n : Nat) (ut : List α) (hc : ∀ x ∈ distances thr ut, close x x = true) :
    transformKernel fp thr (recorded close (distances thr ut) steps) crit n ut = transform fp crit n steps := by
  unfold transformKernel
  rw [recorded_self close _ steps n hc]

end

example : ∃ cl, transformKernel (realPreds : FloatPreds ℚ) 0 (fun _ _ => [⟨0, 1, 1, 2⟩, ⟨2, 3, 2, 2⟩, ⟨4, 5, 5, 4⟩])
    (Crit.num 2) 4 [] = .ok cl := ⟨_, rfl⟩

section
variable {α : Type} [LinearOrder α]

/-- **single linkage = connected components of the below-threshold graph.**  For a symmetric distance matrix
`D` on `n` samples, a complete single-linkage dendrogram of it (`SLOK`: every step merges two live clusters at
the least distance between their members) with non-decreasing dissimilarities, and every threshold `d`: two
samples carry the same label after `Distance(d)` exactly when they are connected by a chain of pairs at
distance `< d`. -/
theorem single_linkage_components (D : Nat → Nat → α) (hsym : ∀ i j, D i j = D j i) (d : α) (n : Nat)
    (steps : List (Step α)) (hc : SLOK D steps (initClusters n) n)
    (hm : steps.Pairwise fun x y => x.dis ≤ y.dis) (cl : Clusters)
    (h : replay (Crit.dist d) n steps = some cl) (i j : Nat) (hi : i < n) :
    SameCl cl i j ↔ Conn D d n i j := by
  have hpart := replay_partition (Crit.dist d) n steps cl h
  have hmem : ∀ p, p ∈ members cl ↔ p < n := fun p => by rw [hpart.mem_iff, List.mem_range]
  have hinit : ∀ i j, SameCl (initClusters n) i j → Conn D d n i j := by
    rintro i j ⟨e, he, hi, hj⟩
    rw [mem_init he, List.mem_singleton] at hi hj
    exact hi ▸ hj ▸ .refl _
  obtain ⟨hconn, hsep⟩ := replayGo_single hsym hc hm
    (fun p hp => List.mem_range.mp (members_init n ▸ hp)) hinit h
  refine ⟨hconn i j, fun hcn => ?_⟩
  -- `SameCl cl` is an equivalence relation on the samples below `n` that contains the edges
  have key : ∀ a b, Conn D d n a b → ((a < n ↔ b < n) ∧ (a < n → SameCl cl a b)) := by
    intro a b hab
    induction hab with
    | refl a =>
      refine ⟨Iff.rfl, fun ha => ?_⟩
      obtain ⟨e, he, hae⟩ := mem_members.mp ((hmem a).mpr ha)
      exact ⟨e, he, hae, hae⟩
    | edge a b ha hb hlt =>
      exact ⟨iff_of_true ha hb, fun _ => by_contra fun hne =>
        (hsep a b ((hmem a).mpr ha) ((hmem b).mpr hb) hne).not_gt hlt⟩
    | symm _ ih =>
      refine ⟨ih.1.symm, fun hb => ?_⟩
      obtain ⟨e, he, h1, h2⟩ := ih.2 (ih.1.mpr hb)
      exact ⟨e, he, h2, h1⟩
    | trans _ _ ih1 ih2 =>
      exact ⟨ih1.1.trans ih2.1, fun ha =>
        sameCl_trans (hpart.nodup_iff.mpr List.nodup_range) (ih1.2 ha) (ih2.2 (ih1.1.mp ha))⟩
  exact (key i j hcn).2 hi

end

/-- three samples on a line at 0, 1, 3: `D i j = |x_i - x_j|` -/
def exD (i j : Nat) : Nat :=
  let x := [0, 1, 3]
  (x.getD i 0 - x.getD j 0) + (x.getD j 0 - x.getD i 0)

example : SLOK exD ([⟨0, 1, 1, 2⟩, ⟨2, 3, 2, 3⟩] : List (Step Nat)) (initClusters 3) 3 :=
  .cons _ _ _ _ [0] [(1, [1]), (2, [2])] [1] [(2, [2])] rfl rfl ⟨0, .head _, 1, .head _, rfl⟩ (by decide +kernel) <|
  .cons _ _ _ _ [2] [(3, [0, 1])] [0, 1] [] rfl rfl ⟨2, .head _, 1, .tail _ (.head _), rfl⟩ (by decide +kernel) <|
  .nil _ _ (Nat.le_refl 1)

example : replay (Crit.dist 2 : Crit Nat) 3 [⟨0, 1, 1, 2⟩, ⟨2, 3, 2, 3⟩] = some [(3, [0, 1]), (2, [2])] := by
  decide

/-- **"-ln similarity"**: over `ℝ` the transform is `-ln (max x thr)`; a pair is closer than the threshold `d`
exactly when its (floored) similarity exceeds `exp (-d)`, and a larger similarity is a smaller dissimilarity -/
theorem toDist_spec (thr x y d : ℝ) (hthr : 0 < thr) :
    toDist thr x = -Real.log (max x thr) ∧ (toDist thr x < d ↔ Real.exp (-d) < max x thr) ∧
      (x ≤ y → toDist thr y ≤ toDist thr x) :=
  ⟨real_toDist thr x, real_toDist_lt_iff thr x d hthr, real_toDist_antitone thr x y hthr⟩

example : toDist (1 / 1000000 : ℝ) 1 = 0 := by
  rw [real_toDist, max_eq_left (by norm_num), Real.log_one, neg_zero]

/-- **single linkage on a kernel = components of the similarity graph.**  For a symmetric similarity `K`, the
floor `thr > 0`, and a complete single-linkage dendrogram of the dissimilarities `toDist thr (K i j)` with
non-decreasing steps: after `Distance(d)` two samples carry the same label exactly when they are connected by a
chain of pairs whose floored similarity exceeds `exp (-d)` -/
theorem kernel_single_linkage_components (K : Nat → Nat → ℝ) (hK : ∀ i j, K i j = K j i) (thr : ℝ) (hthr : 0 < thr)
    (d : ℝ) (n : Nat) (steps : List (Step ℝ))
    (hc : SLOK (fun i j => toDist thr (K i j)) steps (initClusters n) n)
    (hm : steps.Pairwise fun x y => x.dis ≤ y.dis) (cl : Clusters)
    (h : replay (Crit.dist d) n steps = some cl) (i j : Nat) (hi : i < n) :
    SameCl cl i j ↔ Conn (fun a b => -(max (K a b) thr)) (-(Real.exp (-d))) n i j := by
  rw [single_linkage_components (fun i j => toDist thr (K i j)) (fun i j => by simp only [hK i j]) d n steps hc hm
    cl h i j hi]
  apply conn_congr
  intro a b
  rw [real_toDist_lt_iff thr (K a b) d hthr, neg_lt_neg_iff]

end LinfaSpec.Props.C06
