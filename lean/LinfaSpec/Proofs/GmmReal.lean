import LinfaSpec.Proofs.Gmm
import Mathlib.Analysis.SpecialFunctions.Log.Basic
import Mathlib.LinearAlgebra.Matrix.NonsingularInverse

/-!
The `Transc ℝ` instance, the log-sum-exp over `ℝ`, and the precision matrix as a `Matrix` product.
-/
namespace LinfaSpec.Gmm
open LinfaSpec

noncomputable instance realTransc : Transc ℝ := ⟨Real.sqrt, Real.exp, Real.log⟩

@[simp] theorem transc_exp (x : ℝ) : Transc.exp x = Real.exp x := rfl
@[simp] theorem transc_ln (x : ℝ) : Transc.ln x = Real.log x := rfl

theorem sum_exp_pos (l : List ℝ) (hl : l ≠ []) : 0 < (l.map Real.exp).sum :=
  List.sum_pos _ (fun x hx => by obtain ⟨y, _, rfl⟩ := List.mem_map.mp hx; exact Real.exp_pos y)
    (mt List.map_eq_nil_iff.mp hl)

theorem sum_exp_sub (l : List ℝ) (c : ℝ) :
    ((l.map fun v => v - c).map Real.exp).sum = (l.map Real.exp).sum / Real.exp c := by
  rw [List.map_map, ← sum_map_div]
  exact congrArg List.sum (List.map_congr_left fun s _ => Real.exp_sub s c)

/-- softmax rows sum to one: `Σ exp(s − ln Σ exp s) = 1` -/
theorem softmax_sum (sh : List ℝ) (hl : sh ≠ []) :
    ((sh.map (fun v => v - Real.log ((sh.map Real.exp).sum))).map Real.exp).sum = 1 := by
  have hS := sum_exp_pos sh hl
  rw [sum_exp_sub, Real.exp_log hS, div_self hS.ne']

theorem logRespStable_snd (wlp : List ℝ) :
    (logRespStable wlp).2 =
      (wlp.map (fun v => v - rowMax wlp)).map
        (fun v => v - Real.log (((wlp.map (fun v => v - rowMax wlp)).map Real.exp).sum)) := by
  unfold logRespStable
  simp only [sumS_eq_sum, transc_ln]
  rfl

/-- with one component the E-step is trivial: normaliser `w`, log-responsibility `0` -/
theorem logRespStable_singleton (w : ℝ) : logRespStable [w] = (w, [0]) := by
  simp [logRespStable, rowMax, sumS]

/-- shifting by a constant does not change the log-sum-exp:
`ln Σ exp(w − m) + m = ln Σ exp w` -/
theorem lse_shift (wlp : List ℝ) (hl : wlp ≠ []) (m : ℝ) :
    Real.log (((wlp.map (fun v => v - m)).map Real.exp).sum) + m =
      Real.log ((wlp.map Real.exp).sum) := by
  rw [sum_exp_sub, Real.log_div (sum_exp_pos wlp hl).ne' (Real.exp_pos m).ne', Real.log_exp,
    sub_add_cancel]

theorem precCholAll_single (v s : ℝ) (hs : 0 < s) (hv : s * s = v) :
    precCholAll 1 [[[v]]] = .ok [[[1 / s]]] := by
  have hsq : Real.sqrt v = s := by rw [← hv]; exact Real.sqrt_mul_self hs.le
  have hpos : ¬ at2 [[v]] 0 0 ≤ 0 := not_le.mpr (hv ▸ mul_pos hs hs)
  have h : precCholOf 1 [[v]] = .ok [[1 / s]] := by
    rw [precCholOf_one, if_neg hpos, ← hsq]; rfl
  simp only [precCholAll, h]

section matrix
variable {α : Type} [Field α]

/-- a list-of-rows matrix as a `Matrix (Fin d) (Fin d)` -/
def toMat (d : Nat) (m : List (List α)) : Matrix (Fin d) (Fin d) α := fun a b => at2 m a.val b.val

theorem toMat_apply (d : Nat) (m : List (List α)) (a b : Fin d) :
    toMat d m a b = at2 m a.val b.val := rfl

theorem precisionsFull_toMat (d : Nat) (pc : List (List α)) :
    toMat d (precisionsFull d pc) = toMat d pc * (toMat d pc).transpose := by
  funext a b
  rw [Matrix.mul_apply, toMat_apply, precisionsFull, at2_map_range _ a.isLt b.isLt, sumRange_eq,
    Finset.sum_range]
  rfl

end matrix
end LinfaSpec.Gmm
