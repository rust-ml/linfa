import LinfaSpec.Model.Tree
import LinfaSpec.Proofs.Scalar
import Mathlib.Algebra.Order.Field.Basic
import Mathlib.Tactic.Linarith

/-!
C14 (`LinfaSpec.Tree`), the part that needs no arithmetic: row masks, the induction over the calls of
`TreeNode::fit` and when a call returns, the per-node predicates and their stability under `prune`,
the modal class.
-/
namespace LinfaSpec.Tree
open LinfaSpec

/-! ### row masks -/

section rows
variable {α β : Type}

theorem mem_rowsOf (mask : List Bool) (r : Nat) :
    r ∈ rowsOf mask ↔ r < mask.length ∧ mask.getD r false = true := by
  simp [rowsOf]

theorem mem_presentClasses (D : Data α β) (rows : List Nat) (c : Nat) :
    c ∈ presentClasses D rows ↔ c < D.K ∧ ∃ i ∈ rows, D.y i = c := by
  simp [presentClasses]

theorem length_allMask (D : Data α β) : (allMask D).length = D.n := by simp [allMask]

theorem mem_rowsOf_allMask (D : Data α β) (i : Nat) : i ∈ rowsOf (allMask D) ↔ i < D.n := by
  rw [mem_rowsOf, length_allMask, and_iff_left_iff_imp]
  intro h
  simp [allMask, List.getD_eq_getElem?_getD, h]

end rows

section masks
variable {α β : Type} [LE α] [DecidableLE α] [OfNat α 0]

theorem length_leftMask (D : Data α β) (mask : List Bool) (f : Nat) (s : α) :
    (leftMask D mask f s).length = mask.length := by simp [leftMask]

theorem length_rightMask (D : Data α β) (mask : List Bool) (f : Nat) (s : α) :
    (rightMask D mask f s).length = mask.length := by simp [rightMask]

theorem getD_leftMask (D : Data α β) (mask : List Bool) (f : Nat) (s : α) (i : Nat) :
    (leftMask D mask f s).getD i false = (mask.getD i false && decide (D.x i f ≤ s)) := by
  simp only [leftMask, List.getD_eq_getElem?_getD, List.getElem?_map, List.getElem?_zipIdx]
  cases mask[i]? <;> simp

theorem getD_rightMask (D : Data α β) (mask : List Bool) (f : Nat) (s : α) (i : Nat) :
    (rightMask D mask f s).getD i false = (mask.getD i false && !decide (D.x i f ≤ s)) := by
  simp only [rightMask, List.getD_eq_getElem?_getD, List.getElem?_map, List.getElem?_zipIdx]
  cases mask[i]? <;> simp

theorem rowsOf_leftMask (D : Data α β) (mask : List Bool) (f : Nat) (s : α) :
    rowsOf (leftMask D mask f s) = (rowsOf mask).filter fun i => decide (D.x i f ≤ s) := by
  simp only [rowsOf, length_leftMask, List.filter_filter]
  refine List.filter_congr fun i _ => ?_
  rw [getD_leftMask, Bool.and_comm]

theorem rowsOf_rightMask (D : Data α β) (mask : List Bool) (f : Nat) (s : α) :
    rowsOf (rightMask D mask f s) = (rowsOf mask).filter fun i => !decide (D.x i f ≤ s) := by
  simp only [rowsOf, length_rightMask, List.filter_filter]
  refine List.filter_congr fun i _ => ?_
  rw [getD_rightMask, Bool.and_comm]

end masks

/-! ### one call of `fit` -/

section guard
variable {α β : Type} [LT β] [DecidableLT β] [NatCast β]

theorem stopGuard_eq_false (P : Params α β) (n depth : Nat) :
    stopGuard P n depth = false ↔ ¬ ((n : β) < P.minSplit) ∧ ∀ m, P.maxDepth = some m → depth < m := by
  unfold stopGuard
  cases P.maxDepth <;> simp

end guard

section generic
variable {α β : Type}
variable [Add α] [Sub α] [Div α] [Neg α] [LT α] [DecidableLT α] [LE α] [DecidableLE α]
  [OfNat α 0] [NatCast α]
variable [Add β] [Sub β] [Mul β] [Div β] [Neg β] [LT β] [DecidableLT β]
  [OfNat β 0] [OfNat β 1] [NatCast β]

/-- the modal class `fit` computes for the rows of `mask` -/
abbrev nodeModal (D : Data α β) (ord : List Nat → List Nat) (mask : List Bool) : Option Nat :=
  modalOf (classWeight D (rowsOf mask)) D.rank (ord (presentClasses D (rowsOf mask)))

/-- the splits `fit` evaluates for the rows of `mask` -/
abbrev nodeCands (P : Params α β) (D : Data α β) (sorted : List (List (Nat × α))) (mask : List Bool) :
    List (Cand α β) :=
  candidates P D sorted mask (freqOf D (rowsOf mask))

/-- the `impurity_decrease` a node with rows `mask` reports for the split `b` -/
abbrev nodeDec (P : Params α β) (D : Data α β) (mask : List Bool) (b : Cand α β) : α :=
  decOf P D (freqOf D (rowsOf mask)) (some b)

/-- the call of `fit` on (`mask`, `depth`) makes a split node with the candidate `b`: the early return
is not taken, `b` is the best candidate, its decrease is not below the threshold, both sides
received rows -/
structure IsSplit (P : Params α β) (D : Data α β) (sorted : List (List (Nat × α))) (mask : List Bool)
    (depth : Nat) (b : Cand α β) : Prop where
  guard : stopGuard P (rowsOf mask).length depth = false
  best : pickBest (nodeCands P D sorted mask) = some b
  dec : ¬ nodeDec P D mask b < P.minDec
  left : (rowsOf (leftMask D mask b.feat b.split)).isEmpty = false
  right : (rowsOf (rightMask D mask b.feat b.split)).isEmpty = false

/-- induction over the calls of `TreeNode::fit` that return (row masks have one entry per row
throughout): a statement about (rows, depth, tree) holds of every call if it holds of a leaf with the
modal class of its rows, and passes from the recursive calls to a split node and to a leaf-flagged
node that keeps its one non-empty side -/
theorem fitNode_induction (P : Params α β) (D : Data α β) (ord : List Nat → List Nat)
    (sorted : List (List (Nat × α))) {motive : List Bool → Nat → Tree α → Prop}
    (leaf : ∀ mask depth pred, nodeModal D ord mask = some pred → motive mask depth (.leaf pred depth))
    (node : ∀ mask depth pred b l r, mask.length = D.n → nodeModal D ord mask = some pred →
      IsSplit P D sorted mask depth b →
      motive (leftMask D mask b.feat b.split) (depth + 1) l →
      motive (rightMask D mask b.feat b.split) (depth + 1) r →
      motive mask depth (.node b.feat b.split (nodeDec P D mask b) pred depth l r))
    (half : ∀ mask depth pred b il c, mask.length = D.n → nodeModal D ord mask = some pred →
      stopGuard P (rowsOf mask).length depth = false → pickBest (nodeCands P D sorted mask) = some b →
      ¬ nodeDec P D mask b < P.minDec →
      (rowsOf (if il then rightMask D mask b.feat b.split else leftMask D mask b.feat b.split)).isEmpty = true →
      motive (if il then leftMask D mask b.feat b.split else rightMask D mask b.feat b.split) (depth + 1) c →
      motive mask depth (.half b.feat b.split (nodeDec P D mask b) pred depth il c)) :
    ∀ fuel mask depth t, mask.length = D.n → fitNode P D ord sorted fuel mask depth = some t →
      motive mask depth t := by
  intro fuel
  induction fuel with
  | zero => intro mask depth t _ h; nomatch h
  | succ fuel ih =>
    intro mask depth t hlen h
    have ihl := fun f s t => ih (leftMask D mask f s) (depth + 1) t ((length_leftMask ..).trans hlen)
    have ihr := fun f s t => ih (rightMask D mask f s) (depth + 1) t ((length_rightMask ..).trans hlen)
    rw [fitNode] at h
    generalize hm : modalOf (classWeight D (rowsOf mask)) D.rank (ord (presentClasses D (rowsOf mask))) = mo at h
    cases mo with
    | none => nomatch h
    | some pred =>
      dsimp only at h
      -- `split at h` would traverse the whole body at every test; naming the tests keeps each step small
      by_cases hguard : stopGuard P (rowsOf mask).length depth = true
      · rw [if_pos hguard] at h; cases h; exact leaf _ _ _ hm
      rw [if_neg hguard] at h
      by_cases hok : (candidates P D sorted mask (freqOf D (rowsOf mask))).any (fun c => !c.ok) = true
      · rw [if_pos hok] at h; nomatch h
      rw [if_neg hok] at h
      generalize hb : pickBest (candidates P D sorted mask (freqOf D (rowsOf mask))) = best at h
      by_cases hdec : decOf P D (freqOf D (rowsOf mask)) best < P.minDec
      · rw [if_pos hdec] at h; cases h; exact leaf _ _ _ hm
      rw [if_neg hdec] at h
      rw [Bool.not_eq_true] at hguard
      cases best with
      | none => nomatch h
      | some b =>
        dsimp only at h
        cases hle : (rowsOf (leftMask D mask b.feat b.split)).isEmpty <;>
          cases hre : (rowsOf (rightMask D mask b.feat b.split)).isEmpty <;>
          rw [hle, hre] at h <;> dsimp only at h
        · split at h
          · nomatch h
          · split at h
            · nomatch h
            · cases h
              exact node _ _ _ b _ _ hlen hm ⟨hguard, hb, hdec, hle, hre⟩ (ihl _ _ _ ‹_›) (ihr _ _ _ ‹_›)
        · split at h
          · nomatch h
          · cases h; exact half _ _ _ b true _ hlen hm hguard hb hdec hre (ihl _ _ _ ‹_›)
        · split at h
          · nomatch h
          · cases h; exact half _ _ _ b false _ hlen hm hguard hb hdec hle (ihr _ _ _ ‹_›)
        · cases h; exact leaf _ _ _ hm

/-- a call of `fit` returns when nothing in it can fail: the node has a modal class, no impurity
assert fired, "no best split" comes with a decrease below the threshold, and the recursive calls on
the sides of the best split return -/
theorem fitNode_succ_returns (P : Params α β) (D : Data α β) (ord : List Nat → List Nat)
    (sorted : List (List (Nat × α))) (fuel : Nat) (mask : List Bool) (depth pred : Nat)
    (hm : nodeModal D ord mask = some pred)
    (hok : (nodeCands P D sorted mask).any (fun c => !c.ok) = false)
    (hnone : pickBest (nodeCands P D sorted mask) = none →
      decOf P D (freqOf D (rowsOf mask)) none < P.minDec)
    (hrec : ∀ b, pickBest (nodeCands P D sorted mask) = some b →
      (∃ l, fitNode P D ord sorted fuel (leftMask D mask b.feat b.split) (depth + 1) = some l) ∧
      (∃ r, fitNode P D ord sorted fuel (rightMask D mask b.feat b.split) (depth + 1) = some r)) :
    ∃ t, fitNode P D ord sorted (fuel + 1) mask depth = some t := by
  unfold nodeModal at hm
  unfold nodeCands at hok hnone hrec
  rw [fitNode, hm]
  dsimp only
  rw [hok, if_neg Bool.false_ne_true]
  by_cases hguard : stopGuard P (rowsOf mask).length depth = true
  · rw [if_pos hguard]; exact ⟨_, rfl⟩
  rw [if_neg hguard]
  cases hb : pickBest (candidates P D sorted mask (freqOf D (rowsOf mask))) with
  | none => rw [if_pos (hnone hb)]; exact ⟨_, rfl⟩
  | some b =>
    obtain ⟨⟨l, hl⟩, ⟨r, hr⟩⟩ := hrec b hb
    split
    · exact ⟨_, rfl⟩
    · dsimp only
      rw [hl, hr]
      cases (rowsOf (leftMask D mask b.feat b.split)).isEmpty <;>
        cases (rowsOf (rightMask D mask b.feat b.split)).isEmpty <;> exact ⟨_, rfl⟩

/-- the hash map's iteration order enters a call only through the modal class and the recursive calls -/
theorem fitNode_congr_ord (P : Params α β) (D : Data α β) (ord1 ord2 : List Nat → List Nat)
    (sorted : List (List (Nat × α))) (h : ∀ mask, nodeModal D ord1 mask = nodeModal D ord2 mask) :
    ∀ fuel mask depth, fitNode P D ord1 sorted fuel mask depth = fitNode P D ord2 sorted fuel mask depth := by
  intro fuel
  induction fuel with
  | zero => intro mask depth; rfl
  | succ fuel ih =>
    intro mask depth
    unfold fitNode
    simp only [ih, show modalOf _ _ _ = _ from h mask]

/-! ### predicates over fitted trees -/

/-- `Q mask feat split dec` holds at every split node, `mask` being the training rows that reach
the node when every split sends `value <= split` to the left (what `fit` does).  A leaf-flagged node
that keeps a child (`half`) is not a split node itself; the split nodes below it are included. -/
def ForallSplits (D : Data α β) (Q : List Bool → Nat → α → α → Prop) : List Bool → Tree α → Prop
  | _, .leaf _ _ => True
  | m, .node f s dec _ _ l r =>
    Q m f s dec ∧ ForallSplits D Q (leftMask D m f s) l ∧ ForallSplits D Q (rightMask D m f s) r
  | m, .half f s _ _ _ il c =>
    ForallSplits D Q (if il then leftMask D m f s else rightMask D m f s) c

/-- `Q mask pred` holds at every leaf (`leaf_node = true`) with the training rows reaching it -/
def ForallLeaves (D : Data α β) (Q : List Bool → Nat → Prop) : List Bool → Tree α → Prop
  | m, .leaf p _ => Q m p
  | m, .node f s _ _ _ l r =>
    ForallLeaves D Q (leftMask D m f s) l ∧ ForallLeaves D Q (rightMask D m f s) r
  | m, .half _ _ _ p _ _ _ => Q m p

/-- depth fields are the true depths; leaves are at depth `≤ max_depth`, splits strictly above -/
def DepthOK (md : Option Nat) : Nat → Tree α → Prop
  | d, .leaf _ d' => d' = d ∧ (∀ m, md = some m → d ≤ m)
  | d, .node _ _ _ _ d' l r =>
    d' = d ∧ (∀ m, md = some m → d < m) ∧ DepthOK md (d + 1) l ∧ DepthOK md (d + 1) r
  | d, .half _ _ _ _ d' _ c => d' = d ∧ (∀ m, md = some m → d < m) ∧ DepthOK md (d + 1) c

/-- no leaf-flagged node keeps a child -/
def NoHalf : Tree α → Prop
  | .leaf _ _ => True
  | .node _ _ _ _ _ l r => NoHalf l ∧ NoHalf r
  | .half _ _ _ _ _ _ _ => False

theorem fitNode_forallSplits (P : Params α β) (D : Data α β) (ord : List Nat → List Nat)
    (sorted : List (List (Nat × α))) (Q : List Bool → Nat → α → α → Prop)
    (hQ : ∀ mask depth b, mask.length = D.n → IsSplit P D sorted mask depth b →
      Q mask b.feat b.split (nodeDec P D mask b)) :
    ∀ fuel mask depth t, mask.length = D.n → fitNode P D ord sorted fuel mask depth = some t →
      ForallSplits D Q mask t :=
  fitNode_induction P D ord sorted (motive := fun mask _ t => ForallSplits D Q mask t)
    (fun _ _ _ _ => trivial) (fun mask depth _ b _ _ hlen _ hs hl hr => ⟨hQ mask depth b hlen hs, hl, hr⟩)
    (fun _ _ _ _ _ _ _ _ _ _ _ _ hc => hc)

theorem fitNode_forallLeaves (P : Params α β) (D : Data α β) (ord : List Nat → List Nat)
    (sorted : List (List (Nat × α))) (Q : List Bool → Nat → Prop)
    (hQ : ∀ mask pred, nodeModal D ord mask = some pred → Q mask pred) :
    ∀ fuel mask depth t, mask.length = D.n → fitNode P D ord sorted fuel mask depth = some t →
      ForallLeaves D Q mask t :=
  fitNode_induction P D ord sorted (motive := fun mask _ t => ForallLeaves D Q mask t)
    (fun mask _ pred hm => hQ mask pred hm) (fun _ _ _ _ _ _ _ _ _ hl hr => ⟨hl, hr⟩)
    (fun mask _ pred _ _ _ _ hm _ _ _ _ _ => hQ mask pred hm)

theorem fitNode_noHalf_of_sides (P : Params α β) (D : Data α β) (ord : List Nat → List Nat)
    (sorted : List (List (Nat × α)))
    (hne : ∀ mask b, mask.length = D.n → pickBest (nodeCands P D sorted mask) = some b →
      rowsOf (leftMask D mask b.feat b.split) ≠ [] ∧ rowsOf (rightMask D mask b.feat b.split) ≠ []) :
    ∀ fuel mask depth t, mask.length = D.n → fitNode P D ord sorted fuel mask depth = some t → NoHalf t := by
  refine fitNode_induction P D ord sorted (motive := fun _ _ t => NoHalf t)
    (fun _ _ _ _ => trivial) (fun _ _ _ _ _ _ _ _ _ hl hr => ⟨hl, hr⟩) ?_
  intro mask _ _ b il _ hlen _ _ hb _ hempty _
  obtain ⟨hl, hr⟩ := hne mask b hlen hb
  cases il
  · exact hl (List.isEmpty_iff.mp hempty)
  · exact hr (List.isEmpty_iff.mp hempty)

theorem fitNode_depthOK (P : Params α β) (D : Data α β) (ord : List Nat → List Nat)
    (sorted : List (List (Nat × α))) :
    ∀ fuel mask depth t, mask.length = D.n → fitNode P D ord sorted fuel mask depth = some t →
      (∀ m, P.maxDepth = some m → depth ≤ m) → DepthOK P.maxDepth depth t := by
  refine fitNode_induction P D ord sorted
    (motive := fun _ depth t => (∀ m, P.maxDepth = some m → depth ≤ m) → DepthOK P.maxDepth depth t)
    (fun _ _ _ _ hd => ⟨rfl, hd⟩) ?_ ?_
  · intro _ depth _ _ _ _ _ _ hs hl hr _
    have hlt := ((stopGuard_eq_false P _ depth).mp hs.guard).2
    exact ⟨rfl, hlt, hl hlt, hr hlt⟩
  · intro _ depth _ _ _ _ _ _ hguard _ _ _ hc _
    have hlt := ((stopGuard_eq_false P _ depth).mp hguard).2
    exact ⟨rfl, hlt, hc hlt⟩

end generic

/-! ### pruning keeps the per-node facts -/

section prune
variable {α : Type}

theorem prune_node (f : Nat) (s dec : α) (p d : Nat) (l r : Tree α) :
    (∃ x, (prune l).2 = some x ∧ (prune r).2 = some x ∧
      prune (.node f s dec p d l r) = (.leaf x d, some x)) ∨
    prune (.node f s dec p d l r) = (.node f s dec p d (prune l).1 (prune r).1, none) := by
  simp only [prune]
  split
  · rename_i x y hx hy
    split
    · rename_i hxy; subst hxy; exact Or.inl ⟨x, hx, hy, rfl⟩
    · exact Or.inr rfl
  · exact Or.inr rfl

theorem prune_depthOK (md : Option Nat) :
    ∀ (t : Tree α) (d : Nat), DepthOK md d t → DepthOK md d (prune t).1 := by
  intro t
  induction t with
  | leaf p d' => intro d h; exact h
  | half f s dec p d' il c ih => intro d h; exact h
  | node f s dec p d' l r ihl ihr =>
    intro d ⟨h0, h1, h2, h3⟩
    rcases prune_node f s dec p d' l r with ⟨x, _, _, e⟩ | e <;> rw [e]
    · exact ⟨h0, fun m hm => Nat.le_of_lt (h1 m hm)⟩
    · exact ⟨h0, h1, ihl _ h2, ihr _ h3⟩

theorem prune_noHalf : ∀ (t : Tree α), NoHalf t → NoHalf (prune t).1 := by
  intro t
  induction t with
  | leaf p d => intro h; exact h
  | half f s dec p d il c ih => intro h; exact h
  | node f s dec p d l r ihl ihr =>
    intro h
    rcases prune_node f s dec p d l r with ⟨x, _, _, e⟩ | e <;> rw [e]
    · trivial
    · exact ⟨ihl h.1, ihr h.2⟩

end prune

section pruneSplits
variable {α β : Type} [LE α] [DecidableLE α] [OfNat α 0]

theorem prune_forallSplits (D : Data α β) (Q : List Bool → Nat → α → α → Prop) :
    ∀ (t : Tree α) (m : List Bool), ForallSplits D Q m t → ForallSplits D Q m (prune t).1 := by
  intro t
  induction t with
  | leaf p d => intro m h; exact h
  | half f s dec p d il c ih => intro m h; exact h
  | node f s dec p d l r ihl ihr =>
    intro m ⟨h1, h2, h3⟩
    rcases prune_node f s dec p d l r with ⟨x, _, _, e⟩ | e <;> rw [e]
    · trivial
    · exact ⟨h1, ihl _ h2, ihr _ h3⟩

end pruneSplits

section fit
variable {α β : Type}
variable [Add α] [Sub α] [Div α] [Neg α] [LT α] [DecidableLT α] [LE α] [DecidableLE α]
  [OfNat α 0] [NatCast α]
variable [Add β] [Sub β] [Mul β] [Div β] [Neg β] [LT β] [DecidableLT β]
  [OfNat β 0] [OfNat β 1] [NatCast β]

theorem fit_eq_some (P : Params α β) (D : Data α β) (ord : List Nat → List Nat) (p : Nat) (t : Tree α) :
    fit P D ord p = some t ↔
      ∃ u, fitNode P D ord (sortedAll D p) (fitFuel P D) (allMask D) 0 = some u ∧ t = (prune u).1 := by
  unfold fit
  cases fitNode P D ord (sortedAll D p) (fitFuel P D) (allMask D) 0 <;> simp [eq_comm]

/-- `fitNode_forallSplits` for the tree `fit` returns: pruning removes split nodes only -/
theorem fit_forallSplits (P : Params α β) (D : Data α β) (ord : List Nat → List Nat) (p : Nat)
    (t : Tree α) (h : fit P D ord p = some t) (Q : List Bool → Nat → α → α → Prop)
    (hQ : ∀ mask depth b, mask.length = D.n → IsSplit P D (sortedAll D p) mask depth b →
      Q mask b.feat b.split (nodeDec P D mask b)) :
    ForallSplits D Q (allMask D) t := by
  obtain ⟨u, hu, rfl⟩ := (fit_eq_some P D ord p t).mp h
  exact prune_forallSplits D Q u _ (fitNode_forallSplits P D ord _ Q hQ _ _ _ u (length_allMask D) hu)

end fit

/-! ### modal class -/

section modal
variable {β : Type} [LinearOrder β]

/-- one step of the fold of `find_modal_class` -/
def modalStep (freq : Nat → β) (rank : Nat → Nat) (acc : Option Nat) (c : Nat) : Option Nat :=
  match acc with
  | none => some c
  | some b =>
    if freq c < freq b ∨ ((¬ freq b < freq c ∧ ¬ freq c < freq b) ∧ rank b < rank c) then some b
    else some c

/-- `Better c c'`: `c` beats `c'` in the order `find_modal_class` maximises — heavier, or equally
heavy and not later in the label order -/
def Better (freq : Nat → β) (rank : Nat → Nat) (c c' : Nat) : Prop :=
  freq c' ≤ freq c ∧ (freq c' = freq c → rank c ≤ rank c')

theorem Better.refl (freq : Nat → β) (rank : Nat → Nat) (c : Nat) : Better freq rank c c :=
  ⟨le_refl _, fun _ => le_refl _⟩

theorem Better.trans {freq : Nat → β} {rank : Nat → Nat} {a b c : Nat}
    (h1 : Better freq rank a b) (h2 : Better freq rank b c) : Better freq rank a c := by
  refine ⟨le_trans h2.1 h1.1, fun h => ?_⟩
  have hcb : freq c = freq b := le_antisymm h2.1 (h ▸ h1.1)
  have hba : freq b = freq a := hcb ▸ h
  exact le_trans (h1.2 hba) (h2.2 hcb)

theorem modalStep_some (freq : Nat → β) (rank : Nat → Nat) (b x : Nat) :
    (modalStep freq rank (some b) x = some b ∧ Better freq rank b x) ∨
    (modalStep freq rank (some b) x = some x ∧ Better freq rank x b) := by
  unfold modalStep
  by_cases h : freq x < freq b ∨ ((¬ freq b < freq x ∧ ¬ freq x < freq b) ∧ rank b < rank x)
  · refine Or.inl ⟨if_pos h, ?_⟩
    rcases h with h | ⟨⟨h1, _⟩, h3⟩
    · exact ⟨le_of_lt h, fun he => absurd he (ne_of_lt h)⟩
    · exact ⟨not_lt.mp h1, fun _ => le_of_lt h3⟩
  · refine Or.inr ⟨if_neg h, ?_⟩
    obtain ⟨h1, h2⟩ := not_or.mp h
    refine ⟨not_lt.mp h1, fun he => not_lt.mp fun hr => h2 ⟨?_, hr⟩⟩
    rw [he]; exact ⟨lt_irrefl _, lt_irrefl _⟩

theorem modalOf_aux (freq : Nat → β) (rank : Nat → Nat) :
    ∀ (order : List Nat) (b c : Nat),
      order.foldl (modalStep freq rank) (some b) = some c →
      (c = b ∨ c ∈ order) ∧ Better freq rank c b ∧ ∀ c' ∈ order, Better freq rank c c' := by
  intro order
  induction order with
  | nil =>
    intro b c h
    cases h
    exact ⟨Or.inl rfl, Better.refl _ _ _, fun _ h => nomatch h⟩
  | cons x xs ih =>
    intro b c h
    rw [List.foldl_cons] at h
    rcases modalStep_some freq rank b x with ⟨hs, hb⟩ | ⟨hs, hb⟩ <;> rw [hs] at h <;>
      obtain ⟨h1, h2, h3⟩ := ih _ c h
    · exact ⟨h1.imp_right (List.mem_cons_of_mem _), h2,
        List.forall_mem_cons.mpr ⟨h2.trans hb, h3⟩⟩
    · exact ⟨Or.inr (h1.elim (· ▸ List.mem_cons_self) (List.mem_cons_of_mem _)), h2.trans hb,
        List.forall_mem_cons.mpr ⟨h2, h3⟩⟩

/-- `find_modal_class` returns a key of the map whose weight is maximal among the keys and which,
among the keys of maximal weight, comes first in the order of the label type — whatever the
iteration order of the map -/
theorem modalOf_spec' (freq : Nat → β) (rank : Nat → Nat) (order : List Nat) (c : Nat)
    (h : modalOf freq rank order = some c) : c ∈ order ∧ ∀ c' ∈ order, Better freq rank c c' := by
  cases order with
  | nil => nomatch h
  | cons x xs =>
    obtain ⟨h1, h2, h3⟩ := modalOf_aux freq rank xs x c h
    exact ⟨h1.elim (· ▸ List.mem_cons_self) (List.mem_cons_of_mem _), List.forall_mem_cons.mpr ⟨h2, h3⟩⟩

theorem modalOf_isSome (freq : Nat → β) (rank : Nat → Nat) (order : List Nat) (hne : order ≠ []) :
    ∃ c, modalOf freq rank order = some c := by
  have from_some : ∀ (l : List Nat) (b : Nat), ∃ c, l.foldl (modalStep freq rank) (some b) = some c := by
    intro l
    induction l with
    | nil => exact fun b => ⟨b, rfl⟩
    | cons y ys ih =>
      intro b
      rw [List.foldl_cons]
      rcases modalStep_some freq rank b y with ⟨hs, _⟩ | ⟨hs, _⟩ <;> rw [hs] <;> exact ih _
  cases order with
  | nil => exact absurd rfl hne
  | cons x xs => exact from_some xs x

/-- **the modal class does not depend on the iteration order of the hash map**: two orders with
the same members give the same result when the label order separates the members -/
theorem modalOf_order_irrelevant (freq : Nat → β) (rank : Nat → Nat) (o1 o2 : List Nat)
    (hmem : ∀ c, c ∈ o1 ↔ c ∈ o2)
    (hinj : ∀ a ∈ o1, ∀ b ∈ o1, rank a = rank b → a = b) :
    modalOf freq rank o1 = modalOf freq rank o2 := by
  by_cases h1 : o1 = []
  · have h2 : o2 = [] := List.eq_nil_iff_forall_not_mem.mpr fun c hc => by
      rw [← hmem, h1] at hc; nomatch hc
    rw [h1, h2]
  · have h2 : o2 ≠ [] := fun h2 => h1 <| List.eq_nil_iff_forall_not_mem.mpr fun c hc => by
      rw [hmem, h2] at hc; nomatch hc
    -- both results exist and each beats the other, so weights and ranks agree
    obtain ⟨c1, hc1⟩ := modalOf_isSome freq rank o1 h1
    obtain ⟨c2, hc2⟩ := modalOf_isSome freq rank o2 h2
    obtain ⟨m1, b1⟩ := modalOf_spec' freq rank o1 c1 hc1
    obtain ⟨m2, b2⟩ := modalOf_spec' freq rank o2 c2 hc2
    have h12 := b1 c2 ((hmem c2).mpr m2)
    have h21 := b2 c1 ((hmem c1).mp m1)
    have hf : freq c1 = freq c2 := le_antisymm h21.1 h12.1
    have hr : rank c1 = rank c2 := Nat.le_antisymm (h12.2 hf.symm) (h21.2 hf)
    rw [hc1, hc2, hinj c1 m1 c2 ((hmem c2).mpr m2) hr]

end modal

section modalRows
variable {α β : Type} [LinearOrder β] [Add β] [OfNat β 0] [OfNat β 1]

theorem modalOf_rows (D : Data α β) (ord : List Nat → List Nat)
    (hord : ∀ l c, c ∈ ord l ↔ c ∈ l) (rows : List Nat) (pred : Nat)
    (hm : modalOf (classWeight D rows) D.rank (ord (presentClasses D rows)) = some pred) :
    (∃ i ∈ rows, D.y i = pred) ∧
    ∀ c ∈ presentClasses D rows, classWeight D rows c ≤ classWeight D rows pred := by
  obtain ⟨h1, h2⟩ := modalOf_spec' _ _ _ _ hm
  exact ⟨((mem_presentClasses D rows pred).mp ((hord _ _).mp h1)).2,
    fun c hc => (h2 c ((hord _ _).mpr hc)).1⟩

end modalRows
end LinfaSpec.Tree
