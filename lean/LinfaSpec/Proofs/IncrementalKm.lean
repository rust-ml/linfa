import LinfaSpec.Proofs.Incremental

/-!
C15, mini-batch k-means: the running-mean recurrence of one centroid coordinate and its lifting through
`compute_centroids_incremental` for a whole batch; `closest_centroid` for any metric; the trace of a
history; shapes and cumulative counts through `fit_with`.
-/
namespace LinfaSpec.Incremental
open LinfaSpec


section Field
variable {α : Type} [Field α] [LinearOrder α] [IsStrictOrderedRing α]

/-! ### one coordinate of one centroid -/

/-- `counts[c] += 1; centroid += (x - centroid) / counts[c]` for one coordinate, the count kept as
a natural number -/
def kmTrack (st : α × Nat) (x : α) : α × Nat := (st.1 + (x - st.1) / ((st.2 : α) + 1), st.2 + 1)

/-- one absorbed value, in sum form: `new · (n + 1) = old · n + x` -/
theorem kmTrack_step (c x : α) (n : Nat) :
    (kmTrack (c, n) x).1 * ((n + 1 : Nat) : α) = c * (n : α) + x := by
  have hn : (n : α) + 1 ≠ 0 := (Nat.cast_add_one_pos n).ne'
  simp only [kmTrack, Nat.cast_add, Nat.cast_one]
  field_simp
  ring

theorem kmTrack_invariant (xs : List α) (c : α) (n : Nat) :
    (xs.foldl kmTrack (c, n)).2 = n + xs.length ∧
    (xs.foldl kmTrack (c, n)).1 * ((n + xs.length : Nat) : α) = c * (n : α) + sumS xs := by
  induction xs generalizing c n with
  | nil => exact ⟨rfl, (add_zero _).symm⟩
  | cons x rest ih =>
    obtain ⟨h1, h2⟩ := ih (kmTrack (c, n) x).1 (n + 1)
    have e : n + 1 + rest.length = n + (x :: rest).length := by rw [List.length_cons]; omega
    rw [e, kmTrack_step, add_assoc, ← sumS_cons] at h2
    exact ⟨h1.trans e, h2⟩

/-! ### whole-batch lifting through `compute_centroids_incremental` -/

/-- coordinate `j` of the observations assigned to cluster `c`, in batch order -/
def coordSeq (c j : Nat) (pairs : List (List α × Nat)) : List α :=
  (pairs.filter fun xm => xm.2 = c).map fun xm => xm.1.getD j 0

omit [LinearOrder α] [IsStrictOrderedRing α] in
theorem kmAddPoint_lengths (st : KState α) (x : List α) (m : Nat) :
    (kmAddPoint st x m).centroids.length = st.centroids.length ∧
    (kmAddPoint st x m).counts.length = st.counts.length :=
  ⟨List.length_set, List.length_set⟩

section
-- the anonymous sections omit what their lemmas do not use of the enclosing section's scalar
omit [LinearOrder α] [IsStrictOrderedRing α]

theorem kmAddPoint_other (st : KState α) (x : List α) (m c : Nat) (h : m ≠ c) :
    (kmAddPoint st x m).centroids.getD c [] = st.centroids.getD c [] ∧
    (kmAddPoint st x m).counts.getD c 0 = st.counts.getD c 0 := by
  simp [kmAddPoint, List.getD_eq_getElem?_getD, List.getElem?_set_ne h]

theorem kmAddPoint_same (st : KState α) (x : List α) (c : Nat) (hc : c < st.centroids.length)
    (hc' : c < st.counts.length) :
    (kmAddPoint st x c).centroids.getD c [] =
      List.zipWith (fun ci xi => ci + (xi - ci) / (st.counts.getD c 0 + 1)) (st.centroids.getD c []) x ∧
    (kmAddPoint st x c).counts.getD c 0 = st.counts.getD c 0 + 1 := by
  simp [kmAddPoint, List.getD_eq_getElem?_getD, hc, hc']

/-- **whole-batch lifting**: after `compute_centroids_incremental` on the (observation, membership)
pairs, coordinate `j` of centroid `c` is the `kmTrack` recurrence run over the `j`-th coordinates of
the observations assigned to `c` (in order), started at the old coordinate with the old cumulative
count `n`; the new cumulative count is `n +` the number of those observations. -/
theorem kmIncr_cluster (c j : Nat) (pairs : List (List α × Nat)) :
    ∀ (st : KState α) (n : Nat),
      c < st.centroids.length → c < st.counts.length → st.counts.getD c 0 = (n : α) →
      j < (st.centroids.getD c []).length →
      (∀ xm ∈ pairs, (st.centroids.getD c []).length ≤ xm.1.length) →
      (((pairs.foldl (fun s xc => kmAddPoint s xc.1 xc.2) st).centroids.getD c []).getD j 0 =
          ((coordSeq c j pairs).foldl kmTrack ((st.centroids.getD c []).getD j 0, n)).1) ∧
      (pairs.foldl (fun s xc => kmAddPoint s xc.1 xc.2) st).counts.getD c 0 =
          ((n + (coordSeq c j pairs).length : Nat) : α) := by
  induction pairs with
  | nil => intro st n _ _ hn _ _; exact ⟨rfl, hn⟩
  | cons xm rest ih =>
    intro st n hc hc' hn hj hlen
    obtain ⟨x, m⟩ := xm
    simp only [List.foldl_cons]
    have hl := kmAddPoint_lengths st x m
    have hx : (st.centroids.getD c []).length ≤ x.length := hlen (x, m) List.mem_cons_self
    by_cases hm : m = c
    · -- the point joins cluster `c`: one `kmTrack` step, then the rest of the batch
      subst hm
      obtain ⟨h1, h2⟩ := kmAddPoint_same st x m hc hc'
      have hrow : ((kmAddPoint st x m).centroids.getD m []).length = (st.centroids.getD m []).length := by
        rw [h1, List.length_zipWith]; omega
      have hcnt : (kmAddPoint st x m).counts.getD m 0 = ((n + 1 : Nat) : α) := by
        rw [h2, hn, Nat.cast_add, Nat.cast_one]
      obtain ⟨g1, g2⟩ := ih (kmAddPoint st x m) (n + 1) (hl.1 ▸ hc) (hl.2 ▸ hc') hcnt (hrow ▸ hj)
        fun ym hym => hrow ▸ hlen ym (List.mem_cons_of_mem _ hym)
      have hcoord : ((kmAddPoint st x m).centroids.getD m []).getD j 0 =
          (kmTrack ((st.centroids.getD m []).getD j 0, n) (x.getD j 0)).1 := by
        rw [h1, getD_zipWith_of_lt _ hj (lt_of_lt_of_le hj hx) 0 0 0, hn]; rfl
      have hseq : coordSeq m j ((x, m) :: rest) = x.getD j 0 :: coordSeq m j rest := by
        simp [coordSeq]
      rw [hseq, List.foldl_cons, List.length_cons, g1, g2, hcoord, Nat.add_right_comm, Nat.add_assoc]
      exact ⟨rfl, rfl⟩
    · -- another cluster's point leaves row and count of `c` alone
      obtain ⟨h1, h2⟩ := kmAddPoint_other st x m c hm
      obtain ⟨g1, g2⟩ := ih (kmAddPoint st x m) n (hl.1 ▸ hc) (hl.2 ▸ hc') (h2 ▸ hn) (h1 ▸ hj)
        fun ym hym => h1 ▸ hlen ym (List.mem_cons_of_mem _ hym)
      have hseq : coordSeq c j ((x, m) :: rest) = coordSeq c j rest := by
        simp [coordSeq, hm]
      rw [hseq, g1, g2, h1]
      exact ⟨rfl, rfl⟩

end

/-! ### distances and `closest_centroid` -/

theorem sqDist_nonneg (a b : List α) : 0 ≤ sqDist a b := by
  refine sumS_nonneg _ fun x hx => ?_
  obtain ⟨i, hi, rfl⟩ := List.getElem_of_mem hx
  rw [List.getElem_zipWith]
  exact mul_self_nonneg _

section
omit [IsStrictOrderedRing α]

/-- the index `closest_centroid` returns denotes a centroid at the returned distance, and no
centroid is nearer (any metric) -/
theorem closestBy_spec (m : Metric) (cs : List (List α)) (x : List α) (h : cs ≠ []) :
    ∃ c, cs[(closestBy m cs x).1]? = some c ∧ rdistBy m c x = (closestBy m cs x).2 ∧
      ∀ c' ∈ cs, (closestBy m cs x).2 ≤ rdistBy m c' x := by
  obtain ⟨c0, rest, rfl⟩ := List.exists_cons_of_ne_nil h
  -- the loop is a selection fold over the (index, distance) pairs
  let pairs := (c0 :: rest).zipIdx.map fun ci => (ci.2, rdistBy m ci.1 x)
  have e : closestBy m (c0 :: rest) x =
      pairs.foldl (fun best y => if y.2 < best.2 then y else best) (0, rdistBy m c0 x) := by
    simp only [closestBy, pairs, List.foldl_map]
  obtain ⟨hmem, hle⟩ := foldl_select_spec (fun best y : Nat × α => if y.2 < best.2 then y else best)
    (fun y => y.2) (fun a b => by
    by_cases hlt : b.2 < a.2
    · exact Or.inr ⟨if_pos hlt, hlt.le⟩
    · exact Or.inl ⟨if_neg hlt, not_lt.mp hlt⟩) pairs (0, rdistBy m c0 x)
  rw [← e] at hmem hle
  have hpairs : ∀ y ∈ (0, rdistBy m c0 x) :: pairs,
      ∃ c, (c0 :: rest)[y.1]? = some c ∧ rdistBy m c x = y.2 := by
    intro y hy
    rcases List.mem_cons.mp hy with rfl | hy
    · exact ⟨c0, rfl, rfl⟩
    · obtain ⟨⟨c, i⟩, hci, rfl⟩ := List.mem_map.mp hy
      exact ⟨c, List.mk_mem_zipIdx_iff_getElem?.mp hci, rfl⟩
  obtain ⟨c, hc1, hc2⟩ := hpairs _ hmem
  refine ⟨c, hc1, hc2, fun c' hc' => ?_⟩
  obtain ⟨i, hi, rfl⟩ := List.getElem_of_mem hc'
  exact hle (i, rdistBy m _ x) (List.mem_cons_of_mem _ (List.mem_map.mpr
    ⟨(_, i), List.mk_mem_zipIdx_iff_getElem?.mpr (List.getElem?_eq_getElem hi), rfl⟩))

theorem closestBy_idx_lt (m : Metric) (cs : List (List α)) (x : List α) (h : cs ≠ []) :
    (closestBy m cs x).1 < cs.length := by
  obtain ⟨c, hc, _⟩ := closestBy_spec m cs x h
  exact (List.getElem?_eq_some_iff.mp hc).1

end

end Field

section Order
variable {α : Type} [Field α] [LinearOrder α]

/-! ### the trace of a history -/

/-- the state after a list of batches (what `fit_with` hands to the next call, `Ok` or
`Err(NotConverged(model))` alike) -/
def kmStateAfter [Transc α] (m : Metric) (tol : α) (st : KState α) (hist : List (List (List α))) :
    KState α :=
  hist.foldl (fun s b => (kmStepBy m tol s b).1) st

theorem kmRunBy_length [Transc α] (m : Metric) (tol : α) (hist : List (List (List α)))
    (st : KState α) : (kmRunBy m tol st hist).length = hist.length := by
  induction hist generalizing st with
  | nil => rfl
  | cons b rest ih => exact congrArg (· + 1) (ih _)

theorem kmRunBy_append [Transc α] (m : Metric) (tol : α) (h1 h2 : List (List (List α)))
    (st : KState α) : kmRunBy m tol st (h1 ++ h2) =
      kmRunBy m tol st h1 ++ kmRunBy m tol (kmStateAfter m tol st h1) h2 := by
  induction h1 generalizing st with
  | nil => rfl
  | cons b rest ih => exact congrArg (_ :: ·) (ih _)

/-- the caller's loop of mini-batch k-means is the trace from the incoming model (`None` = the
precomputed centroids with zero counts) -/
theorem kmFitHistory_eq_run [Transc α] (m : Metric) (tol : α) (c0 : List (List α))
    (hist : List (List (List α))) (model : Option (KState α)) :
    kmFitHistory m tol c0 model hist = kmRunBy m tol (model.getD (kmFresh c0)) hist := by
  induction hist generalizing model with
  | nil => rfl
  | cons b rest ih => exact congrArg (_ :: ·) (ih _)

end Order

section Field
variable {α : Type} [Field α] [LinearOrder α] [IsStrictOrderedRing α]

/-! ### cumulative counts add up to the rows fed -/

theorem sumS_set (l : List α) (i : Nat) (v : α) (hi : i < l.length) :
    sumS (l.set i v) = sumS l - l.getD i 0 + v := by
  induction l generalizing i with
  | nil => exact absurd hi (Nat.not_lt_zero _)
  | cons x rest ih =>
    cases i with
    | zero => simp only [List.set_cons_zero, sumS_cons, List.getD_cons_zero]; ring
    | succ i =>
      simp only [List.set_cons_succ, sumS_cons, ih i (Nat.lt_of_succ_lt_succ hi), List.getD_cons_succ]
      ring

theorem kmAddPoint_total (st : KState α) (x : List α) (c : Nat) (hc : c < st.counts.length) :
    sumS (kmAddPoint st x c).counts = sumS st.counts + 1 := by
  simp only [kmAddPoint]
  rw [sumS_set _ _ _ hc]; ring

/-- `compute_centroids_incremental` keeps the shapes and counts every row once -/
theorem kmIncr_total (pairs : List (List α × Nat)) (st : KState α)
    (h : ∀ xm ∈ pairs, xm.2 < st.counts.length) :
    (pairs.foldl (fun s xc => kmAddPoint s xc.1 xc.2) st).centroids.length = st.centroids.length ∧
    (pairs.foldl (fun s xc => kmAddPoint s xc.1 xc.2) st).counts.length = st.counts.length ∧
    sumS (pairs.foldl (fun s xc => kmAddPoint s xc.1 xc.2) st).counts =
      sumS st.counts + (pairs.length : α) := by
  induction pairs generalizing st with
  | nil => exact ⟨rfl, rfl, by rw [List.length_nil, Nat.cast_zero, add_zero]; rfl⟩
  | cons xm rest ih =>
    obtain ⟨l1, l2⟩ := kmAddPoint_lengths st xm.1 xm.2
    obtain ⟨h1, h2, h3⟩ := ih (kmAddPoint st xm.1 xm.2)
      fun ym hym => l2 ▸ h ym (List.mem_cons_of_mem _ hym)
    refine ⟨h1.trans l1, h2.trans l2, h3.trans ?_⟩
    rw [kmAddPoint_total st xm.1 xm.2 (h xm List.mem_cons_self), List.length_cons, Nat.cast_succ]
    ring

theorem kmStepBy_total [Transc α] (m : Metric) (tol : α) (st : KState α) (obs : List (List α))
    (hne : st.centroids ≠ []) (hk : st.counts.length = st.centroids.length) :
    (kmStepBy m tol st obs).1.centroids.length = st.centroids.length ∧
    (kmStepBy m tol st obs).1.counts.length = st.counts.length ∧
    sumS (kmStepBy m tol st obs).1.counts = sumS st.counts + (obs.length : α) := by
  have := kmIncr_total (obs.zip (kmAssignBy m st.centroids obs)) st (by
    intro xm hxm
    obtain ⟨y, _, hy⟩ := List.mem_map.mp (List.of_mem_zip hxm).2
    rw [hk, ← hy]
    exact closestBy_idx_lt m st.centroids y hne)
  rwa [List.length_zip, kmAssignBy, List.length_map, Nat.min_self] at this

end Field
end LinfaSpec.Incremental
