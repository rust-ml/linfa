import LinfaSpec.Proofs.Metrics
import Mathlib.Tactic.NormNum

/-!
ROC curve and AUC.  On a sorted sample list with separated scores a step of the loop (`rocStep_eq`)
opens a group above every earlier score or stays in the group of the largest (`fresh_or_same`);
`RocShape` describes the state after a sorted prefix, `RocArea` ties the area to the Mann-Whitney count.
-/
namespace LinfaSpec.Metrics
open LinfaSpec

theorem exists_mem_snoc {β : Type} {p : β → Prop} {l : List β} {x : β} :
    (∃ y ∈ l ++ [x], p y) ↔ (∃ y ∈ l, p y) ∨ p x := by
  simp only [List.mem_append, List.mem_singleton, or_and_right, exists_or, exists_eq_left]

section Sums
variable {α : Type} [Field α]

theorem trapezoid_snoc (c : List (α × α)) (p q : α × α) :
    trapezoid (c ++ [p, q]) = trapezoid (c ++ [p]) + (q.1 - p.1) * (p.2 + q.2) / 2 := by
  cases c with
  | nil => rfl
  | cons p0 r =>
    simp only [trapezoid, List.cons_append, List.foldl_append, List.foldl_cons, List.foldl_nil]

theorem trapezoid_scale (a b : α) (c : List (α × α)) :
    trapezoid (c.map fun p => (p.1 / a, p.2 / b)) = trapezoid c / (a * b) := by
  induction c using List.reverseRecOn with
  | nil => simp [trapezoid]
  | append_singleton c q ih =>
    rcases List.eq_nil_or_concat c with rfl | ⟨c, p, rfl⟩
    · simp [trapezoid]
    · rw [List.concat_eq_append] at ih ⊢
      rw [List.map_append, List.map_cons, List.map_nil] at ih
      rw [List.append_assoc, List.singleton_append, List.map_append, List.map_cons, List.map_cons, List.map_nil,
        trapezoid_snoc, trapezoid_snoc, ih]
      ring

/-- sum of `f score` over the positives / the negatives of a sample list -/
def posSum (l : List (α × Bool)) (f : α → α) : α := (l.map fun p => if p.2 then f p.1 else 0).sum
def negSum (l : List (α × Bool)) (f : α → α) : α := (l.map fun p => if p.2 then 0 else f p.1).sum

theorem posSum_cons (x : α × Bool) (l : List (α × Bool)) (f : α → α) :
    posSum (x :: l) f = (if x.2 then f x.1 else 0) + posSum l f := by
  simp [posSum]

theorem negSum_cons (x : α × Bool) (l : List (α × Bool)) (f : α → α) :
    negSum (x :: l) f = (if x.2 then 0 else f x.1) + negSum l f := by
  simp [negSum]

theorem posSum_snoc (l : List (α × Bool)) (x : α × Bool) (f : α → α) :
    posSum (l ++ [x]) f = posSum l f + if x.2 then f x.1 else 0 := by
  simp [posSum]

theorem negSum_snoc (l : List (α × Bool)) (x : α × Bool) (f : α → α) :
    negSum (l ++ [x]) f = negSum l f + if x.2 then 0 else f x.1 := by
  simp [negSum]

theorem posSum_add (l : List (α × Bool)) (f g : α → α) :
    posSum l (fun s => f s + g s) = posSum l f + posSum l g := by
  unfold posSum
  rw [← List.sum_map_add]
  congr 2
  funext p
  split
  · rfl
  · rw [add_zero]

theorem negSum_add (l : List (α × Bool)) (f g : α → α) :
    negSum l (fun s => f s + g s) = negSum l f + negSum l g := by
  unfold negSum
  rw [← List.sum_map_add]
  congr 2
  funext p
  split
  · rw [add_zero]
  · rfl

theorem posSum_congr (l : List (α × Bool)) (f g : α → α) (h : ∀ x ∈ l, f x.1 = g x.1) :
    posSum l f = posSum l g :=
  congrArg List.sum (List.map_congr_left fun x hx => by rw [h x hx])

theorem negSum_congr (l : List (α × Bool)) (f g : α → α) (h : ∀ x ∈ l, f x.1 = g x.1) :
    negSum l f = negSum l g :=
  congrArg List.sum (List.map_congr_left fun x hx => by rw [h x hx])

theorem posSum_zero (l : List (α × Bool)) : posSum l (fun _ => 0) = 0 := by
  simp [posSum]

theorem posSum_perm {l l' : List (α × Bool)} (h : l.Perm l') (f : α → α) : posSum l f = posSum l' f :=
  (h.map _).sum_eq

theorem negSum_perm {l l' : List (α × Bool)} (h : l.Perm l') (f : α → α) : negSum l f = negSum l' f :=
  (h.map _).sum_eq

theorem countPos_eq (l : List (α × Bool)) : countPos l = posSum l fun _ => 1 := by
  simp [countPos, posSum, sumS_eq_sum]

theorem countNeg_eq (l : List (α × Bool)) : countNeg l = negSum l fun _ => 1 := by
  simp [countNeg, negSum, sumS_eq_sum]

theorem sum_ite_eq_length_filter {β : Type} (q : β → Bool) (l : List β) :
    (l.map fun y => if q y then (1 : α) else 0).sum = ((l.filter q).length : α) := by
  induction l with
  | nil => simp
  | cons y ys ih =>
    rw [List.map_cons, List.sum_cons, ih, List.filter_cons]
    cases q y
    · rw [if_neg Bool.false_ne_true, if_neg Bool.false_ne_true, zero_add]
    · rw [if_pos rfl, if_pos rfl, List.length_cons, Nat.cast_succ, add_comm]

end Sums

section Order
variable {α : Type} [LinearOrder α]

/-- componentwise order on curve points -/
def le2 (p q : α × α) : Prop := p.1 ≤ q.1 ∧ p.2 ≤ q.2

theorem pairwise_snoc_le2 (l : List (α × α)) (p q : α × α) (h : (l ++ [p]).Pairwise le2) (hpq : le2 p q) :
    (l ++ [q]).Pairwise le2 ∧ (l ++ [p] ++ [q]).Pairwise le2 := by
  obtain ⟨hl, _, hlp⟩ := List.pairwise_append.mp h
  have hlq : ∀ a ∈ l, le2 a q := fun a ha =>
    have hap := hlp a ha p List.mem_cons_self
    ⟨le_trans hap.1 hpq.1, le_trans hap.2 hpq.2⟩
  refine ⟨List.pairwise_append.mpr ⟨hl, List.pairwise_singleton _ _, fun a ha b hb => ?_⟩,
    List.pairwise_append.mpr ⟨h, List.pairwise_singleton _ _, fun a ha b hb => ?_⟩⟩
  · exact List.mem_singleton.mp hb ▸ hlq a ha
  · rw [List.mem_singleton.mp hb]
    rcases List.mem_append.mp ha with ha | ha
    · exact hlq a ha
    · exact List.mem_singleton.mp ha ▸ hpq

theorem insertByScore_eq (x : α × Bool) (l : List (α × Bool)) :
    insertByScore x l = l.orderedInsert (fun a b => a.1 < b.1) x := by
  induction l with
  | nil => rfl
  | cons y ys ih => rw [insertByScore, ih, List.orderedInsert_cons]

theorem sortByScore_eq (l : List (α × Bool)) : sortByScore l = l.insertionSort fun a b => a.1 < b.1 := by
  induction l with
  | nil => rfl
  | cons x xs ih => rw [List.insertionSort_cons, ← ih, ← insertByScore_eq]; rfl

theorem perm_sortByScore (l : List (α × Bool)) : (sortByScore l).Perm l := by
  rw [sortByScore_eq]; exact List.perm_insertionSort _ l

theorem sorted_sortByScore (l : List (α × Bool)) : (sortByScore l).Pairwise fun a b => a.1 ≤ b.1 := by
  rw [sortByScore_eq]; exact pairwise_insertionSort_lt Prod.fst l

/-- number of samples of class `pos` scored strictly below `s` (all samples of the class for `none`) -/
def nBelow (l : List (α × Bool)) (pos : Bool) (s : Option α) : Nat :=
  (l.filter fun y => (y.2 == pos) && (match s with | none => true | some s => decide (y.1 < s))).length

theorem nBelow_perm {l l' : List (α × Bool)} (h : l.Perm l') (pos : Bool) (s : Option α) :
    nBelow l pos s = nBelow l' pos s := (h.filter _).length_eq

end Order

section Loop
variable {α : Type} [Field α] [LinearOrder α]

theorem mwCount2_eq (l : List (α × Bool)) :
    mwCount2 l = posSum l fun s => negSum l fun t => mwWeight t s := by
  simp [mwCount2, posSum, negSum, sumS_eq_sum]

/-- appending a sample adds its pairs with the earlier samples of the other class -/
theorem mwCount2_snoc (l : List (α × Bool)) (x : α × Bool) :
    mwCount2 (l ++ [x]) = mwCount2 l +
      if x.2 then negSum l (fun t => mwWeight t x.1) else posSum l (fun s => mwWeight x.1 s) := by
  rw [mwCount2_eq, mwCount2_eq]
  have : (fun s => negSum (l ++ [x]) fun t => mwWeight t s) =
      fun s => (negSum l fun t => mwWeight t s) + (if x.2 then 0 else mwWeight x.1 s) := by
    funext s; rw [negSum_snoc]
  rw [this, posSum_add, posSum_snoc, posSum_snoc]
  cases hx : x.2 <;> simp [posSum_zero]

theorem mannWhitney_perm {l l' : List (α × Bool)} (h : l.Perm l') : mannWhitney l = mannWhitney l' := by
  have hw : mwCount2 l = mwCount2 l' := by
    rw [mwCount2_eq, mwCount2_eq, posSum_perm h]
    congr 1
    funext s
    exact negSum_perm h _
  unfold mannWhitney
  rw [hw, countPos_eq, countPos_eq, countNeg_eq, countNeg_eq, posSum_perm h, negSum_perm h]

/-- indicator of `t < s` as a scalar -/
def ltInd (s t : α) : α := if t < s then 1 else 0

/-- the raw curve point of threshold `s`: positives and negatives of `l` scored strictly below `s` -/
def belowPt (l : List (α × Bool)) (s : α) : α × α := (posSum l (ltInd s), negSum l (ltInd s))

theorem belowPt_snoc_of_le (l : List (α × Bool)) (x : α × Bool) (s : α) (h : s ≤ x.1) :
    belowPt (l ++ [x]) s = belowPt l s := by
  unfold belowPt
  rw [posSum_snoc, negSum_snoc]
  have : ltInd s x.1 = 0 := if_neg (not_lt.mpr h)
  simp only [this, ite_self, add_zero]

theorem belowPt_of_lt (l : List (α × Bool)) (s : α) (h : ∀ y ∈ l, y.1 < s) :
    belowPt l s = (posSum l (fun _ => 1), negSum l (fun _ => 1)) := by
  unfold belowPt
  have h1 : ∀ y ∈ l, ltInd s y.1 = (fun _ => (1 : α)) y.1 := fun y hy => if_pos (h y hy)
  rw [posSum_congr l _ (fun _ => 1) h1, negSum_congr l _ (fun _ => 1) h1]

/-- a positive sample scored `s`, no earlier score above `s`: every earlier negative weighs 2 if it is
below `s` and 1 if it ties -/
theorem negSum_mwWeight_max (l : List (α × Bool)) (s : α) (hall : ∀ y ∈ l, y.1 ≤ s) :
    negSum l (fun t => mwWeight t s) = negSum l (fun _ => 1) + negSum l (ltInd s) := by
  rw [← negSum_add]
  apply negSum_congr
  intro y hy
  unfold mwWeight ltInd
  by_cases hlt : y.1 < s
  · rw [if_pos hlt, if_pos hlt]; norm_num
  · rw [if_neg hlt, if_neg hlt, if_neg (not_lt.mpr (hall y hy)), add_zero]

/-- a negative sample scored `s`, no earlier score above `s`: an earlier positive weighs 1 if it ties
and 0 if it is below `s` -/
theorem posSum_mwWeight_max (l : List (α × Bool)) (s : α) (hall : ∀ y ∈ l, y.1 ≤ s) :
    posSum l (fun p => mwWeight s p) + posSum l (ltInd s) = posSum l (fun _ => 1) := by
  rw [← posSum_add]
  apply posSum_congr
  intro y hy
  unfold mwWeight ltInd
  rw [if_neg (not_lt.mpr (hall y hy))]
  by_cases hlt : y.1 < s
  · rw [if_pos hlt, if_pos hlt, zero_add]
  · rw [if_neg hlt, if_neg hlt, add_zero]

theorem rocStep_eq (eps : α) (st : RocState α) (x : α × Bool) :
    rocStep eps st x =
      { tp := st.tp + (if x.2 then 1 else 0), fp := st.fp + (if x.2 then 0 else 1),
        s0 := if isFresh eps st.s0 x.1 then some x.1 else st.s0,
        pts := if isFresh eps st.s0 x.1 then st.pts ++ [(st.tp, st.fp)] else st.pts,
        thr := if isFresh eps st.s0 x.1 then st.thr ++ [x.1] else st.thr } := by
  unfold rocStep
  cases x.2 <;> cases isFresh eps st.s0 x.1 <;> simp

theorem rocFold_counts (eps : α) (l : List (α × Bool)) (st : RocState α) :
    (l.foldl (rocStep eps) st).tp = st.tp + posSum l (fun _ => 1) ∧
    (l.foldl (rocStep eps) st).fp = st.fp + negSum l (fun _ => 1) := by
  induction l generalizing st with
  | nil => exact ⟨(add_zero _).symm, (add_zero _).symm⟩
  | cons x xs ih =>
    obtain ⟨h1, h2⟩ := ih (rocStep eps st x)
    rw [List.foldl_cons, h1, h2, rocStep_eq, posSum_cons, negSum_cons]
    exact ⟨add_assoc _ _ _, add_assoc _ _ _⟩

/-- the curve starts at the origin: the first step opens a group at `(0, 0)` and later steps only
append -/
theorem rocFold_head (eps : α) (l : List (α × Bool)) (st : RocState α)
    (h : st.pts.head? = some (0, 0) ∨ (st.pts = [] ∧ st.s0 = none ∧ st.tp = 0 ∧ st.fp = 0)) :
    ((l.foldl (rocStep eps) st).pts ++
      [((l.foldl (rocStep eps) st).tp, (l.foldl (rocStep eps) st).fp)]).head? = some (0, 0) := by
  induction l generalizing st with
  | nil =>
    rcases h with h | ⟨h1, -, h3, h4⟩
    · rw [List.foldl_nil, List.head?_append, h]; rfl
    · rw [List.foldl_nil, h1, h3, h4]; rfl
  | cons x xs ih =>
    refine ih _ (Or.inl ?_)
    rw [rocStep_eq]
    rcases h with h | ⟨h1, h2, h3, h4⟩
    · dsimp only
      split
      · rw [List.head?_append, h]; rfl
      · exact h
    · simp [h1, h2, h3, h4, isFresh]

/-- the loop state after the sorted prefix `pre`, described completely -/
structure RocShape (pre : List (α × Bool)) (st : RocState α) : Prop where
  tp_eq : st.tp = posSum pre fun _ => 1
  fp_eq : st.fp = negSum pre fun _ => 1
  thr_sorted : st.thr.Pairwise (· < ·)
  thr_mem : ∀ s, s ∈ st.thr ↔ ∃ y ∈ pre, y.1 = s
  pts_eq : st.pts = st.thr.map (belowPt pre)
  s0_max : match st.s0 with
    | none => pre = []
    | some s => (∃ y ∈ pre, y.1 = s) ∧ ∀ y ∈ pre, y.1 ≤ s

/-- the group marker is the last threshold, and twice the area under the raw curve is the
Mann-Whitney count of the prefix -/
structure RocArea (pre : List (α × Bool)) (st : RocState α) : Prop where
  last : st.thr.getLast? = st.s0
  area : 2 * trapezoid (st.pts ++ [(st.tp, st.fp)]) = mwCount2 pre

/-- `roc` on non-negative scores (nothing is filtered out): sort, loop, close the curve, normalise -/
theorem roc_eq_of_nonneg (eps : α) (s0 : Option α) (samples : List (α × Bool)) (hnn : ∀ x ∈ samples, 0 ≤ x.1) :
    roc eps s0 samples =
      let st := (sortByScore samples).foldl (rocStep eps) { tp := 0, fp := 0, s0 := s0, pts := [], thr := [] }
      ((st.pts ++ [(st.tp, st.fp)]).map fun p => (p.1 / st.tp, p.2 / st.fp), st.thr) := by
  have hf : samples.filter (fun x => decide ((0 : α) ≤ x.1)) = samples :=
    List.filter_eq_self.mpr (fun x hx => by simpa using hnn x hx)
  simp only [roc, rocRaw, hf]

theorem belowPt_eq (l : List (α × Bool)) (s : α) :
    belowPt l s = ((nBelow l true (some s) : α), (nBelow l false (some s) : α)) := by
  unfold belowPt nBelow posSum negSum
  rw [← sum_ite_eq_length_filter, ← sum_ite_eq_length_filter]
  congr 3 <;> funext y <;> cases y.2 <;> simp [ltInd]

theorem posSum_one_eq_nBelow (l : List (α × Bool)) :
    posSum l (fun _ => 1) = (nBelow l true none : α) ∧ negSum l (fun _ => 1) = (nBelow l false none : α) := by
  unfold nBelow posSum negSum
  rw [← sum_ite_eq_length_filter, ← sum_ite_eq_length_filter]
  constructor <;> congr 2 <;> funext y <;> cases y.2 <;> simp

theorem rocFold_sorted_counts (eps : α) (samples : List (α × Bool)) :
    ((sortByScore samples).foldl (rocStep eps) { tp := 0, fp := 0, s0 := none, pts := [], thr := [] }).tp =
      countPos samples ∧
    ((sortByScore samples).foldl (rocStep eps) { tp := 0, fp := 0, s0 := none, pts := [], thr := [] }).fp =
      countNeg samples := by
  have hperm := perm_sortByScore samples
  obtain ⟨htp, hfp⟩ := rocFold_counts eps (sortByScore samples) { tp := 0, fp := 0, s0 := none, pts := [], thr := [] }
  rw [zero_add, posSum_perm hperm, ← countPos_eq] at htp
  rw [zero_add, negSum_perm hperm, ← countNeg_eq] at hfp
  exact ⟨htp, hfp⟩

end Loop

section Roc
variable {α : Type} [Field α] [LinearOrder α] [IsStrictOrderedRing α]

theorem rocFold_mono (eps : α) (l : List (α × Bool)) (st : RocState α)
    (h : (st.pts ++ [(st.tp, st.fp)]).Pairwise le2) :
    ((l.foldl (rocStep eps) st).pts ++ [((l.foldl (rocStep eps) st).tp, (l.foldl (rocStep eps) st).fp)]).Pairwise le2 := by
  induction l generalizing st with
  | nil => exact h
  | cons x xs ih =>
    refine ih _ ?_
    have hpq : le2 (st.tp, st.fp) (st.tp + (if x.2 then 1 else 0), st.fp + (if x.2 then 0 else 1)) := by
      constructor <;> (apply le_add_of_nonneg_right; split <;> norm_num)
    rw [rocStep_eq]
    cases isFresh eps st.s0 x.1
    · exact (pairwise_snoc_le2 _ _ _ h hpq).1
    · exact (pairwise_snoc_le2 _ _ _ h hpq).2

/-- the next sample of a sorted list with separated scores either lies above every earlier score and
opens a group, or ties with the largest one and stays in its group -/
theorem fresh_or_same (eps : α) (heps : 0 ≤ eps) {pre : List (α × Bool)} {st : RocState α} {x : α × Bool}
    (h : RocShape pre st) (hle : ∀ y ∈ pre, y.1 ≤ x.1)
    (hsep : ∀ y ∈ pre, x.1 ≠ y.1 → eps < |x.1 - y.1|) :
    (isFresh eps st.s0 x.1 = true ∧ ∀ y ∈ pre, y.1 < x.1) ∨
      (isFresh eps st.s0 x.1 = false ∧ st.s0 = some x.1) := by
  have hm := h.s0_max
  cases hs0 : st.s0 with
  | none =>
    rw [hs0] at hm
    exact Or.inl ⟨rfl, by rw [hm]; simp⟩
  | some s =>
    rw [hs0] at hm
    obtain ⟨⟨y0, hy0, rfl⟩, hall⟩ := hm
    unfold isFresh
    simp only [absS_eq_abs]
    by_cases hxs : x.1 = y0.1
    · right
      rw [hxs, sub_self, abs_zero]
      exact ⟨decide_eq_false (not_lt.mpr heps), rfl⟩
    · left
      have hlt : y0.1 < x.1 := lt_of_le_of_ne (hle y0 hy0) (Ne.symm hxs)
      exact ⟨decide_eq_true (hsep y0 hy0 hxs), fun y hy => lt_of_le_of_lt (hall y hy) hlt⟩

theorem rocShape_step (eps : α) (heps : 0 ≤ eps) (pre : List (α × Bool)) (st : RocState α) (x : α × Bool)
    (h : RocShape pre st) (hle : ∀ y ∈ pre, y.1 ≤ x.1)
    (hsep : ∀ y ∈ pre, x.1 ≠ y.1 → eps < |x.1 - y.1|) :
    RocShape (pre ++ [x]) (rocStep eps st x) := by
  have hcase := fresh_or_same eps heps h hle hsep
  obtain ⟨htp, hfp, hsorted, hmem, hpts, hs0m⟩ := h
  -- the points of the old thresholds do not see the new sample
  have hmap : st.thr.map (belowPt pre) = st.thr.map (belowPt (pre ++ [x])) := by
    apply List.map_congr_left
    intro s hs
    obtain ⟨y, hy, rfl⟩ := (hmem s).mp hs
    exact (belowPt_snoc_of_le pre x y.1 (hle y hy)).symm
  have hmax : ∀ y ∈ pre ++ [x], y.1 ≤ x.1 := fun y hy =>
    (List.mem_append.mp hy).elim (hle y) (fun hy => by rw [List.mem_singleton.mp hy])
  rw [rocStep_eq]
  rcases hcase with ⟨hf, hlt⟩ | ⟨hf, hs0⟩
  · -- a new group: `x.1` is a new largest threshold, its point counts the whole prefix
    simp only [hf, if_true]
    exact
      { tp_eq := by rw [htp, posSum_snoc]
        fp_eq := by rw [hfp, negSum_snoc]
        thr_sorted := by
          refine List.pairwise_append.mpr ⟨hsorted, List.pairwise_singleton _ _, fun a ha b hb => ?_⟩
          obtain ⟨y, hy, rfl⟩ := (hmem a).mp ha
          rw [List.mem_singleton.mp hb]
          exact hlt y hy
        thr_mem := fun s => by
          rw [List.mem_append, List.mem_singleton, hmem s, exists_mem_snoc, eq_comm]
        pts_eq := by
          rw [List.map_append, ← hmap, ← hpts, List.map_singleton, belowPt_snoc_of_le pre x x.1 le_rfl,
            belowPt_of_lt pre x.1 hlt, htp, hfp]
        s0_max := ⟨⟨x, by simp, rfl⟩, hmax⟩ }
  · -- the group of the largest score: thresholds and points stay, `x.1` is already a threshold
    simp only [hf, Bool.false_eq_true, if_false]
    rw [hs0] at hs0m
    exact
      { tp_eq := by rw [htp, posSum_snoc]
        fp_eq := by rw [hfp, negSum_snoc]
        thr_sorted := hsorted
        thr_mem := fun s => by
          rw [hmem s, exists_mem_snoc]
          exact ⟨Or.inl, fun hs => hs.elim id fun hxs => hxs ▸ hs0m.1⟩
        pts_eq := by rw [hpts, hmap]
        s0_max := by rw [hs0]; exact ⟨⟨x, by simp, rfl⟩, hmax⟩ }

/-- the area gained by one more sample, in variables: `T` the area up to the last pushed point
`(B1, B2)`, `(tp, fp)` the running totals, `W1` / `W2` the Mann-Whitney weight a positive / negative
sample adds -/
theorem area_step {T M tp fp B1 B2 W1 W2 : α} (b : Bool)
    (harea : 2 * (T + (tp - B1) * (B2 + fp) / 2) = M) (hw1 : W1 = fp + B2) (hw2 : W2 + B1 = tp) :
    2 * (T + (tp + (if b then 1 else 0) - B1) * (B2 + (fp + if b then 0 else 1)) / 2) =
      M + if b then W1 else W2 := by
  subst hw1 hw2 harea
  cases b
  · simp only [Bool.false_eq_true, if_false]; ring
  · simp only [if_true]; ring

theorem rocArea_step (eps : α) (heps : 0 ≤ eps) (pre : List (α × Bool)) (st : RocState α) (x : α × Bool)
    (h : RocShape pre st) (ha : RocArea pre st) (hle : ∀ y ∈ pre, y.1 ≤ x.1)
    (hsep : ∀ y ∈ pre, x.1 ≠ y.1 → eps < |x.1 - y.1|) :
    RocArea (pre ++ [x]) (rocStep eps st x) := by
  obtain ⟨hlast, harea⟩ := ha
  have hw1 := negSum_mwWeight_max pre x.1 hle
  have hw2 := posSum_mwWeight_max pre x.1 hle
  rw [← h.fp_eq] at hw1
  rw [← h.tp_eq] at hw2
  rw [rocStep_eq]
  rcases fresh_or_same eps heps h hle hsep with ⟨hf, hlt⟩ | ⟨hf, hs0⟩
  all_goals simp only [hf, if_true, Bool.false_eq_true, if_false]
  · -- a new group: the pushed point `(tp, fp)` is `belowPt pre x.1`
    refine ⟨List.getLast?_concat, ?_⟩
    have hb := belowPt_of_lt pre x.1 hlt
    rw [← h.tp_eq, ← h.fp_eq, belowPt, Prod.mk.injEq] at hb
    rw [hb.1] at hw2
    rw [hb.2] at hw1
    rw [List.append_assoc, List.singleton_append, trapezoid_snoc, mwCount2_snoc]
    refine area_step x.2 ?_ hw1 hw2
    rw [sub_self, zero_mul, zero_div, add_zero]
    exact harea
  · -- the group of the largest score `x.1`: the last pushed point is `belowPt pre x.1`
    refine ⟨by rw [hlast, hs0], ?_⟩
    rw [hs0] at hlast
    obtain ⟨t, ht⟩ := List.getLast?_eq_some_iff.mp hlast
    rw [h.pts_eq, ht, List.map_append, List.map_singleton, List.append_assoc, List.singleton_append,
      trapezoid_snoc] at harea ⊢
    rw [mwCount2_snoc]
    exact area_step x.2 harea hw1 hw2

theorem rocInv_foldl (eps : α) (heps : 0 ≤ eps) (l : List (α × Bool))
    (hsorted : l.Pairwise fun a b => a.1 ≤ b.1)
    (hsep : ∀ x ∈ l, ∀ y ∈ l, x.1 ≠ y.1 → eps < |x.1 - y.1|) :
    RocShape l (l.foldl (rocStep eps) { tp := 0, fp := 0, s0 := none, pts := [], thr := [] }) ∧
    RocArea l (l.foldl (rocStep eps) { tp := 0, fp := 0, s0 := none, pts := [], thr := [] }) := by
  induction l using List.reverseRecOn with
  | nil =>
    exact ⟨⟨by simp [posSum], by simp [negSum], by simp, by simp, by simp, by simp⟩,
      rfl, by simp [trapezoid, mwCount2_eq, posSum]⟩
  | append_singleton pre x ih =>
    rw [List.foldl_append]
    simp only [List.foldl_cons, List.foldl_nil]
    have hs := List.pairwise_append.mp hsorted
    obtain ⟨ih1, ih2⟩ := ih hs.1 (fun a ha b hb => hsep a (by simp [ha]) b (by simp [hb]))
    have hle : ∀ y ∈ pre, y.1 ≤ x.1 := fun y hy => hs.2.2 y hy x (by simp)
    have hsx : ∀ y ∈ pre, x.1 ≠ y.1 → eps < |x.1 - y.1| := fun y hy => hsep x (by simp) y (by simp [hy])
    exact ⟨rocShape_step eps heps pre _ x ih1 hle hsx, rocArea_step eps heps pre _ x ih1 ih2 hle hsx⟩

/-- the description holds after the whole loop, for every sorted sample list whose distinct scores
are further apart than the grouping threshold -/
theorem rocShape_foldl (eps : α) (heps : 0 ≤ eps) (l : List (α × Bool))
    (hsorted : l.Pairwise fun a b => a.1 ≤ b.1)
    (hsep : ∀ x ∈ l, ∀ y ∈ l, x.1 ≠ y.1 → eps < |x.1 - y.1|) :
    RocShape l (l.foldl (rocStep eps) { tp := 0, fp := 0, s0 := none, pts := [], thr := [] }) :=
  (rocInv_foldl eps heps l hsorted hsep).1

/-- with threshold 0 (the repaired group test `s != s0`) distinct scores are always separated -/
theorem sep_zero (samples : List (α × Bool)) :
    ∀ x ∈ samples, ∀ y ∈ samples, x.1 ≠ y.1 → (0 : α) < |x.1 - y.1| :=
  fun _ _ _ _ h => abs_pos.mpr (sub_ne_zero.mpr h)

theorem rocInv_sorted (eps : α) (heps : 0 ≤ eps) (samples : List (α × Bool))
    (hsep : ∀ x ∈ samples, ∀ y ∈ samples, x.1 ≠ y.1 → eps < |x.1 - y.1|) :
    RocShape (sortByScore samples)
      ((sortByScore samples).foldl (rocStep eps) { tp := 0, fp := 0, s0 := none, pts := [], thr := [] }) ∧
    RocArea (sortByScore samples)
      ((sortByScore samples).foldl (rocStep eps) { tp := 0, fp := 0, s0 := none, pts := [], thr := [] }) :=
  have hperm := perm_sortByScore samples
  rocInv_foldl eps heps (sortByScore samples) (sorted_sortByScore samples)
    (fun x hx y hy => hsep x (hperm.mem_iff.mp hx) y (hperm.mem_iff.mp hy))

/-- **the ROC curve is monotone**, for every score vector, grouping threshold and initial marker: the
raw points only grow along the loop and the totals they are divided by are not negative -/
theorem roc_pairwise_le (eps : α) (s0 : Option α) (samples : List (α × Bool)) :
    (roc eps s0 samples).1.Pairwise fun p q => p.1 ≤ q.1 ∧ p.2 ≤ q.2 := by
  simp only [roc, rocRaw]
  generalize sortByScore (samples.filter fun x => decide ((0 : α) ≤ x.1)) = l
  obtain ⟨htp, hfp⟩ := rocFold_counts eps l { tp := 0, fp := 0, s0 := s0, pts := [], thr := [] }
  have hmono := rocFold_mono eps l { tp := 0, fp := 0, s0 := s0, pts := [], thr := [] }
    (List.pairwise_singleton _ _)
  have h1 : 0 ≤ (l.foldl (rocStep eps) { tp := 0, fp := 0, s0 := s0, pts := [], thr := [] }).tp := by
    rw [htp, zero_add, (posSum_one_eq_nBelow l).1]; exact Nat.cast_nonneg _
  have h2 : 0 ≤ (l.foldl (rocStep eps) { tp := 0, fp := 0, s0 := s0, pts := [], thr := [] }).fp := by
    rw [hfp, zero_add, (posSum_one_eq_nBelow l).2]; exact Nat.cast_nonneg _
  exact List.Pairwise.map _ (fun a b hab =>
    ⟨div_le_div_of_nonneg_right hab.1 h1, div_le_div_of_nonneg_right hab.2 h2⟩) hmono

/-- **the ROC curve and its thresholds, spelled out**: the thresholds are the distinct scores in
increasing order; the curve has one point per threshold `s` — the fraction of positives and of
negatives scored strictly below `s` — followed by `(P/P, N/N)` -/
theorem roc_shape (eps : α) (heps : 0 ≤ eps) (samples : List (α × Bool))
    (hnn : ∀ x ∈ samples, 0 ≤ x.1)
    (hsep : ∀ x ∈ samples, ∀ y ∈ samples, x.1 ≠ y.1 → eps < |x.1 - y.1|) :
    ∃ thr : List α, thr.Pairwise (· < ·) ∧ (∀ s, s ∈ thr ↔ ∃ y ∈ samples, y.1 = s) ∧
      (roc eps none samples).2 = thr ∧
      (roc eps none samples).1 =
        (thr.map fun s => ((nBelow samples true (some s) : α) / (nBelow samples true none : α),
                           (nBelow samples false (some s) : α) / (nBelow samples false none : α))) ++
        [((nBelow samples true none : α) / (nBelow samples true none : α),
          (nBelow samples false none : α) / (nBelow samples false none : α))] := by
  have hperm := perm_sortByScore samples
  obtain ⟨htp, hfp, hsorted, hmem, hpts, _⟩ := (rocInv_sorted eps heps samples hsep).1
  have ht := posSum_one_eq_nBelow (sortByScore samples)
  rw [nBelow_perm hperm, nBelow_perm hperm] at ht
  rw [roc_eq_of_nonneg eps none samples hnn]
  refine ⟨_, hsorted, fun s => ?_, rfl, ?_⟩
  · rw [hmem s]
    constructor
    · rintro ⟨y, hy, hys⟩; exact ⟨y, hperm.mem_iff.mp hy, hys⟩
    · rintro ⟨y, hy, hys⟩; exact ⟨y, hperm.mem_iff.mpr hy, hys⟩
  · simp only
    rw [hpts, htp, hfp, ht.1, ht.2, List.map_append, List.map_map]
    congr 1
    apply List.map_congr_left
    intro s _
    simp only [Function.comp, belowPt_eq, nBelow_perm hperm]

end Roc
end LinfaSpec.Metrics
