import LinfaSpec.Proofs.TreeSweep
import LinfaSpec.Proofs.TreeRoute

/-!
# C14 — decision trees are well-formed, honour their limits and predict leaf majorities

`fit P D ord p = some t`: the call returns the tree `t` (no `assert!` fired).  `ord` is the hash map's
iteration order; every statement holds for every order, and `fit_order_irrelevant` shows the tree does
not depend on it.  The theorems of `section generic` hold for the bare operation classes of the model; those
under `Guards` are over ordered fields and assume `min_weight_leaf > 0` and class indices `< K`.
`ForallSplits` / `ForallLeaves`: the predicate holds at every split node / leaf *with the set of training
rows that reach it* when each split sends `value <= split` to the left.
-/
set_option linter.unusedSectionVars false
set_option linter.unusedVariables false
namespace LinfaSpec.Props.C14
open LinfaSpec LinfaSpec.Tree

section generic
variable {α β : Type}
variable [Add α] [Sub α] [Div α] [Neg α] [LT α] [DecidableLT α] [LE α] [DecidableLE α]
  [OfNat α 0] [NatCast α]
variable [Add β] [Sub β] [Mul β] [Div β] [Neg β] [LT β] [DecidableLT β]
  [OfNat β 0] [OfNat β 1] [NatCast β]

theorem fit_inv (P : Params α β) (D : Data α β) (ord : List Nat → List Nat) (p : Nat) (t : Tree.Tree α)
    (h : fit P D ord p = some t) :
    ∃ u, fitNode P D ord (sortedAll D p) (fitFuel P D) (allMask D) 0 = some u ∧ t = (prune u).1 :=
  (fit_eq_some P D ord p t).mp h

/-- **no node is deeper than `max_depth`**, every `depth` field is the node's true depth, and a
split node lies strictly above `max_depth` (so `max_depth = 0` gives a single leaf) -/
theorem depth_le_max (P : Params α β) (D : Data α β) (ord : List Nat → List Nat) (p : Nat) (t : Tree.Tree α)
    (h : fit P D ord p = some t) : DepthOK P.maxDepth 0 t := by
  obtain ⟨u, hu, rfl⟩ := fit_inv P D ord p t h
  exact prune_depthOK _ _ _ (fitNode_depthOK P D ord _ _ _ _ _ (length_allMask D) hu fun m _ => Nat.zero_le m)

/-- **every split node was reached by at least `min_weight_split` training rows** (the code
compares the number of rows, cast to `f32`) -/
theorem split_min_samples (P : Params α β) (D : Data α β) (ord : List Nat → List Nat) (p : Nat) (t : Tree.Tree α)
    (h : fit P D ord p = some t) :
    ForallSplits D (fun m _ _ _ => ¬ (((rowsOf m).length : Nat) : β) < P.minSplit) (allMask D) t :=
  fit_forallSplits P D ord p t h _ fun _ depth _ _ hs => ((stopGuard_eq_false P _ depth).mp hs.guard).1

/-- **every split node reports an impurity decrease that is not below
`min_impurity_decrease`** -/
theorem decrease_ge_min (P : Params α β) (D : Data α β) (ord : List Nat → List Nat) (p : Nat) (t : Tree.Tree α)
    (h : fit P D ord p = some t) :
    ForallSplits D (fun _ _ _ dec => ¬ dec < P.minDec) (allMask D) t :=
  fit_forallSplits P D ord p t h _ fun _ _ _ _ hs => hs.dec

/-- **both sides of a split that stays a split node received rows** -/
theorem split_sides_nonempty (P : Params α β) (D : Data α β) (ord : List Nat → List Nat) (p : Nat) (t : Tree.Tree α)
    (h : fit P D ord p = some t) :
    ForallSplits D (fun m f s _ => (rowsOf (leftMask D m f s)).isEmpty = false ∧
      (rowsOf (rightMask D m f s)).isEmpty = false) (allMask D) t :=
  fit_forallSplits P D ord p t h _ fun _ _ _ _ hs => ⟨hs.left, hs.right⟩

/-- the split a node reports is the best candidate of the sweep (first of the minimal scores,
features outer, sorted positions inner) and the reported decrease is
`cast(impurity(parent)) - cast(best score)`; no hypothesis on the scalars.  That the score is the
weighted impurity of the applied partition is `reported_decrease_is_actual` below. -/
theorem reported_split_is_best_candidate (P : Params α β) (D : Data α β) (ord : List Nat → List Nat)
    (p : Nat) (t : Tree.Tree α) (h : fit P D ord p = some t) :
    ForallSplits D (fun m f s dec => ∃ b,
      pickBest (candidates P D (sortedAll D p) m (freqOf D (rowsOf m))) = some b ∧
      f = b.feat ∧ s = b.split ∧
      dec = P.cast (impurity P (inLabelOrder D (freqOf D (rowsOf m)))) - P.cast b.score) (allMask D) t :=
  fit_forallSplits P D ord p t h _ fun _ _ b _ hs => ⟨b, hs.best, rfl, rfl, rfl⟩

/-- every candidate the sweep evaluates has at least `min_weight_leaf` on both sides (in the
loop's running weights) -/
theorem sweep_cand_minLeaf (P : Params α β) (D : Data α β) (mask : List Bool) (f : Nat) (total : β) :
    ∀ (s : List (Nat × α)) (fL fR : List β) (wL wR : β) (c : Cand α β),
      c ∈ sweepGo P D mask f total fL fR wL wR s → ¬ c.wR < P.minLeaf ∧ ¬ c.wL < P.minLeaf := by
  intro s fL fR wL wR c hc
  obtain ⟨_, _, _, _, _, h⟩ := mem_sweepGo P D mask f total c s ⟨fL, fR, wL, wR⟩ hc
  exact not_or.mp h.minLeaf

/-- **prediction takes the route of fitting**: `make_prediction` makes the same comparison
(`value <= split`) at every node as `fit` used to distribute the rows, so every row — in
particular every training row — ends in the leaf it was assigned while fitting, and the
prediction is that leaf's -/
theorem routing_consistent (row : List α) (t : Tree.Tree α) :
    routePredict row t = routeFit row t ∧ predict row t = leafPred (follow (routeFit row t) t) :=
  ⟨routePredict_eq_routeFit row t, predict_eq_follow row t⟩

end generic

/-- each leaf of the *unpruned* tree predicts a maximal-weight class among the classes of its rows,
and that label occurs among them — for any linear order on the weights, no sign condition
(`leaf_predicts_a_mode` below is the statement for the fitted, pruned tree).  `hord`: the iteration
order lists exactly the keys of the map. -/
theorem unpruned_leaf_predicts_a_mode {α β : Type}
    [Add α] [Sub α] [Div α] [Neg α] [LT α] [DecidableLT α] [LE α] [DecidableLE α] [OfNat α 0] [NatCast α]
    [LinearOrder β] [Add β] [Sub β] [Mul β] [Div β] [Neg β] [OfNat β 0] [OfNat β 1] [NatCast β]
    (P : Params α β) (D : Data α β) (ord : List Nat → List Nat)
    (hord : ∀ l c, c ∈ ord l ↔ c ∈ l) (p : Nat) (u : Tree.Tree α)
    (hu : fitNode P D ord (sortedAll D p) (fitFuel P D) (allMask D) 0 = some u) (hno : NoHalf u) :
    ForallLeaves D (fun m pred =>
      (∃ i ∈ rowsOf m, D.y i = pred) ∧
      ∀ c ∈ presentClasses D (rowsOf m), classWeight D (rowsOf m) c ≤ classWeight D (rowsOf m) pred)
      (allMask D) u :=
  fitNode_forallLeaves P D ord _ _ (fun _ pred hm => modalOf_rows D ord hord _ pred hm) _ _ _ _
    (length_allMask D) hu

/-- **pruning keeps the mode**: `prune` merges two sibling leaves only when they predict the same
label `x`; if `x` has maximal weight among the rows of the left leaf (`wl`) and among those of the
right leaf (`wr`), it has maximal weight among the rows of the merged leaf (class weights add up
over the two disjoint row sets) -/
theorem prune_keeps_mode {β : Type} [LinearOrder β] [Add β] [AddLeftMono β] [AddRightMono β]
    (wl wr : Nat → β) (x : Nat)
    (hl : ∀ c, wl c ≤ wl x) (hr : ∀ c, wr c ≤ wr x) : ∀ c, wl c + wr c ≤ wl x + wr x :=
  fun c => add_le_add (hl c) (hr c)

/-! ### non-vacuity: a concrete fit that returns a tree with two split levels

(scalars `Int`, so that `decide` can evaluate the model in the kernel; `/` is integer division) -/

def exP : Params Int Int :=
  { entropy := false, maxDepth := some 2, minSplit := 2, minLeaf := 1, minDec := 1, eps := 1,
    log2 := fun x => x, cast := id }
def exD : Data Int Int := { xs := [[0], [2], [4], [6]], ys := [0, 0, 1, 1], ws := [], K := 2, lord := [0, 1] }
def exT : Tree.Tree Int := .node 0 1 1 0 0 (.leaf 0 1) (.node 0 3 1 1 1 (.leaf 0 2) (.leaf 1 2))

/-- hypothesis `fit P D ord p = some t` of `depth_le_max`, `split_min_samples`, `decrease_ge_min`,
`split_sides_nonempty`, `reported_split_is_best_candidate` -/
example : fit exP exD id 1 = some exT := by decide +kernel
/-- hypotheses of `unpruned_leaf_predicts_a_mode` -/
example : fitNode exP exD id (sortedAll exD 1) (fitFuel exP exD) (allMask exD) 0 = some exT ∧ NoHalf exT ∧
    (∀ (l : List Nat) c, c ∈ id l ↔ c ∈ l) :=
  ⟨by decide +kernel, ⟨trivial, trivial, trivial⟩, fun _ _ => Iff.rfl⟩
/-- the sweep of `sweep_cand_minLeaf` evaluates candidates -/
example : (candidates exP exD (sortedAll exD 1) (allMask exD) (freqOf exD [0, 1, 2, 3])).length = 3 := by decide +kernel
/-- `routing_consistent` on a row that sits on a threshold -/
example : routePredict [3] exT = [false, true] ∧ predict [3] exT = 0 := by decide +kernel
/-- `prune_keeps_mode`: weights (2,1) and (3,3), label 0 -/
example : ∀ c, (fun c => if c = 0 then (2 : Int) else 1) c + (fun _ => (3 : Int)) c ≤ 2 + 3 := by
  intro c; dsimp only; split <;> decide

/-! ## Full statements over ordered fields (sweep = applied partition) -/

section full
variable {α β : Type} [Field α] [LinearOrder α] [IsStrictOrderedRing α]
variable [Field β] [LinearOrder β] [IsStrictOrderedRing β]

/-- the guards under which the full statements hold: the literal `1e-5` of the equal-value skip is
positive, `min_weight_leaf` is positive (the statement's guard; `ParamGuard` does not check it),
class indices are `< K` and `lord` lists the class indices `0..K-1` (in the label type's order) -/
structure Guards (P : Params α β) (D : Data α β) : Prop where
  eps_pos : 0 < P.eps
  minLeaf_pos : 0 < P.minLeaf
  classes : ∀ r, D.y r < D.K
  lord : D.lord.Perm (List.range D.K)

/-- **every split node has two children and no leaf keeps one**: the fitted tree consists of
`leaf` and two-children `node` constructors only -/
theorem split_has_two_children (P : Params α β) (D : Data α β) (ord : List Nat → List Nat) (p : Nat)
    (t : Tree.Tree α) (g : Guards P D) (h : fit P D ord p = some t) : NoHalf t := by
  obtain ⟨u, hu, rfl⟩ := fit_inv P D ord p t h
  exact prune_noHalf u (fitNode_noHalf P D ord p g.eps_pos g.minLeaf_pos g.classes g.lord _ _ _ u
    (length_allMask D) hu)

/-- **each side of every split carries at least `min_weight_leaf` of training weight** — the
weights of the rows actually routed left (`value <= split`) and right, not the sweep's running
numbers -/
theorem split_min_leaf_weight (P : Params α β) (D : Data α β) (ord : List Nat → List Nat) (p : Nat)
    (t : Tree.Tree α) (g : Guards P D) (h : fit P D ord p = some t) :
    ForallSplits D (fun m f s _ =>
      ¬ rwS D (rowsOf (leftMask D m f s)) < P.minLeaf ∧
      ¬ rwS D (rowsOf (rightMask D m f s)) < P.minLeaf) (allMask D) t := by
  refine fit_forallSplits P D ord p t h _ fun mask _ b hlen hs => ?_
  have hspec := candidates_spec P D mask p g.eps_pos g.classes g.lord hlen b (pickBest_mem _ _ hs.best)
  exact ⟨hspec.wL ▸ hspec.minL, hspec.wR ▸ hspec.minR⟩

/-- **the reported impurity decrease is the actual decrease of the criterion for the applied
split**: impurity of the node's rows minus the weighted mean (by training weight) of the impurities
of the rows routed right (`value > split`) and left (`value <= split`) -/
theorem reported_decrease_is_actual (P : Params α β) (D : Data α β) (ord : List Nat → List Nat) (p : Nat)
    (t : Tree.Tree α) (g : Guards P D) (h : fit P D ord p = some t) :
    ForallSplits D (fun m f s dec =>
      let share := rwS D (rowsOf (rightMask D m f s)) / rwS D (rowsOf m)
      dec = P.cast (impurity P (inLabelOrder D (freqOf D (rowsOf m)))) -
        P.cast (share * impurity P (inLabelOrder D (freqOf D (rowsOf (rightMask D m f s)))) +
          (1 - share) * impurity P (inLabelOrder D (freqOf D (rowsOf (leftMask D m f s))))))
      (allMask D) t := by
  refine fit_forallSplits P D ord p t h _ fun mask _ b hlen hs => ?_
  have hspec := candidates_spec P D mask p g.eps_pos g.classes g.lord hlen b (pickBest_mem _ _ hs.best)
  simp only [decOf]
  rw [hspec.score, hspec.fL, hspec.fR, hspec.wR]

/-- **each leaf of the fitted (pruned) tree predicts a weighted most frequent label of the
training rows reaching it, and that label occurs among them** (so only labels seen in training are
predicted).  `hw`: sample weights are non-negative; `hord`: the iteration order lists the keys of
the map. -/
theorem leaf_predicts_a_mode (P : Params α β) (D : Data α β) (ord : List Nat → List Nat)
    (hord : ∀ l c, c ∈ ord l ↔ c ∈ l) (p : Nat) (t : Tree.Tree α) (g : Guards P D)
    (hw : ∀ i, 0 ≤ D.w i) (h : fit P D ord p = some t) :
    ForallLeaves D (IsMode D) (allMask D) t := by
  obtain ⟨u, hu, rfl⟩ := fit_inv P D ord p t h
  have hno : NoHalf u := fitNode_noHalf P D ord p g.eps_pos g.minLeaf_pos g.classes g.lord _ _ _ u
    (length_allMask D) hu
  exact (prune_forallLeaves_mode D u _ hno (fitNode_forallLeaves P D ord _ _
    (isMode_of_modal D ord hord g.classes hw) _ _ _ _ (length_allMask D) hu)).1

end full

section importance
variable {α β : Type} [Field α] [LinearOrder α] [IsStrictOrderedRing α]
variable [Field β] [LinearOrder β] [IsStrictOrderedRing β]

/-- **feature importances are non-negative and sum to one whenever the tree has a split**
(features in one ordered field, weights and impurities in another — the `F` / `f32` mix of the code —
with any `cast` between them; `min_impurity_decrease > 0` is the guard of `ParamGuard`) -/
theorem importances_nonneg_sum_one (P : Params α β) (D : Data α β) (ord : List Nat → List Nat) (p : Nat)
    (t : Tree.Tree α) (g : Guards P D) (hmd : 0 < P.minDec) (h : fit P D ord p = some t)
    (hsplit : ∃ f s dec pr d l r, t = Tree.Tree.node f s dec pr d l r) :
    (∀ x ∈ importances t p, 0 ≤ x) ∧ sumS (importances t p) = 1 := by
  have hdec : ForallSplits D (fun _ f _ dec => ¬ dec < P.minDec ∧ f < p) (allMask D) t :=
    fit_forallSplits P D ord p t h _ fun mask _ b hlen hs =>
      ⟨hs.dec, (candidates_spec P D mask p g.eps_pos g.classes g.lord hlen b (pickBest_mem _ _ hs.best)).feat_lt⟩
  refine importances_spec t p P.minDec hmd (fun n hn f s dec pr d l r he => ?_) hsplit
  obtain ⟨_, h1, h2⟩ := forallSplits_allNodes D _ t _ hdec f s dec pr d l r (he ▸ hn)
  exact ⟨not_lt.mp h1, h2⟩

/-- **`fit` returns a tree** for every non-empty labelled dataset under the guards: no `assert!` or
`unwrap` of `TreeNode::fit` fires and the recursion budget of the model (`fitFuel`) is never
exhausted — so the hypothesis `fit … = some t` of every other theorem is satisfied, none of them is
vacuous.  `0 < min_impurity_decrease` is what `ParamGuard` checks; `hord`: the hash map's iteration
order lists exactly its keys. -/
theorem fit_returns (P : Params α β) (D : Data α β) (ord : List Nat → List Nat)
    (hord : ∀ l c, c ∈ ord l ↔ c ∈ l) (p : Nat) (g : Guards P D) (hmd : 0 < P.minDec) (hn : 0 < D.n) :
    ∃ t, fit P D ord p = some t := by
  have hrows : rowsOf (allMask D) ≠ [] := List.ne_nil_of_mem ((mem_rowsOf_allMask D 0).mpr hn)
  have hlenr : (rowsOf (allMask D)).length ≤ D.n :=
    (List.length_filter_le _ _).trans (by rw [List.length_range, length_allMask])
  obtain ⟨u, hu⟩ := fitNode_returns P D ord p g.eps_pos g.minLeaf_pos hmd g.classes g.lord hord
    (fitFuel P D) (allMask D) 0 (length_allMask D) hrows (by unfold fitFuel; omega)
  exact ⟨(prune u).1, (fit_eq_some P D ord p _).mpr ⟨u, hu, rfl⟩⟩

/-- **every training row is predicted by the leaf it was assigned to while fitting, and that
prediction is a weighted most frequent label of the training rows of that leaf**: for the fitted,
pruned tree `t` and a training row `i`, the leaf `make_prediction` ends in has the row set
`reachedMask …` (the training rows taking the same turns under the fit-time rule `value <= split`);
row `i` is one of them, and `predict` returns a mode of them that occurs among them -/
theorem training_row_predicted_by_own_leaf (P : Params α β) (D : Data α β) (ord : List Nat → List Nat)
    (hord : ∀ l c, c ∈ ord l ↔ c ∈ l) (p : Nat) (t : Tree.Tree α) (g : Guards P D)
    (hw : ∀ i, 0 ≤ D.w i) (h : fit P D ord p = some t) (i : Nat) (hi : i < D.n) :
    i ∈ rowsOf (reachedMask D (D.row i) (allMask D) t) ∧
    IsMode D (reachedMask D (D.row i) (allMask D) t) (predict (D.row i) t) :=
  ⟨train_row_in_reached D i t _ ((mem_rowsOf_allMask D i).mpr hi),
   forallLeaves_predict D (IsMode D) (D.row i) t _ (leaf_predicts_a_mode P D ord hord p t g hw h)⟩

/-- **only labels seen in training are ever predicted**: for every row whatsoever (training row or
not) `predict` returns the label of some training row — one that reaches the same leaf -/
theorem predict_only_seen_labels (P : Params α β) (D : Data α β) (ord : List Nat → List Nat)
    (hord : ∀ l c, c ∈ ord l ↔ c ∈ l) (p : Nat) (t : Tree.Tree α) (g : Guards P D)
    (hw : ∀ i, 0 ≤ D.w i) (h : fit P D ord p = some t) (row : List α) :
    ∃ j, j < D.n ∧ D.y j = predict row t := by
  obtain ⟨⟨j, hj, hy⟩, _⟩ :=
    forallLeaves_predict D (IsMode D) row t _ (leaf_predicts_a_mode P D ord hord p t g hw h)
  exact ⟨j, (mem_rowsOf_allMask D j).mp (reached_sub D row t _ j hj), hy⟩

/-- **`features()` lists every feature index used by a split node exactly once, all of them
columns of the data** (`featuresOf` is the push-if-unseen loop over `iter_nodes()`; the order of the
list is not part of the statement) -/
theorem features_spec (P : Params α β) (D : Data α β) (ord : List Nat → List Nat) (p : Nat)
    (t : Tree.Tree α) (g : Guards P D) (h : fit P D ord p = some t) :
    (featuresOf t).Nodup ∧
    (∀ f, f ∈ featuresOf t ↔ ∃ n ∈ allNodes t, ∃ s dec pr d l r, n = Tree.Tree.node f s dec pr d l r) ∧
    (∀ f ∈ featuresOf t, f < p) := by
  have hmem : ∀ f, f ∈ featuresOf t ↔
      ∃ n ∈ allNodes t, ∃ s dec pr d l r, n = Tree.Tree.node f s dec pr d l r := by
    intro f
    rw [featuresOf, mem_firstOcc, List.mem_map]
    constructor
    · rintro ⟨⟨f', dec⟩, hfd, rfl⟩
      obtain ⟨s, pr, d, l, r, hn⟩ := (mem_splitDecs t f' dec).mp hfd
      exact ⟨_, hn, s, dec, pr, d, l, r, rfl⟩
    · rintro ⟨n, hn, s, dec, pr, d, l, r, rfl⟩
      exact ⟨(f, dec), (mem_splitDecs t f dec).mpr ⟨s, pr, d, l, r, hn⟩, rfl⟩
  refine ⟨firstOcc_nodup _, hmem, fun f hf => ?_⟩
  obtain ⟨n, hn, s, dec, pr, d, l, r, he⟩ := (hmem f).mp hf
  have hlt : ForallSplits D (fun _ f _ _ => f < p) (allMask D) t :=
    fit_forallSplits P D ord p t h _ fun mask _ b hlen hs =>
      (candidates_spec P D mask p g.eps_pos g.classes g.lord hlen b (pickBest_mem _ _ hs.best)).feat_lt
  obtain ⟨_, hfp⟩ := forallSplits_allNodes D _ t _ hlt f s dec pr d l r (he ▸ hn)
  exact hfp

end importance

section accessors
variable {α β : Type}
variable [Add α] [Sub α] [Div α] [Neg α] [LT α] [DecidableLT α] [LE α] [DecidableLE α]
  [OfNat α 0] [NatCast α]
variable [Add β] [Sub β] [Mul β] [Div β] [Neg β] [LT β] [DecidableLT β]
  [OfNat β 0] [OfNat β 1] [NatCast β]

/-- **`iter_nodes()` enumerates every node of the tree exactly once** (level order is a
permutation of the preorder node list) -/
theorem iter_nodes_enumerates (t : Tree.Tree α) : (iterNodes t).Perm (allNodes t) := iterNodes_perm t

/-- **`iter_nodes()` yields the nodes in level order**: the root, then the nodes of depth 1 from left
to right, then those of depth 2, … (`levels`: the current level followed by the level made of its
children); this is the order, `iter_nodes_enumerates` only the set -/
theorem iter_nodes_level_order (t : Tree.Tree α) : iterNodes t = levels (t.height + 1) [t] :=
  iterNodes_eq_levels t

/-- **`num_leaves()` is the number of leaf-flagged nodes** -/
theorem num_leaves_counts_leaves (t : Tree.Tree α) : numLeaves t = leafCount t := numLeaves_eq t

/-- **`max_depth()` is the largest depth field, and it is at most the `max_depth` parameter** -/
theorem max_depth_accessor (P : Params α β) (D : Data α β) (ord : List Nat → List Nat) (p : Nat)
    (t : Tree.Tree α) (h : fit P D ord p = some t) :
    (∀ n ∈ allNodes t, n.depthField ≤ maxDepthOf t) ∧
    (∀ b, (∀ n ∈ allNodes t, n.depthField ≤ b) → maxDepthOf t ≤ b) ∧
    (∀ m, P.maxDepth = some m → maxDepthOf t ≤ m) := by
  refine ⟨depth_le_maxDepthOf t, maxDepthOf_le t, fun m hm => ?_⟩
  exact maxDepthOf_le t m (depthOK_allNodes P.maxDepth m hm t 0 (depth_le_max P D ord p t h))

end accessors

/-- **the fitted tree does not depend on the iteration order of linfa's hash maps**: any two
orders that list exactly the keys give the same tree -/
theorem fit_order_irrelevant {α β : Type} [Field α] [LinearOrder α] [IsStrictOrderedRing α]
    [Field β] [LinearOrder β] [IsStrictOrderedRing β]
    (P : Params α β) (D : Data α β) (ord1 ord2 : List Nat → List Nat)
    (h1 : ∀ l c, c ∈ ord1 l ↔ c ∈ l) (h2 : ∀ l c, c ∈ ord2 l ↔ c ∈ l)
    (hlord : D.lord.Perm (List.range D.K)) (p : Nat) : fit P D ord1 p = fit P D ord2 p := by
  unfold fit
  rw [fitNode_order_irrelevant P D ord1 ord2 h1 h2 hlord]

/-! ### non-vacuity of the full statements: a concrete fit over `Rat` that satisfies `Guards` -/

def exPQ : Params Rat Rat :=
  { entropy := false, maxDepth := some 2, minSplit := 2, minLeaf := 1, minDec := 1 / 100, eps := 1 / 100000,
    log2 := fun x => x, cast := id }
def exDQ : Data Rat Rat :=
  { xs := [[0, 5], [2, 5], [4, 5], [6, 5]], ys := [0, 0, 1, 1], ws := [1, 2, 2, 1], K := 2, lord := [1, 0] }
def exTQ : Tree.Tree Rat := .node 0 3 (1 / 2) 1 0 (.leaf 0 1) (.leaf 1 1)

example : Guards exPQ exDQ :=
  ⟨by decide +kernel, by decide +kernel,
    fun | 0 | 1 | 2 | 3 => by decide | _ + 4 => Nat.zero_lt_succ 1,
    List.Perm.swap 0 1 []⟩
example : fit exPQ exDQ id 2 = some exTQ := by decide +kernel
example : ∀ i, 0 ≤ exDQ.w i :=
  fun | 0 | 1 | 2 | 3 => by decide +kernel | _ + 4 => zero_le_one
example : 0 < exPQ.minDec := by decide +kernel
example : importances exTQ 2 = [1, 0] := by decide +kernel
/-- `iter_nodes_level_order` on the two-level tree `exT`: root, its two children, the two grandchildren -/
example : levels (exT.height + 1) [exT] =
    [exT, .leaf 0 1, .node 0 3 1 1 1 (.leaf 0 2) (.leaf 1 2), .leaf 0 2, .leaf 1 2] := by decide +kernel
example : numLeaves exTQ = 2 ∧ maxDepthOf exTQ = 1 ∧ featuresOf exTQ = [0] := by decide +kernel
/-- hypotheses of `fit_returns`, `training_row_predicted_by_own_leaf`, `predict_only_seen_labels`,
`features_spec`: the dataset is non-empty, `id` lists the keys, row 2 is a training row; its leaf holds
rows 2 and 3 and predicts their mode 1 -/
example : 0 < exDQ.n ∧ (∀ (l : List Nat) c, c ∈ id l ↔ c ∈ l) ∧ (2 < exDQ.n) := ⟨by decide, fun _ _ => Iff.rfl, by decide⟩
example : rowsOf (reachedMask exDQ (exDQ.row 2) (allMask exDQ) exTQ) = [2, 3] ∧ predict (exDQ.row 2) exTQ = 1 := by
  decide +kernel

end LinfaSpec.Props.C14
