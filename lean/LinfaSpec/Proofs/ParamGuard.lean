/-
Lemmas for C04, stated for variables: the guard chain `firstErr`, the trait-level `checkRef`, and a table that says for each
guard idiom of the Rust sources (a comparison of `XF`, `is_negative`, `!is_finite || …`, `n == 0`, …) which documented range
its firing refutes.  With them a builder's `check p = .ok ()` rewrites to the conjunction of its range predicates.
-/
import LinfaSpec.Model.ParamRanges
import LinfaSpec.Proofs.ParamGuardAttr

namespace LinfaSpec.ParamGuard

@[simp] theorem firstErr_nil : firstErr [] = .ok () := rfl

@[simp] theorem firstErr_cons_none (rest : List (Option String)) : firstErr (none :: rest) = firstErr rest := rfl
@[simp] theorem firstErr_cons_some (t : String) (rest : List (Option String)) : firstErr (some t :: rest) = .error t := rfl

@[guard_simps] theorem firstErr_cons_ok_iff (g : Option String) (rest : List (Option String)) :
    firstErr (g :: rest) = .ok () ↔ g = none ∧ firstErr rest = .ok () := by
  cases g <;> simp [firstErr]

/-- a guard `if c { return Err(t) }` does not fire iff its condition is false -/
@[guard_simps] theorem guard_eq_none_iff {c : Prop} [Decidable c] (t : String) : (if c then some t else none) = none ↔ ¬c := by
  by_cases h : c <;> simp [h]

theorem some_eq_guard_iff {c : Prop} [Decidable c] (t u : String) : some t = (if c then some u else none) ↔ t = u ∧ c := by
  by_cases h : c <;> simp [h]

attribute [guard_simps] firstErr_nil and_true true_and Classical.not_not Bool.false_eq_true not_false_eq_true

theorem firstErr_append_of_none {pre : List (Option String)} (h : ∀ g ∈ pre, g = none) (rest : List (Option String)) :
    firstErr (pre ++ rest) = firstErr rest := by
  induction pre with
  | nil => rfl
  | cons g pre ih =>
    obtain ⟨rfl, hp⟩ := List.forall_mem_cons.mp h
    exact ih hp

section Trait
variable {P E : Type} {chk : P → Except E Unit} {p : P}

theorem checkRef_error_iff {e : E} : checkRef chk p = .error e ↔ chk p = .error e := by
  cases h : chk p <;> simp [checkRef, h]

/-- every entry point on an unchecked builder has this shape: the checking error (converted), or the continuation on the
parameters as they are -/
theorem guarded_call {E' R : Type} (conv : E → E') (k : P → Except E' R) {r : Except E' R}
    (hr : r = match checkRef chk p with | .error e => .error (conv e) | .ok c => k c) :
    (∀ e, chk p = .error e → r = .error (conv e)) ∧ (chk p = .ok () → r = k p) := by
  subst hr
  cases h : chk p <;> simp [checkRef, h]

end Trait

/-! ### guards on counts: the guard fires iff the documented lower bound fails -/

@[guard_simps] theorem beq_zero_iff_not_pos (n : Nat) : (n == 0) = true ↔ ¬1 ≤ n := by
  rw [beq_iff_eq]; omega
@[guard_simps] theorem decide_le_one_iff_not_two_le (n : Nat) : decide (n ≤ 1) = true ↔ ¬2 ≤ n := by
  rw [decide_eq_true_eq]; omega

/-! ### the setters of `SvmParams` -/

/-- setters that assign the weights (`c` / `nu`); `.eps` only touches the solver tolerance -/
def SvmSet.isWeight {α : Type} : SvmSet α → Bool
  | .eps _ => false
  | _ => true

theorem svmApply_exactly_one {α : Type} (k : SvmConsts α) (s : SvmState α) (op : SvmSet α)
    (h : s.c.isSome = !s.nu.isSome) : (op.apply k s).c.isSome = !(op.apply k s).nu.isSome := by
  cases op with
  | eps => exact h
  | _ => rfl

theorem svmFold_exactly_one {α : Type} (k : SvmConsts α) (ops : List (SvmSet α)) (s : SvmState α)
    (h : s.c.isSome = !s.nu.isSome) :
    (ops.foldl (SvmSet.apply k) s).c.isSome = !(ops.foldl (SvmSet.apply k) s).nu.isSome := by
  induction ops generalizing s with
  | nil => exact h
  | cons op rest ih => exact ih _ (svmApply_exactly_one k s op h)

namespace XF
variable (q : Rat)

@[simp] theorem le_fin_zero : le (fin q) zero = decide (q ≤ 0) := rfl
@[simp] theorem lt_fin_zero : lt (fin q) zero = decide (q < 0) := rfl
@[simp] theorem le_zero_fin : le zero (fin q) = decide (0 ≤ q) := rfl
@[simp] theorem lt_zero_fin : lt zero (fin q) = decide (0 < q) := rfl
@[simp] theorem le_fin_one : le (fin q) one = decide (q ≤ 1) := rfl
@[simp] theorem lt_fin_one : lt (fin q) one = decide (q < 1) := rfl
@[simp] theorem lt_one_fin : lt one (fin q) = decide (1 < q) := rfl
@[simp] theorem le_fin_fin (a b : Rat) : le (fin a) (fin b) = decide (a ≤ b) := rfl
@[simp] theorem lt_fin_fin (a b : Rat) : lt (fin a) (fin b) = decide (a < b) := rfl
@[simp] theorem isNegative_fin : isNegative (fin q) = decide (q < 0) := rfl
@[simp] theorem isSignNegative_fin : isSignNegative (fin q) = decide (q < 0) := rfl
@[simp] theorem isNan_fin : isNan (fin q) = false := rfl
@[simp] theorem isInfinite_fin : isInfinite (fin q) = false := rfl
@[simp] theorem isFinite_fin : isFinite (fin q) = true := rfl
@[simp] theorem sat_fin (P : Rat → Prop) : Sat (fin q) P ↔ P q := Iff.rfl
@[simp] theorem finite_fin : Finite (fin q) := rfl

theorem finite_iff (x : XF) : x.Finite ↔ ∃ q, x = fin q := by
  cases x <;> simp [Finite, isFinite]

theorem Sat.finite {P : Rat → Prop} : ∀ {x : XF}, x.Sat P → x.Finite
  | fin _, _ => rfl
theorem sat_and (x : XF) (P Q : Rat → Prop) : x.Sat (fun q => P q ∧ Q q) ↔ x.Sat P ∧ x.Sat Q := by
  cases x <;> simp [Sat]
theorem sat_or (x : XF) (P Q : Rat → Prop) : x.Sat (fun q => P q ∨ Q q) ↔ x.Sat P ∨ x.Sat Q := by
  cases x <;> simp [Sat]

/-! ### guards on a finite value: the comparison fires iff the value violates the bound

The hypothesis is needed: a NaN makes every comparison false, so these guards let it pass. -/

section Finite
variable {x : XF} (h : x.Finite) (c : Rat)
include h

theorem lt_fin_iff : lt x (fin c) = true ↔ ¬x.Sat (fun q => c ≤ q) := by
  obtain ⟨q, rfl⟩ := (finite_iff x).mp h
  simp [Rat.not_le]
theorem le_fin_iff : le x (fin c) = true ↔ ¬x.Sat (fun q => c < q) := by
  obtain ⟨q, rfl⟩ := (finite_iff x).mp h
  simp [Rat.not_lt]
theorem gt_fin_iff : gt x (fin c) = true ↔ ¬x.Sat (fun q => q ≤ c) := by
  obtain ⟨q, rfl⟩ := (finite_iff x).mp h
  simp [gt, Rat.not_le]
theorem ge_fin_iff : ge x (fin c) = true ↔ ¬x.Sat (fun q => q < c) := by
  obtain ⟨q, rfl⟩ := (finite_iff x).mp h
  simp [ge, Rat.not_lt]
theorem isNegative_iff : isNegative x = true ↔ ¬Ranges.nonneg x := by
  obtain ⟨q, rfl⟩ := (finite_iff x).mp h
  exact lt_fin_iff (finite_fin q) 0

/-- `a < 0 || b < 0 || a > 1 || b > 1` on two finite values -/
theorem not_unit01_pair_iff {y : XF} (hy : y.Finite) :
    (((lt x (fin 0) || lt y (fin 0)) || gt x (fin 1)) || gt y (fin 1)) = true ↔ ¬(Ranges.unit01 x ∧ Ranges.unit01 y) := by
  simp only [Bool.or_eq_true, lt_fin_iff h, lt_fin_iff hy, gt_fin_iff h, gt_fin_iff hy, sat_and,
    Classical.not_and_iff_not_or_not]
  rw [or_assoc, or_or_or_comm]

/-- `hi < lo` on two finite values -/
theorem lt_iff {y : XF} (hy : y.Finite) : lt y x = true ↔ ¬x.Sat (fun a => y.Sat (fun b => a ≤ b)) := by
  obtain ⟨q, rfl⟩ := (finite_iff x).mp h
  exact lt_fin_iff hy q

end Finite

@[guard_simps] theorem epsOf_eq (c : Carrier) : epsOf c = fin (Ranges.DecisionTree.epsQ c) := by cases c <;> rfl

/-! ### guards that also reject non-finite values, on the whole of `XF` (no finiteness hypothesis) -/

/-- `(0..=1).contains(&x)` -/
theorem inClosed01_iff (x : XF) : inClosed zero one x = true ↔ Ranges.unit01 x := by
  cases x <;> simp [inClosed, le, Sat, zero, one]
/-- `!(0..=1).contains(&x)` -/
@[guard_simps] theorem not_inClosed01_iff (x : XF) : (!inClosed zero one x) = true ↔ ¬Ranges.unit01 x := by
  rw [Bool.not_eq_true', ← Bool.not_eq_true, inClosed01_iff]
/-- `!x.is_finite() || g`, where on finite values `g` fires iff `P` fails, fires exactly outside `Sat P` -/
theorem not_isFinite_or_iff {x : XF} {g : Bool} {P : Rat → Prop} (hg : x.Finite → (g = true ↔ ¬x.Sat P)) :
    (!isFinite x || g) = true ↔ ¬x.Sat P := by
  cases x with
  | fin q => exact hg rfl
  | _ => exact ⟨fun _ => nofun, fun _ => rfl⟩
/-- `x.is_negative() || x.is_nan() || x.is_infinite()`; priority `high` so that the idiom is rewritten as a whole before
`Bool.or_eq_true` (which the proofs with compound guards add) takes it apart -/
@[guard_simps high] theorem isNegative_or_isNan_or_isInfinite_iff (x : XF) :
    ((isNegative x || isNan x) || isInfinite x) = true ↔ ¬Ranges.nonneg x := by
  cases x <;> simp [isNegative, isNan, isInfinite, Sat, Rat.not_le]
/-- `xs.iter().any(|x| !x.is_finite())` -/
@[guard_simps] theorem any_not_isFinite_iff (xs : List XF) : (xs.any fun x => !isFinite x) = true ↔ ¬∀ x ∈ xs, x.Finite := by
  simp only [Finite, List.any_eq_true, Bool.not_eq_true', Classical.not_forall, Bool.not_eq_true, exists_prop]

end XF
end LinfaSpec.ParamGuard
