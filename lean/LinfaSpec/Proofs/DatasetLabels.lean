import LinfaSpec.Proofs.Dataset

/-!
C02, labels: `label_count` counts, the label set `one_vs_all` scans, cached label counts and what
keeps them fresh, and the weights that masked label frequencies use.
-/
namespace LinfaSpec.Dataset
variable {R T W : Type}

/-! ### label counting is counting -/

theorem bump_keys [DecidableEq T] (m : List (T × Nat)) (x : T) :
    (bump m x).map (·.1) = if x ∈ m.map (·.1) then m.map (·.1) else m.map (·.1) ++ [x] := by
  induction m with
  | nil => simp [bump]
  | cons yc rest ih =>
    obtain ⟨y, c⟩ := yc
    by_cases hy : y = x
    · subst hy; simp [bump]
    · have hxy : ¬ x = y := fun e => hy e.symm
      by_cases hm : x ∈ rest.map (·.1)
      · simp [bump, hy, ih, hm]
      · simp [bump, hy, ih, hm, hxy]

/-- the count stored for `y` (0 when `y` is not a key); a device of these proofs: the model never looks a label up -/
def cnt [DecidableEq T] (m : List (T × Nat)) (y : T) : Nat := ((m.find? (·.1 = y)).map (·.2)).getD 0

theorem cnt_bump [DecidableEq T] (m : List (T × Nat)) (x y : T) :
    cnt (bump m x) y = cnt m y + (if y = x then 1 else 0) := by
  induction m with
  | nil => by_cases h : y = x <;> simp [bump, cnt, h, eq_comm]
  | cons zc rest ih =>
    obtain ⟨z, c⟩ := zc
    by_cases hz : z = x
    · subst hz
      by_cases h : y = z
      · subst h; simp [bump, cnt]
      · have h' : ¬ z = y := fun e => h e.symm
        simp [bump, cnt, h, h']
    · by_cases h : z = y
      · subst h
        have : ¬ z = x := hz
        simp [bump, cnt, hz]
      · simp only [bump, hz, if_false]
        unfold cnt at ih ⊢
        simp [h]
        simpa using ih

theorem cnt_foldl_bump [DecidableEq T] (col : List T) : ∀ (m : List (T × Nat)) (y : T),
    cnt (col.foldl bump m) y = cnt m y + col.count y := by
  induction col with
  | nil => intro m y; simp
  | cons x col ih =>
    intro m y
    rw [List.foldl_cons, ih, cnt_bump, List.count_cons]
    by_cases h : y = x
    · subst h; simp; omega
    · have h' : ¬ x = y := fun e => h e.symm
      simp [h, h']

theorem keys_foldl_bump [DecidableEq T] (col : List T) : ∀ (m : List (T × Nat)),
    (m.map (·.1)).Nodup → ((col.foldl bump m).map (·.1)).Nodup ∧
      ∀ y, y ∈ (col.foldl bump m).map (·.1) ↔ y ∈ m.map (·.1) ∨ y ∈ col := by
  induction col with
  | nil => intro m hm; simp [hm]
  | cons x col ih =>
    intro m hm
    have hk := bump_keys m x
    have hnd : ((bump m x).map (·.1)).Nodup := by
      rw [hk]
      split
      · exact hm
      · rename_i hx
        exact List.nodup_append.mpr ⟨hm, by simp, by
          intro a ha b hb; simp at hb; subst hb; exact fun e => hx (e ▸ ha)⟩
    obtain ⟨h1, h2⟩ := ih (bump m x) hnd
    refine ⟨h1, fun y => ?_⟩
    rw [List.foldl_cons, h2, hk]
    split
    · rename_i hx
      constructor
      · rintro (h | h)
        · exact Or.inl h
        · exact Or.inr (List.mem_cons_of_mem _ h)
      · rintro (h | h)
        · exact Or.inl h
        · rcases List.mem_cons.mp h with e | h
          · subst e; exact Or.inl hx
          · exact Or.inr h
    · simp only [List.mem_append, List.mem_cons, List.not_mem_nil, or_false]
      constructor
      · rintro ((h | h) | h)
        · exact Or.inl h
        · exact Or.inr (Or.inl h)
        · exact Or.inr (Or.inr h)
      · rintro (h | h | h)
        · exact Or.inl (Or.inl h)
        · exact Or.inl (Or.inr h)
        · exact Or.inr h

theorem cnt_of_mem [DecidableEq T] {m : List (T × Nat)} (hnd : (m.map (·.1)).Nodup) {y : T} {c : Nat}
    (h : (y, c) ∈ m) : cnt m y = c := by
  induction m with
  | nil => simp at h
  | cons zc rest ih =>
    obtain ⟨z, c'⟩ := zc
    simp only [List.map_cons, List.nodup_cons] at hnd
    rcases List.mem_cons.mp h with e | h'
    · cases e; simp [cnt]
    · have hz : ¬ z = y := by
        intro e; subst e
        exact hnd.1 (List.mem_map.mpr ⟨(z, c), h', rfl⟩)
      unfold cnt at ih ⊢
      simp [hz]
      simpa using ih hnd.2 h'

/-- **`label_count` counts**: the keys of a column's label map are exactly the labels occurring in
the column, each once, and the number stored with a label is the number of its occurrences -/
theorem countCol_spec [DecidableEq T] (col : List T) :
    ((countCol col).map (·.1)).Nodup ∧ (∀ y, y ∈ (countCol col).map (·.1) ↔ y ∈ col) ∧
    ∀ y c, (y, c) ∈ countCol col → c = col.count y ∧ 0 < c := by
  obtain ⟨hnd, hmem⟩ := keys_foldl_bump col [] (by simp)
  refine ⟨hnd, fun y => by simpa [countCol] using hmem y, fun y c hyc => ?_⟩
  have h1 := cnt_of_mem hnd hyc
  have h2 := cnt_foldl_bump col [] y
  have hy : y ∈ col := by
    have := (hmem y).mp (List.mem_map.mpr ⟨(y, c), hyc, rfl⟩)
    simpa using this
  have hc : c = col.count y := by
    unfold countCol at h1
    rw [h2] at h1
    simp [cnt] at h1
    exact h1.symm
  exact ⟨hc, by rw [hc]; exact List.count_pos_iff.mpr hy⟩

theorem mem_column {α} {c : Nat} {rows : List (List α)} {l : α} :
    l ∈ column c rows ↔ ∃ g ∈ rows, g[c]? = some l := by
  simp [column]

/-- **the labels of a dataset** (what `one_vs_all` iterates over: its own scan of the targets): each
label that occurs in the targets, exactly once, and nothing else — whatever the cached counts say -/
theorem labelsOf_spec [DecidableEq T] (ds : DS R T W) :
    (labelsOf ds).Nodup ∧ ∀ l, l ∈ labelsOf ds ↔ ∃ g ∈ ds.tgts, l ∈ g := by
  refine ⟨nodup_eraseDups _, fun l => ?_⟩
  unfold labelsOf
  rw [List.mem_eraseDups]
  simp [List.mem_flatten]

/-- the scan keeps the labels in the order of their first appearance: the head of the flattened
targets comes first, the rest is the scan of what is left without it -/
theorem labelsOf_cons [DecidableEq T] (ds : DS R T W) (x : T) (rest : List T) (h : ds.tgts.flatten = x :: rest) :
    labelsOf ds = x :: (rest.filter fun y => !y == x).eraseDups := by
  unfold labelsOf
  rw [h, List.eraseDups_cons]

/-! ### masked label frequencies -/

/-- **masking = filtering**: `label_frequencies_with_mask(mask)` accumulates exactly the rows that
`label_frequencies()` accumulates on the dataset restricted to the positions passing the mask —
targets *and weights* selected by the same positions (so the `j`-th kept sample contributes with
its own weight, not with the weight of sample `j`) -/
theorem maskedRows_restrict (one : W) (mask : List Bool) (ds : DS R T W) (g' : List (List T)) (w' : List W)
    (hg : selRows ((List.range ds.tgts.length).filter fun i => mask.getD i true) ds.tgts = some g')
    (hw : (ds.weights = [] ∧ w' = []) ∨
      selRows ((List.range ds.tgts.length).filter fun i => mask.getD i true) ds.weights = some w') :
    maskedRows one mask ds = maskedRows one [] { ds with tgts := g', weights := w' } := by
  unfold maskedRows weightFor
  generalize (List.range ds.tgts.length).filter (fun i => mask.getD i true) = K at hg hw
  dsimp only
  rw [(List.filter_eq_self (p := fun i => ([] : List Bool).getD i true)).mpr fun _ _ => rfl]
  -- both sides are `filterMap`s of lists that agree position by position
  suffices K.map (fun i => (ds.tgts[i]?).map fun g => (g, (ds.weights[i]?).getD one)) =
      (List.range g'.length).map (fun j => (g'[j]?).map fun g => (g, (w'[j]?).getD one)) by
    simpa only [List.filterMap_map, Function.comp_def, id] using congrArg (List.filterMap id) this
  have hl := selRows_length hg
  refine List.ext_getElem (by simp [hl]) fun j h1 _ => ?_
  rw [List.length_map] at h1
  have ew : w'[j]? = ds.weights[K[j]]? := by
    rcases hw with ⟨h0, h0'⟩ | hw
    · rw [h0, h0']; rfl
    · exact selRows_getElem? hw h1
  simp only [List.getElem_map, List.getElem_range, selRows_getElem? hg h1, ew]

end LinfaSpec.Dataset
