/-
The matrix expressions that `LinfaSpec.Pca.transform / inverseTransform / whiten / backRows` compute
(`Proofs/Pca.lean` ties the list model to them) and what orthonormal rows `V Vᵀ = 1` give for them.
-/
import Mathlib.LinearAlgebra.Matrix.NonsingularInverse
import Mathlib.Data.Matrix.Mul
import Mathlib.Data.Matrix.Diagonal

namespace LinfaSpec.PcaMatrix
open Matrix

variable {α : Type} [Field α] {n p k : Nat}

/-- the mean row repeated `n` times (`&mean` broadcast over the rows) -/
def rowConst (n : Nat) (μ : Fin p → α) : Matrix (Fin n) (Fin p) α := Matrix.of fun _ j => μ j

/-- `predict`: `(X - mean) · Wᵀ` -/
def transformM (W : Matrix (Fin k) (Fin p) α) (μ : Fin p → α) (X : Matrix (Fin n) (Fin p) α) :
    Matrix (Fin n) (Fin k) α := (X - rowConst n μ) * Wᵀ

/-- rows divided by their squared norm (`backRows`) -/
def backM (W : Matrix (Fin k) (Fin p) α) : Matrix (Fin k) (Fin p) α :=
  Matrix.of fun i j => W i j / ∑ l, W i l * W i l

/-- `inverse_transform`: `Z · back(W) + mean` -/
def inverseM (W : Matrix (Fin k) (Fin p) α) (μ : Fin p → α) (Z : Matrix (Fin n) (Fin k) α) :
    Matrix (Fin n) (Fin p) α := Z * backM W + rowConst n μ

/-- orthonormal rows have squared norm one: the diagonal of `V Vᵀ = 1` -/
theorem row_sqnorm_one (V : Matrix (Fin k) (Fin p) α) (h : V * Vᵀ = 1) (i : Fin k) :
    ∑ l, V i l * V i l = 1 := by
  have := congrFun (congrFun h i) i
  rwa [Matrix.mul_apply, Matrix.one_apply_eq] at this

theorem proj_idem (V : Matrix (Fin k) (Fin p) α) (h : V * Vᵀ = 1) :
    (Vᵀ * V) * (Vᵀ * V) = Vᵀ * V := by
  rw [Matrix.mul_assoc, ← Matrix.mul_assoc V, h, Matrix.one_mul]

theorem proj_symm (V : Matrix (Fin k) (Fin p) α) : (Vᵀ * V)ᵀ = Vᵀ * V := by
  rw [Matrix.transpose_mul, Matrix.transpose_transpose]

/-- dividing the rows of `diagonal d * V` by their squared norm `d i ^ 2` inverts the scale -/
theorem backM_scaled (V : Matrix (Fin k) (Fin p) α) (d : Fin k → α) (h : V * Vᵀ = 1)
    (hd : ∀ i, d i ≠ 0) : backM (diagonal d * V) = diagonal (fun i => (d i)⁻¹) * V := by
  ext i j
  have hs : ∑ l, d i * V i l * (d i * V i l) = d i * d i := by
    rw [← mul_one (d i * d i), ← row_sqnorm_one V h i, Finset.mul_sum]
    exact Finset.sum_congr rfl fun l _ => mul_mul_mul_comm ..
  simp only [backM, Matrix.of_apply, Matrix.diagonal_mul]
  rw [hs, mul_div_mul_left _ _ (hd i), div_eq_inv_mul]

/-- `inverse_transform (predict X) = (X - mean) · VᵀV + mean` for an embedding whose rows are
orthonormal directions `V` scaled by non-zero factors `d` (`d = 1`: no whitening;
`d i = sqrt(n-1)/sigma_i`: whitening) -/
theorem inverse_transform_eq (V : Matrix (Fin k) (Fin p) α) (d : Fin k → α) (h : V * Vᵀ = 1)
    (hd : ∀ i, d i ≠ 0) (μ : Fin p → α) (X : Matrix (Fin n) (Fin p) α) :
    inverseM (diagonal d * V) μ (transformM (diagonal d * V) μ X)
      = (X - rowConst n μ) * (Vᵀ * V) + rowConst n μ := by
  unfold inverseM transformM
  rw [backM_scaled V d h hd, Matrix.transpose_mul, Matrix.diagonal_transpose, Matrix.mul_assoc,
    Matrix.mul_assoc Vᵀ, ← Matrix.mul_assoc (diagonal d), Matrix.diagonal_mul_diagonal]
  simp only [mul_inv_cancel₀ (hd _), Matrix.diagonal_one, Matrix.one_mul]

/-- all components kept (`k = p`): orthonormal rows of a square matrix are an orthogonal matrix,
so the projection is the identity -/
theorem inverse_transform_full (V : Matrix (Fin p) (Fin p) α) (d : Fin p → α) (h : V * Vᵀ = 1)
    (hd : ∀ i, d i ≠ 0) (μ : Fin p → α) (X : Matrix (Fin n) (Fin p) α) :
    inverseM (diagonal d * V) μ (transformM (diagonal d * V) μ X) = X := by
  rw [inverse_transform_eq V d h hd, mul_eq_one_comm.mp h, Matrix.mul_one, sub_add_cancel]

/-- orthonormal rows that are eigenvectors of `C` for the values `s` diagonalise `C` -/
theorem conj_certificate (C : Matrix (Fin p) (Fin p) α) (V : Matrix (Fin k) (Fin p) α)
    (s : Fin k → α) (h : V * Vᵀ = 1) (hc : C * Vᵀ = Vᵀ * diagonal s) :
    V * C * Vᵀ = diagonal s := by
  rw [Matrix.mul_assoc, hc, ← Matrix.mul_assoc, h, Matrix.one_mul]

theorem scatter_proj (Xc : Matrix (Fin n) (Fin p) α) (Q : Matrix (Fin k) (Fin p) α) :
    (Xc * Qᵀ)ᵀ * (Xc * Qᵀ) = Q * (Xcᵀ * Xc) * Qᵀ := by
  simp only [Matrix.transpose_mul, Matrix.transpose_transpose, Matrix.mul_assoc]

/-- eigen-certificate `(XcᵀXc) Vᵀ = Vᵀ diag(s)`, `V Vᵀ = 1` ⇒ the data projected on the rows of
`diag d · V` (`d` = whitening scale) has the diagonal scatter `diag(d² s)` -/
theorem whitened_scatter_diag (V : Matrix (Fin k) (Fin p) α) (Xc : Matrix (Fin n) (Fin p) α)
    (s d : Fin k → α) (h : V * Vᵀ = 1) (hc : (Xcᵀ * Xc) * Vᵀ = Vᵀ * diagonal s) :
    (Xc * (diagonal d * V)ᵀ)ᵀ * (Xc * (diagonal d * V)ᵀ) = diagonal fun i => d i * s i * d i :=
  calc _ = diagonal d * (V * (Xcᵀ * Xc) * Vᵀ) * diagonal d := by
        simp only [Matrix.transpose_mul, Matrix.transpose_transpose, Matrix.diagonal_transpose,
          Matrix.mul_assoc]
    _ = _ := by
        rw [conj_certificate _ V s h hc, Matrix.diagonal_mul_diagonal, Matrix.diagonal_mul_diagonal]

end LinfaSpec.PcaMatrix
