import LinfaSpec.Gen.Vectors
import LinfaSpec.Model.Tree

/-!
# C14 — obligations about the impurity functions GENERATED from the Rust source

`LinfaSpec.Gen.Vectors.Tree` is regenerated from
`algorithms/linfa-trees/src/decision_trees/algorithm.rs` (`gini_impurity`, `entropy`, read on the
class weights in label order, i.e. on `sorted_frequencies(class_freq)`) on every check by
`tools/vec2lean.py`.  The theorems state that the generated text is the model's `Tree.gini` /
`Tree.entropyOf`, the functions the split-score theorems of C14 are about, in every scalar carrier
(also `Float32`, the carrier the driver runs them on).
-/
set_option linter.unusedSectionVars false
namespace LinfaSpec.Props.GenC14
open LinfaSpec

section generic
variable {β : Type} [Add β] [Sub β] [Mul β] [Div β] [Neg β] [LT β] [DecidableLT β] [LE β] [DecidableLE β]
  [DecidableEq β] [OfNat β 0] [OfNat β 1] [NatCast β] [OfScientific β] [Transc β]

/-- `gini_impurity`: `1 - Σ (f/n)²` with `n = Σ f`, both sums left to right -/
theorem gini_is_model (fs : List β) : Gen.Vectors.Tree.gini_impurity fs = LinfaSpec.Tree.gini fs := rfl

/-- `entropy`: `Σ (if p > 0 then -p·log2 p else 0)` over `p = f/n` -/
theorem entropy_is_model (lg2 : β → β) (fs : List β) :
    Gen.Vectors.Tree.entropy lg2 fs = LinfaSpec.Tree.entropyOf lg2 fs := by
  unfold Gen.Vectors.Tree.entropy LinfaSpec.Tree.entropyOf
  simp only [decide_eq_true_eq]

end generic

example : Gen.Vectors.Tree.gini_impurity ([6, 2, 0] : List Rat) = 3 / 8 := by decide +kernel

end LinfaSpec.Props.GenC14
