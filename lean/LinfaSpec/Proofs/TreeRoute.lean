import LinfaSpec.Proofs.Tree
import Mathlib.Algebra.Order.Field.Basic
import Mathlib.Tactic.Linarith
import Mathlib.Tactic.Ring
import Mathlib.Algebra.BigOperators.Group.List.Basic
import Mathlib.Algebra.Order.BigOperators.Group.List

/-!
C14: the fitted tree as a data structure — `predict` ends in the leaf whose rows `fit` assigned,
`NodeIter` enumerates every node once and in level order, `num_leaves`, `max_depth`, `features()`,
the importances.
-/
namespace LinfaSpec.Tree
open LinfaSpec

section route
set_option linter.unusedSectionVars false
variable {α β : Type}
variable [Add α] [Sub α] [Div α] [Neg α] [LT α] [DecidableLT α] [LE α] [DecidableLE α]
  [OfNat α 0] [NatCast α]
variable [Add β] [Sub β] [Mul β] [Div β] [Neg β] [LT β] [DecidableLT β]
  [OfNat β 0] [OfNat β 1] [NatCast β]

/-- the row mask of the leaf `make_prediction` ends in for `row`: starting from the rows `m` of the
node, the training rows that take at every node the turn `row` takes (`value <= split` = left) -/
def reachedMask (D : Data α β) (row : List α) : List Bool → Tree α → List Bool
  | m, .node f s _ _ _ l r =>
    if row.getD f 0 ≤ s then reachedMask D row (leftMask D m f s) l
    else reachedMask D row (rightMask D m f s) r
  | m, .leaf _ _ => m
  | m, .half _ _ _ _ _ _ _ => m

/-- whatever holds at every leaf together with its training rows holds for the value `predict`
returns together with the training rows of the leaf the row ends in -/
theorem forallLeaves_predict (D : Data α β) (Q : List Bool → Nat → Prop) (row : List α) :
    ∀ (t : Tree α) (m : List Bool), ForallLeaves D Q m t → Q (reachedMask D row m t) (predict row t) := by
  intro t
  induction t with
  | leaf p d => intro m h; exact h
  | half f s dec p d il c ih => intro m h; exact h
  | node f s dec p d l r ihl ihr =>
    intro m h
    simp only [reachedMask, predict]
    split
    · exact ihl _ h.1
    · exact ihr _ h.2

/-- the `i`-th training row, as `predict` sees it -/
def Data.row (D : Data α β) (i : Nat) : List α := D.xs.getD i []

/-- **a training row ends in the leaf it was assigned to while fitting**: row `i` is one of the
training rows of the leaf that `make_prediction` reaches for it (fit distributes by
`value <= split`, the comparison `make_prediction` makes) -/
theorem train_row_in_reached (D : Data α β) (i : Nat) :
    ∀ (t : Tree α) (m : List Bool), i ∈ rowsOf m → i ∈ rowsOf (reachedMask D (D.row i) m t) := by
  intro t
  induction t with
  | leaf p d => intro m h; exact h
  | half f s dec p d il c ih => intro m h; exact h
  | node f s dec p d l r ihl ihr =>
    intro m h
    simp only [reachedMask]
    -- `D.x i f` is entry `f` of `D.row i` by definition
    split
    · rename_i hle
      exact ihl _ (by rw [rowsOf_leftMask]; exact List.mem_filter.mpr ⟨h, decide_eq_true hle⟩)
    · rename_i hle
      exact ihr _ (by
        rw [rowsOf_rightMask]
        exact List.mem_filter.mpr ⟨h, congrArg not (decide_eq_false hle : decide (D.x i f ≤ s) = false)⟩)

/-- the rows of the reached leaf are rows of the node the descent started from -/
theorem reached_sub (D : Data α β) (row : List α) :
    ∀ (t : Tree α) (m : List Bool) (j : Nat), j ∈ rowsOf (reachedMask D row m t) → j ∈ rowsOf m := by
  intro t
  induction t with
  | leaf p d => intro m j h; exact h
  | half f s dec p d il c ih => intro m j h; exact h
  | node f s dec p d l r ihl ihr =>
    intro m j h
    simp only [reachedMask] at h
    split at h
    · have := ihl _ j h
      rw [rowsOf_leftMask] at this
      exact (List.mem_filter.mp this).1
    · have := ihr _ j h
      rw [rowsOf_rightMask] at this
      exact (List.mem_filter.mp this).1

end route

section follow
variable {α : Type} [LE α] [DecidableLE α] [OfNat α 0]

theorem routePredict_eq_routeFit (row : List α) (t : Tree α) : routePredict row t = routeFit row t := by
  induction t with
  | leaf p d => rfl
  | half f s dec p d il c ih => rfl
  | node f s dec p d l r ihl ihr => simp only [routePredict, routeFit, ihl, ihr]

/-- the leaf a row ends in when it follows a list of turns -/
def follow : List Bool → Tree α → Tree α
  | true :: rest, .node _ _ _ _ _ l _ => follow rest l
  | false :: rest, .node _ _ _ _ _ _ r => follow rest r
  | _, t => t

def leafPred : Tree α → Nat
  | .leaf p _ => p
  | .half _ _ _ p _ _ _ => p
  | .node _ _ _ p _ _ _ => p

theorem predict_eq_follow (row : List α) (t : Tree α) :
    predict row t = leafPred (follow (routeFit row t) t) := by
  induction t with
  | leaf p d => rfl
  | half f s dec p d il c ih => rfl
  | node f s dec p d l r ihl ihr =>
    simp only [predict, routeFit]
    split <;> assumption

end follow

/-! ### `iter_nodes()`, `num_leaves()`, `max_depth()` -/
section nodes
variable {α : Type}

/-- every node of the tree (preorder), the set `NodeIter` has to enumerate -/
def allNodes : Tree α → List (Tree α)
  | .leaf p d => [.leaf p d]
  | .node f s dec p d l r => .node f s dec p d l r :: (allNodes l ++ allNodes r)
  | .half f s dec p d il c => .half f s dec p d il c :: allNodes c

theorem allNodes_eq (t : Tree α) : allNodes t = t :: t.children.flatMap allNodes := by
  cases t <;> simp [allNodes, Tree.children]

theorem size_eq (t : Tree α) : t.size = 1 + (t.children.map Tree.size).sum := by
  cases t <;> simp [Tree.size, Tree.children, Nat.add_assoc]

theorem size_pos (t : Tree α) : 0 < t.size := by
  rw [size_eq]; omega

theorem bfs_nil (fuel : Nat) : bfs fuel ([] : List (Tree α)) = [] := by cases fuel <;> rfl

/-- `NodeIter` with enough fuel enumerates exactly the nodes of the queued trees -/
theorem bfs_perm : ∀ (fuel : Nat) (q : List (Tree α)), (q.map Tree.size).sum ≤ fuel →
    (bfs fuel q).Perm (q.flatMap allNodes)
  | fuel, [], _ => by rw [bfs_nil]; exact .nil
  | 0, t :: q, h => by
    have := size_pos t
    simp only [List.map_cons, List.sum_cons] at h
    omega
  | fuel + 1, t :: q, h => by
    have h' : ((q ++ t.children).map Tree.size).sum ≤ fuel := by
      simp only [List.map_cons, List.sum_cons, size_eq t] at h
      simp only [List.map_append, List.sum_append]
      omega
    -- the queue after one step holds the same trees as the old tail followed by the children
    rw [bfs, List.flatMap_cons, allNodes_eq t, List.cons_append]
    refine ((bfs_perm fuel _ h').trans ?_).cons t
    rw [List.flatMap_append]
    exact List.perm_append_comm

theorem iterNodes_perm (t : Tree α) : (iterNodes t).Perm (allNodes t) := by
  have := bfs_perm t.size [t] (by simp)
  simpa [iterNodes] using this

theorem mem_splitDecs (t : Tree α) (f : Nat) (dec : α) :
    (f, dec) ∈ splitDecs t ↔ ∃ s pr d l r, Tree.node f s dec pr d l r ∈ allNodes t := by
  unfold splitDecs
  rw [List.mem_filterMap]
  constructor
  · rintro ⟨n, hn, h⟩
    cases n with
    | node f' s dec' pr d l r => cases h; exact ⟨s, pr, d, l, r, (iterNodes_perm t).mem_iff.mp hn⟩
    | leaf _ _ => nomatch h
    | half _ _ _ _ _ _ _ => nomatch h
  · rintro ⟨s, pr, d, l, r, hn⟩
    exact ⟨_, (iterNodes_perm t).mem_iff.mpr hn, rfl⟩

/-- number of leaf-flagged nodes -/
def leafCount : Tree α → Nat
  | .leaf _ _ => 1
  | .node _ _ _ _ _ l r => leafCount l + leafCount r
  | .half _ _ _ _ _ _ c => 1 + leafCount c

theorem countP_allNodes (t : Tree α) : (allNodes t).countP Tree.isLeafFlag = leafCount t := by
  induction t with
  | leaf p d => simp [allNodes, leafCount, Tree.isLeafFlag]
  | node f s dec p d l r ihl ihr =>
    simp [allNodes, leafCount, Tree.isLeafFlag, List.countP_append, ihl, ihr]
  | half f s dec p d il c ih =>
    simp [allNodes, leafCount, Tree.isLeafFlag, List.countP_cons, ih]; omega

theorem numLeaves_eq (t : Tree α) : numLeaves t = leafCount t := by
  unfold numLeaves
  rw [← List.countP_eq_length_filter, (iterNodes_perm t).countP_eq, countP_allNodes]

theorem foldl_max_le (l : List (Tree α)) (a m : Nat) (ha : a ≤ m)
    (h : ∀ n ∈ l, n.depthField ≤ m) :
    l.foldl (fun m n => Nat.max m n.depthField) a ≤ m := by
  induction l generalizing a with
  | nil => simpa
  | cons x xs ih =>
    simp only [List.foldl_cons]
    refine ih _ ?_ (fun n hn => h n (List.mem_cons_of_mem _ hn))
    exact Nat.max_le.mpr ⟨ha, h x (by simp)⟩

theorem le_foldl_max (l : List (Tree α)) (a : Nat) :
    a ≤ l.foldl (fun m n => Nat.max m n.depthField) a ∧
    ∀ n ∈ l, n.depthField ≤ l.foldl (fun m n => Nat.max m n.depthField) a := by
  induction l generalizing a with
  | nil => simp
  | cons x xs ih =>
    simp only [List.foldl_cons]
    obtain ⟨h1, h2⟩ := ih (Nat.max a x.depthField)
    refine ⟨le_trans (Nat.le_max_left _ _) h1, ?_⟩
    intro n hn
    rcases List.mem_cons.mp hn with hn | hn
    · subst hn; exact le_trans (Nat.le_max_right _ _) h1
    · exact h2 n hn

theorem depth_le_maxDepthOf (t : Tree α) : ∀ n ∈ allNodes t, n.depthField ≤ maxDepthOf t := by
  intro n hn
  exact (le_foldl_max (iterNodes t) 0).2 n ((iterNodes_perm t).mem_iff.mpr hn)

theorem maxDepthOf_le (t : Tree α) (m : Nat) (h : ∀ n ∈ allNodes t, n.depthField ≤ m) :
    maxDepthOf t ≤ m :=
  foldl_max_le (iterNodes t) 0 m (Nat.zero_le _) (fun n hn => h n ((iterNodes_perm t).mem_iff.mp hn))

theorem depthOK_allNodes (md : Option Nat) (m : Nat) (hm : md = some m) :
    ∀ (t : Tree α) (d : Nat), DepthOK md d t → ∀ n ∈ allNodes t, n.depthField ≤ m := by
  intro t
  induction t with
  | leaf p d' =>
    intro d ⟨h1, h2⟩ n hn
    cases List.mem_singleton.mp hn
    exact h1 ▸ h2 m hm
  | node f s dec p d' l r ihl ihr =>
    intro d ⟨h0, h1, h2, h3⟩ n hn
    rcases List.mem_cons.mp hn with rfl | hn
    · exact h0 ▸ Nat.le_of_lt (h1 m hm)
    · exact (List.mem_append.mp hn).elim (ihl _ h2 n) (ihr _ h3 n)
  | half f s dec p d' il c ih =>
    intro d ⟨h0, h1, h2⟩ n hn
    rcases List.mem_cons.mp hn with rfl | hn
    · exact h0 ▸ Nat.le_of_lt (h1 m hm)
    · exact ih _ h2 n hn

end nodes

/-! ### `iter_nodes()`: the queue loop yields the level order -/
section level
set_option linter.dupNamespace false
variable {α : Type}

/-- height of a tree: a leaf has height 0 -/
def Tree.height : Tree α → Nat
  | .leaf _ _ => 0
  | .node _ _ _ _ _ l r => 1 + max l.height r.height
  | .half _ _ _ _ _ _ c => 1 + c.height

/-- the level order written level by level: the nodes of the current level from left to right, then
the level below (the children of the current level, left to right) -/
def levels : Nat → List (Tree α) → List (Tree α)
  | 0, _ => []
  | h + 1, q => q ++ levels h (q.flatMap Tree.children)

theorem levels_nil : ∀ h, levels h ([] : List (Tree α)) = [] := by
  intro h
  induction h with
  | zero => rfl
  | succ h ih => simp [levels, ih]

theorem sum_size_children (q : List (Tree α)) :
    (q.map Tree.size).sum = q.length + ((q.flatMap Tree.children).map Tree.size).sum := by
  induction q with
  | nil => rfl
  | cons x q ih =>
    simp only [List.map_cons, List.sum_cons, List.flatMap_cons, List.map_append, List.sum_append,
      List.length_cons]
    rw [size_eq x, ih]
    omega

/-- the queue loop of `NodeIter`: once the nodes `q` at the front of the queue have been yielded, the
queue holds what was behind them followed by their children -/
theorem bfs_append (q : List (Tree α)) : ∀ (r : List (Tree α)) (fuel : Nat),
    ((q ++ r).map Tree.size).sum ≤ fuel →
    bfs fuel (q ++ r) = q ++ bfs (fuel - q.length) (r ++ q.flatMap Tree.children) := by
  induction q with
  | nil => intro r fuel _; simp
  | cons x q ih =>
    intro r fuel h
    have hx := size_pos x
    simp only [List.cons_append, List.map_cons, List.sum_cons] at h
    obtain ⟨fuel', rfl⟩ : ∃ f, fuel = f + 1 := ⟨fuel - 1, by omega⟩
    have hsz : (((q ++ (r ++ x.children))).map Tree.size).sum ≤ fuel' := by
      rw [size_eq x] at h
      simp only [List.map_append, List.sum_append] at h ⊢
      omega
    simp only [List.cons_append, bfs, List.append_assoc]
    rw [ih (r ++ x.children) fuel' hsz]
    simp only [List.flatMap_cons, List.append_assoc, List.length_cons, Nat.add_sub_add_right]

theorem height_children (t c : Tree α) (hc : c ∈ t.children) : c.height < t.height := by
  cases t with
  | leaf _ _ => simp [Tree.children] at hc
  | node f s dec p d l r =>
    simp only [Tree.children, List.mem_cons, List.mem_nil_iff, or_false] at hc
    rcases hc with rfl | rfl <;> simp only [Tree.height] <;> omega
  | half f s dec p d il c' =>
    simp only [Tree.children, List.mem_cons, List.mem_nil_iff, or_false] at hc
    subst hc
    simp only [Tree.height]; omega

theorem bfs_eq_levels : ∀ (h : Nat) (q : List (Tree α)) (fuel : Nat),
    (q.map Tree.size).sum ≤ fuel → (∀ t ∈ q, t.height < h) → bfs fuel q = levels h q := by
  intro h
  induction h with
  | zero =>
    intro q fuel _ hq
    cases q with
    | nil => exact bfs_nil fuel
    | cons x q => exact absurd (hq x (by simp)) (by omega)
  | succ h ih =>
    intro q fuel hf hq
    have := bfs_append q [] fuel (by simpa using hf)
    simp only [List.append_nil, List.nil_append] at this
    rw [this, levels]
    congr 1
    refine ih _ _ ?_ ?_
    · have := sum_size_children q
      omega
    · intro c hc
      obtain ⟨t, ht, hct⟩ := List.mem_flatMap.mp hc
      have := height_children t c hct
      have := hq t ht
      omega

theorem iterNodes_eq_levels (t : Tree α) : iterNodes t = levels (t.height + 1) [t] := by
  unfold iterNodes
  exact bfs_eq_levels _ _ _ (by simp) (by intro u hu; simp only [List.mem_singleton] at hu; subst hu; omega)

end level

/-! ### `features()`: first-met order; per-split facts read off the nodes of `allNodes` -/
section feats

theorem firstOcc_aux (l : List Nat) : ∀ (acc : List Nat), acc.Nodup →
    (l.foldl (fun acc f => if acc.contains f then acc else acc ++ [f]) acc).Nodup ∧
    (∀ f, f ∈ l.foldl (fun acc f => if acc.contains f then acc else acc ++ [f]) acc ↔ f ∈ acc ∨ f ∈ l) := by
  induction l with
  | nil => exact fun acc h => ⟨h, fun f => by simp⟩
  | cons x xs ih =>
    intro acc h
    rw [List.foldl_cons]
    by_cases hx : acc.contains x = true
    · rw [if_pos hx]
      obtain ⟨h1, h2⟩ := ih acc h
      refine ⟨h1, fun f => ?_⟩
      have hx' : x ∈ acc := by simpa using hx
      rw [h2 f, List.mem_cons]
      exact ⟨Or.imp_right Or.inr, fun h => h.elim Or.inl fun h => h.elim (fun e => Or.inl (e ▸ hx')) Or.inr⟩
    · rw [if_neg hx]
      have hx' : x ∉ acc := by simpa using hx
      obtain ⟨h1, h2⟩ := ih (acc ++ [x]) (List.nodup_append.mpr
        ⟨h, List.pairwise_singleton _ x, fun a ha b hb e => hx' (by rw [List.mem_singleton.mp hb] at e; exact e ▸ ha)⟩)
      refine ⟨h1, fun f => ?_⟩
      rw [h2 f, List.mem_append, List.mem_singleton, List.mem_cons, or_assoc]

theorem firstOcc_nodup (l : List Nat) : (firstOcc l).Nodup := (firstOcc_aux l [] List.nodup_nil).1

theorem mem_firstOcc (l : List Nat) (f : Nat) : f ∈ firstOcc l ↔ f ∈ l := by
  have := (firstOcc_aux l [] List.nodup_nil).2 f
  simpa [firstOcc] using this

/-- the push-if-unseen loop started from `acc` appends to `acc` a sublist of its input: elements keep
the order of their first occurrence -/
theorem firstOcc_sublist (l : List Nat) : ∀ (acc : List Nat),
    ∃ r, l.foldl (fun acc f => if acc.contains f then acc else acc ++ [f]) acc = acc ++ r ∧ r.Sublist l := by
  induction l with
  | nil => intro acc; exact ⟨[], by simp, List.Sublist.refl _⟩
  | cons x xs ih =>
    intro acc
    simp only [List.foldl_cons]
    by_cases hx : acc.contains x = true
    · simp only [hx, if_true]
      obtain ⟨r, h1, h2⟩ := ih acc
      exact ⟨r, h1, h2.cons x⟩
    · simp only [hx, if_false, Bool.false_eq_true]
      obtain ⟨r, h1, h2⟩ := ih (acc ++ [x])
      exact ⟨x :: r, by rw [h1]; simp, h2.cons_cons x⟩

end feats

section splits
variable {α β : Type} [LE α] [DecidableLE α] [OfNat α 0]

theorem forallSplits_allNodes (D : Data α β) (Q : List Bool → Nat → α → α → Prop) :
    ∀ (t : Tree α) (m : List Bool), ForallSplits D Q m t →
      ∀ f s dec pr d l r, Tree.node f s dec pr d l r ∈ allNodes t → ∃ m', Q m' f s dec := by
  intro t
  induction t with
  | leaf p d => exact fun m _ f s dec pr d' l r hn => nomatch List.mem_singleton.mp hn
  | half f0 s0 dec0 p0 d0 il c ih =>
    intro m h f s dec pr d l r hn
    rcases List.mem_cons.mp hn with e | hn
    · nomatch e
    · exact ih _ h f s dec pr d l r hn
  | node f0 s0 dec0 p0 d0 l0 r0 ihl ihr =>
    intro m ⟨h1, h2, h3⟩ f s dec pr d l r hn
    rcases List.mem_cons.mp hn with e | hn
    · cases e; exact ⟨m, h1⟩
    · exact (List.mem_append.mp hn).elim (ihl _ h2 f s dec pr d l r) (ihr _ h3 f s dec pr d l r)

end splits

/-! ### feature importances -/

section division
variable {α : Type} [Field α]

theorem sum_map_div (l : List α) (c : α) : (l.map fun x => x / c).sum = l.sum / c := by
  induction l with
  | nil => simp
  | cons x xs ih => simp only [List.map_cons, List.sum_cons, ih, add_div]

end division

section importance
variable {α : Type} [Field α] [LinearOrder α] [IsStrictOrderedRing α]

theorem sumS_normalize (m : List α) (hnn : ∀ x ∈ m, 0 ≤ x) (hpos : 0 < sumS m) :
    (∀ y ∈ m.map (fun x => x / sumS m), 0 ≤ y) ∧ sumS (m.map fun x => x / sumS m) = 1 := by
  refine ⟨fun y hy => ?_, ?_⟩
  · obtain ⟨x, hx, rfl⟩ := List.mem_map.mp hy
    exact div_nonneg (hnn x hx) (le_of_lt hpos)
  · rw [sumS_eq_sum, sum_map_div, ← sumS_eq_sum, div_self (ne_of_gt hpos)]

/-- the mean of positive numbers (`0` for none, as `mean_impurity_decrease` has it) is non-negative,
and positive when there is one -/
theorem mean_nonneg_pos (ds : List α) (h : ∀ x ∈ ds, 0 < x) :
    0 ≤ (if ds.length = 0 then 0 else sumS ds / ((ds.length : Nat) : α)) ∧
    (ds ≠ [] → 0 < (if ds.length = 0 then 0 else sumS ds / ((ds.length : Nat) : α))) := by
  cases ds with
  | nil => exact ⟨le_refl _, fun h => absurd rfl h⟩
  | cons x xs =>
    have hsum : 0 < sumS (x :: xs) := by
      rw [sumS_eq_sum]
      exact lt_of_lt_of_le (h x List.mem_cons_self)
        (List.single_le_sum (fun y hy => le_of_lt (h y hy)) x List.mem_cons_self)
    have : 0 < sumS (x :: xs) / (((x :: xs).length : Nat) : α) :=
      div_pos hsum (Nat.cast_pos.mpr (Nat.succ_pos _))
    rw [if_neg (List.length_cons ▸ Nat.succ_ne_zero _)]
    exact ⟨le_of_lt this, fun _ => this⟩

/-- the importances are non-negative and sum to one as soon as the root is a split, every split
node's decrease is at least `ε > 0` and every split feature is a column index -/
theorem importances_spec (t : Tree α) (p : Nat) (ε : α) (hε : 0 < ε)
    (hdec : ∀ n ∈ allNodes t, ∀ f s dec pr d l r, n = Tree.node f s dec pr d l r → ε ≤ dec ∧ f < p)
    (hsplit : ∃ f s dec pr d l r, t = Tree.node f s dec pr d l r) :
    (∀ x ∈ importances t p, 0 ≤ x) ∧ sumS (importances t p) = 1 := by
  have hsd : ∀ f dec, (f, dec) ∈ splitDecs t → ε ≤ dec ∧ f < p := fun f dec h => by
    obtain ⟨s, pr, d, l, r, hn⟩ := (mem_splitDecs t f dec).mp h
    exact hdec _ hn f s dec pr d l r rfl
  -- the decreases listed for a feature are positive, so every mean is non-negative
  have hds : ∀ f, ∀ x ∈ ((splitDecs t).filter fun fd => fd.1 == f).map (·.2), 0 < x := by
    intro f x hx
    obtain ⟨⟨f', dec⟩, hfd, rfl⟩ := List.mem_map.mp hx
    exact lt_of_lt_of_le hε (hsd f' dec (List.mem_filter.mp hfd).1).1
  have hnn : ∀ x ∈ meanDecrease t p, 0 ≤ x := fun x hx => by
    obtain ⟨f, _, rfl⟩ := List.mem_map.mp hx
    exact (mean_nonneg_pos _ (hds f)).1
  -- the root's feature has a positive mean, so the sum of the means is positive
  obtain ⟨f0, s0, dec0, pr0, d0, l0, r0, rfl⟩ := hsplit
  have hroot : (f0, dec0) ∈ splitDecs (Tree.node f0 s0 dec0 pr0 d0 l0 r0) :=
    (mem_splitDecs _ f0 dec0).mpr ⟨s0, pr0, d0, l0, r0, List.mem_cons_self⟩
  have hpos := (mean_nonneg_pos _ (hds f0)).2
    (List.ne_nil_of_mem (List.mem_map.mpr ⟨_, List.mem_filter.mpr ⟨hroot, beq_self_eq_true f0⟩, rfl⟩))
  refine sumS_normalize _ hnn ?_
  rw [sumS_eq_sum]
  exact lt_of_lt_of_le hpos (List.single_le_sum hnn _
    (List.mem_map.mpr ⟨f0, List.mem_range.mpr (hsd f0 dec0 hroot).2, rfl⟩))

end importance
end LinfaSpec.Tree
