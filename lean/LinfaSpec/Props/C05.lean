import LinfaSpec.Proofs.MetricsConfusion
import LinfaSpec.Proofs.MetricsRoc
import LinfaSpec.Proofs.MetricsReg
import LinfaSpec.Proofs.MetricsSil
import Mathlib.Tactic.NormNum
import Mathlib.Tactic.Positivity

/-!
# C05 — every evaluation metric equals its definition recomputed from first principles

Theorems about `LinfaSpec.Metrics` (the model of `metrics_classification.rs`,
`metrics_regression.rs`, `metrics_clustering.rs`, `correlation.rs`).  Label types are arbitrary
linear orders; numeric statements are over an arbitrary linearly ordered field, those that involve
`sqrt` / `ln` (MCC, log-loss, MSLE, Pearson, silhouette on records) over `ℝ` (the same definitions run
on `Float32`/`Float` in the driver).
-/
namespace LinfaSpec.Props.C05
open LinfaSpec LinfaSpec.Metrics

section Confusion
variable {L : Type} [LinearOrder L]

/-- `confusion_matrix` succeeds exactly on equally long inputs and is the counting loop run over the
class list -/
theorem confusion_eq (pred truth : List L) (h : pred.length = truth.length) :
    confusion pred truth = some (classes pred truth, countLoop (classes pred truth) (pred.zip truth)) :=
  if_neg (fun hne => hne h)

theorem confusion_mismatch (pred truth : List L) (h : pred.length ≠ truth.length) :
    confusion pred truth = none :=
  if_pos h

example : confusion [0, 1, 0, 1, 0, 1] [1, 1, 0, 1, 0, 1] = some ([1, 0], [[3, 0], [1, 2]]) := by decide +kernel

/-- the members are the union of both label sets, each once, in increasing order (decreasing when
there are exactly two) -/
theorem cm_members (pred truth : List L) :
    (classes pred truth).Nodup ∧ (∀ a, a ∈ classes pred truth ↔ a ∈ pred ∨ a ∈ truth) ∧
    (if (classes pred truth).length = 2 then (classes pred truth).Pairwise (· > ·)
     else (classes pred truth).Pairwise (· < ·)) := by
  refine ⟨nodup_classes pred truth, fun a => mem_classes a pred truth, ?_⟩
  by_cases h : (sortUniq (pred ++ truth)).length = 2
  · have hc : classes pred truth = (sortUniq (pred ++ truth)).reverse := if_pos h
    rw [hc, List.length_reverse, if_pos h]
    exact List.pairwise_reverse.mpr (sorted_sortUniq _)
  · have hc : classes pred truth = sortUniq (pred ++ truth) := if_neg h
    rw [hc, if_neg h]
    exact sorted_sortUniq _

example : classes [2, 0, 2] [1, 1, 0] = [0, 1, 2] ∧ classes [true, false] [true, true] = [true, false] := by
  decide +kernel

/-- **cells count pairs**: cell `(i, j)` is the number of samples predicted `cs[i]` whose truth is
`cs[j]` -/
theorem cm_cells_count (cs : List L) (hnd : cs.Nodup) (pairs : List (L × L)) (i j : Nat) (a b : L)
    (hi : cs[i]? = some a) (hj : cs[j]? = some b) :
    cell (countLoop cs pairs) i j = (pairs.filter fun p => p.1 = a ∧ p.2 = b).length :=
  cell_countLoop cs hnd pairs hi hj

example : cell (countLoop [2, 1, 0] [(2, 1), (0, 0), (2, 1), (1, 2)]) 0 1 = 2 := by decide +kernel

/-- every pair of a `confusion_matrix` call has both labels among the members -/
theorem pairs_in_classes (pred truth : List L) :
    ∀ p ∈ pred.zip truth, p.1 ∈ classes pred truth ∧ p.2 ∈ classes pred truth := by
  intro p hp
  have := List.of_mem_zip hp
  exact ⟨(mem_classes _ _ _).mpr (Or.inl this.1), (mem_classes _ _ _).mpr (Or.inr this.2)⟩

/-- **the cells sum to the number of samples** -/
theorem cm_sum (cs : List L) (hnd : cs.Nodup) (pairs : List (L × L))
    (hall : ∀ p ∈ pairs, p.1 ∈ cs ∧ p.2 ∈ cs) :
    total (countLoop cs pairs) = pairs.length :=
  total_countLoop_of_mem cs hnd pairs hall

theorem cm_sum_confusion (pred truth : List L) (h : pred.length = truth.length) :
    ∃ m, confusion pred truth = some (classes pred truth, m) ∧ total m = pred.length := by
  refine ⟨_, confusion_eq pred truth h, ?_⟩
  rw [cm_sum _ (nodup_classes _ _) _ (pairs_in_classes pred truth), List.length_zip, h, min_self]

/-- at the level of the call: for equally long inputs every cell of the returned
matrix is the number of samples predicted as the row's member whose truth is the column's member -/
theorem confusion_cells_count (pred truth : List L) (h : pred.length = truth.length) :
    ∃ m, confusion pred truth = some (classes pred truth, m) ∧
      ∀ i j a b, (classes pred truth)[i]? = some a → (classes pred truth)[j]? = some b →
        cell m i j = ((pred.zip truth).filter fun p => p.1 = a ∧ p.2 = b).length :=
  ⟨_, confusion_eq pred truth h, fun i j a b hi hj =>
    cm_cells_count _ (nodup_classes pred truth) _ i j a b hi hj⟩

example : ([0, 1, 1] : List Nat).length = ([1, 1, 0] : List Nat).length := rfl

/-- **cells sum, without the guard**: whatever the class list, the cells sum to the number of pairs
whose two labels both occur in it — the counting loop silently skips the others (`flatten`) -/
theorem cm_sum_dropped (cs : List L) (hnd : cs.Nodup) (pairs : List (L × L)) :
    total (countLoop cs pairs) = (pairs.filter fun p => p.1 ∈ cs ∧ p.2 ∈ cs).length :=
  total_countLoop cs hnd pairs

example : total (countLoop [0, 1] [(0, 1), (2, 1), (1, 1), (0, 3)]) = 2 := by decide +kernel

/-- **calling-form glue**: a receiver whose label set has exactly the members of its targets (every
array, view and dataset form; a `CountedTargets` that was not mutated after counting) gives the
matrix of the plain call -/
theorem confusion_with_own_labels (lp pred truth : List L) (h : ∀ a, a ∈ lp ↔ a ∈ pred) :
    confusionWith lp pred truth = confusion pred truth := by
  unfold confusionWith confusion
  rw [classes_congr lp truth pred truth (fun a => by simp only [List.mem_append, h a])]

/-- a receiver whose cached label set covers its targets (possibly with further labels) still counts
every sample; with a label missing from the cache a sample predicted as it is counted only if that
label occurs among the truths -/
theorem confusion_with_labels_sum (lp pred truth : List L) (h : pred.length = truth.length) :
    ∃ m, confusionWith lp pred truth = some (classes lp truth, m) ∧
      total m = ((pred.zip truth).filter fun p => p.1 ∈ lp ∨ p.1 ∈ truth).length ∧
      ((∀ a ∈ pred, a ∈ lp) → total m = pred.length) := by
  refine ⟨countLoop (classes lp truth) (pred.zip truth), if_neg (fun hne => hne h), ?_, ?_⟩
  · rw [cm_sum_dropped _ (nodup_classes lp truth)]
    apply length_filter_congr
    intro p hp
    rw [mem_classes, mem_classes]
    exact and_iff_left (Or.inr (List.of_mem_zip hp).2)
  · intro hcov
    rw [cm_sum _ (nodup_classes lp truth), List.length_zip, h, min_self]
    intro p hp
    have := List.of_mem_zip hp
    exact ⟨(mem_classes _ _ _).mpr (Or.inl (hcov _ this.1)), (mem_classes _ _ _).mpr (Or.inr this.2)⟩

example : confusionWith [0] [0, 2, 0] [0, 0, 1] = some ([1, 0], [[0, 0], [1, 1]]) ∧
    confusionWith [0, 2] [0, 2, 0] [0, 0, 1] = confusion [0, 2, 0] [0, 0, 1] := by decide +kernel

/-- the diagonal counts the equal pairs, so **accuracy is the fraction of equal labels** -/
theorem cm_diag_count (cs : List L) (hnd : cs.Nodup) (pairs : List (L × L))
    (hall : ∀ p ∈ pairs, p.1 ∈ cs ∧ p.2 ∈ cs) :
    diagSum (countLoop cs pairs) = (pairs.filter fun p => p.1 = p.2).length := by
  rw [diagSum_countLoop cs hnd]
  exact length_filter_congr _ fun p hp => and_iff_left (hall p hp).1

theorem accuracy_def {α : Type} [Field α] (cs : List L) (hnd : cs.Nodup) (pairs : List (L × L))
    (hall : ∀ p ∈ pairs, p.1 ∈ cs ∧ p.2 ∈ cs) :
    (accuracy (countLoop cs pairs) : α) =
      ((pairs.filter fun p => p.1 = p.2).length : α) / (pairs.length : α) := by
  unfold accuracy
  rw [cm_diag_count cs hnd pairs hall, cm_sum cs hnd pairs hall]

example : (accuracy (countLoop [1, 0] [(0, 1), (1, 1), (0, 0), (1, 1), (0, 0), (1, 1)]) : Rat) = 5 / 6 := by
  decide +kernel

theorem cm_row_count (cs : List L) (hnd : cs.Nodup) (pairs : List (L × L))
    (hall : ∀ p ∈ pairs, p.1 ∈ cs ∧ p.2 ∈ cs) (i : Nat) (c : L) (hi : cs[i]? = some c) :
    rowSum (countLoop cs pairs) i = (pairs.filter fun p => p.1 = c).length :=
  rowSum_countLoop_of_mem cs hnd pairs hall hi

theorem cm_col_count (cs : List L) (hnd : cs.Nodup) (pairs : List (L × L))
    (hall : ∀ p ∈ pairs, p.1 ∈ cs ∧ p.2 ∈ cs) (j : Nat) (c : L) (hj : cs[j]? = some c) :
    colSum (countLoop cs pairs) j = (pairs.filter fun p => p.2 = c).length :=
  colSum_countLoop_of_mem cs hnd pairs hall hj

/-- **one-vs-all split**: the matrix of class `c` is `[[tp, fp], [fn, tn]]`, each entry the count of
the corresponding kind of sample -/
theorem ova_split_cells (cs : List L) (hnd : cs.Nodup) (pairs : List (L × L))
    (hall : ∀ p ∈ pairs, p.1 ∈ cs ∧ p.2 ∈ cs) (i : Nat) (c : L) (hi : cs[i]? = some c) :
    (splitOneVsAll (countLoop cs pairs))[i]? = some
      [[(pairs.filter fun p => p.1 = c ∧ p.2 = c).length, (pairs.filter fun p => p.1 = c ∧ ¬ p.2 = c).length],
       [(pairs.filter fun p => ¬ p.1 = c ∧ p.2 = c).length, (pairs.filter fun p => ¬ p.1 = c ∧ ¬ p.2 = c).length]] := by
  rw [splitOneVsAll_countLoop cs hnd pairs hall, List.getElem?_map, hi]
  rfl

example : splitOneVsAll (countLoop [0, 1, 2] [(0, 0), (1, 2), (1, 1), (2, 1), (1, 0)]) =
    [[[1, 0], [1, 3]], [[1, 2], [1, 1]], [[0, 1], [1, 3]]] := by decide +kernel

/-- **one-vs-one split**: one matrix per pair `i < j` of distinct classes, `N(N-1)/2` in all, built
from the four cells of the two classes -/
theorem ovo_split_cells (m : List (List Nat)) :
    splitOneVsOne m = (List.range m.length).flatMap (fun i =>
      ((List.range m.length).filter fun j => i < j).map fun j =>
        [[cell m i i, cell m i j], [cell m j i, cell m j j]]) ∧
    2 * (splitOneVsOne m).length = m.length * (m.length - 1) := by
  refine ⟨rfl, ?_⟩
  unfold splitOneVsOne
  simp only [List.length_flatMap, List.length_map, length_filter_lt_range]
  exact two_mul_sum_range_sub m.length

example : splitOneVsOne [[1, 2, 3], [4, 5, 6], [7, 8, 9]] =
    [[[1, 2], [4, 5]], [[1, 3], [7, 9]], [[5, 6], [8, 9]]] := by decide +kernel

/-- **permutation invariance of the confusion matrix**: permuting the (prediction, truth) pairs
changes neither the members nor any cell (all derived scores are functions of these) -/
theorem perm_invariant_cm (pred truth pred' truth' : List L)
    (h : (pred.zip truth).Perm (pred'.zip truth')) (hp : pred.Perm pred') (ht : truth.Perm truth') :
    classes pred truth = classes pred' truth' ∧
    ∀ i j, cell (countLoop (classes pred truth) (pred.zip truth)) i j =
           cell (countLoop (classes pred' truth') (pred'.zip truth')) i j := by
  have hc : classes pred truth = classes pred' truth' := by
    apply classes_congr
    intro a
    simp only [List.mem_append, hp.mem_iff, ht.mem_iff]
  refine ⟨hc, fun i j => ?_⟩
  rw [← hc]
  exact cell_countLoop_perm _ h i j

example : (([0, 1, 1].zip [1, 1, 0]).Perm ([1, 0, 1].zip [0, 1, 1])) := by decide +kernel

/-- `precision()` / `recall()` / `f_score` are the documented functions of the cells: on a 2×2
matrix `m00/(m00+m10)` resp. `m00/(m00+m01)`, otherwise the macro average of these over the
one-vs-all splits; `F_β = (1+β²)·p·r / (β²·p + r)` -/
theorem precision_recall_documented {α : Type} [Field α] (m : List (List Nat)) :
    (m.length = 2 → (precision m : α) = (cell m 0 0 : α) / ((cell m 0 0 : α) + (cell m 1 0 : α)) ∧
                    (recall m : α) = (cell m 0 0 : α) / ((cell m 0 0 : α) + (cell m 0 1 : α))) ∧
    (m.length ≠ 2 →
      (precision m : α) = ((splitOneVsAll m).map fun s =>
          (cell s 0 0 : α) / ((cell s 0 0 : α) + (cell s 1 0 : α))).sum / (m.length : α) ∧
      (recall m : α) = ((splitOneVsAll m).map fun s =>
          (cell s 0 0 : α) / ((cell s 0 0 : α) + (cell s 0 1 : α))).sum / (m.length : α)) ∧
    ∀ β : α, fScore β m = (1 + β * β) * ((precision m : α) * recall m) / (β * β * precision m + recall m) := by
  refine ⟨fun h => ?_, fun h => ?_, fun β => rfl⟩
  · simp only [precision, recall, h, if_true]
    exact ⟨rfl, rfl⟩
  · simp only [precision, recall, h, if_false, sumS_eq_sum]
    exact ⟨rfl, rfl⟩

example : (precision [[3, 0], [1, 2]] : Rat) = 3 / 4 ∧ (recall [[3, 0], [1, 2]] : Rat) = 1 ∧
    (fScore 1 [[3, 0], [1, 2]] : Rat) = 6 / 7 := by
  refine ⟨by decide +kernel, by decide +kernel, by decide +kernel⟩

end Confusion

section Mcc

/-- **Matthews correlation, binary case**: the general triple loop of `mcc()` evaluated on a 2×2
matrix `[[tp, fp], [fn, tn]]` is `(tp·tn − fp·fn) / √((tp+fp)(fn+tn)(tp+fn)(fp+tn))` -/
theorem mcc_binary (a b c d : Nat) :
    (mcc [[a, b], [c, d]] : ℝ) =
      ((a : ℝ) * d - (b : ℝ) * c) /
        Real.sqrt ((((a : ℝ) + b) * ((c : ℝ) + d)) * (((a : ℝ) + c) * ((b : ℝ) + d))) := by
  rw [mcc_two_by_two, div_div, ← Real.sqrt_mul (by positivity)]
  have : 2 * (((a : ℝ) + b) * ((c : ℝ) + d)) * (2 * (((a : ℝ) + c) * ((b : ℝ) + d))) =
      (2 : ℝ) ^ 2 * ((((a : ℝ) + b) * ((c : ℝ) + d)) * (((a : ℝ) + c) * ((b : ℝ) + d))) := by ring
  rw [this, Real.sqrt_mul (by positivity), Real.sqrt_sq (by norm_num)]
  rw [mul_div_mul_left _ _ two_ne_zero]

example : (mcc [[3, 0], [1, 2]] : ℝ) = 6 / Real.sqrt 72 := by
  rw [mcc_binary]; norm_num

/-- **Matthews correlation, any number of classes**: on a `k × k` matrix the triple loop of `mcc()`
is the multi-class coefficient `(c·s − Σ_k p_k·t_k) / √(Σ_k p_k (s − p_k)) / √(Σ_k t_k (s − t_k))`
with `c` the number of correct samples (trace), `s` the number of samples, `p_k` / `t_k` the number
of samples predicted as / truly of class `k` (row and column sums) -/
theorem mcc_multiclass (k : Nat) (m : List (List Nat)) (h : Square k m) :
    (mcc m : ℝ) =
      (((diagSum m : Nat) : ℝ) * ((total m : Nat) : ℝ) -
          ((List.range k).map fun a => ((rowSum m a : Nat) : ℝ) * ((colSum m a : Nat) : ℝ)).sum) /
        Real.sqrt (((List.range k).map fun a =>
          ((rowSum m a : Nat) : ℝ) * (((total m : Nat) : ℝ) - ((rowSum m a : Nat) : ℝ))).sum) /
        Real.sqrt (((List.range k).map fun a =>
          ((colSum m a : Nat) : ℝ) * (((total m : Nat) : ℝ) - ((colSum m a : Nat) : ℝ))).sum) := by
  unfold mcc
  simp only [h.1, Transc.sqrt]
  rw [mcc_covXY h, foldl_add, foldl_add]
  simp

example : Square 3 [[2, 0, 1], [1, 3, 0], [0, 1, 2]] := by
  refine ⟨rfl, ?_⟩
  intro r hr
  simp only [List.mem_cons, List.not_mem_nil, or_false] at hr
  rcases hr with rfl | rfl | rfl <;> rfl

/-- **Matthews correlation of a confusion matrix, in terms of the samples**: with `n` samples, `c`
of them predicted correctly, `p_l` predicted as class `l` and `t_l` truly of class `l`, `mcc()` of
the matrix built by `confusion_matrix` is `(c·n − Σ_l p_l·t_l) / √(Σ_l p_l(n−p_l)) / √(Σ_l t_l(n−t_l))` -/
theorem mcc_confusion {L : Type} [LinearOrder L] (cs : List L) (hnd : cs.Nodup) (pairs : List (L × L))
    (hall : ∀ p ∈ pairs, p.1 ∈ cs ∧ p.2 ∈ cs) :
    (mcc (countLoop cs pairs) : ℝ) =
      (((pairs.filter fun p => p.1 = p.2).length : ℝ) * (pairs.length : ℝ) -
          (cs.map fun c => ((pairs.filter fun p => p.1 = c).length : ℝ) *
            ((pairs.filter fun p => p.2 = c).length : ℝ)).sum) /
        Real.sqrt ((cs.map fun c => ((pairs.filter fun p => p.1 = c).length : ℝ) *
          ((pairs.length : ℝ) - ((pairs.filter fun p => p.1 = c).length : ℝ))).sum) /
        Real.sqrt ((cs.map fun c => ((pairs.filter fun p => p.2 = c).length : ℝ) *
          ((pairs.length : ℝ) - ((pairs.filter fun p => p.2 = c).length : ℝ))).sum) := by
  rw [mcc_multiclass cs.length _ (countLoop_square cs pairs), cm_diag_count cs hnd pairs hall,
    cm_sum cs hnd pairs hall,
    map_marginals_countLoop cs hnd pairs hall (fun r c => (r : ℝ) * c),
    map_marginals_countLoop cs hnd pairs hall (fun r _ => (r : ℝ) * ((pairs.length : ℝ) - r)),
    map_marginals_countLoop cs hnd pairs hall (fun _ c => (c : ℝ) * ((pairs.length : ℝ) - c))]

example : ([0, 1, 2] : List Nat).Nodup ∧ ∀ p ∈ [(0, 1), (2, 2), (1, 1)], p.1 ∈ [0, 1, 2] ∧ p.2 ∈ [0, 1, 2] := by
  decide +kernel

end Mcc

section CallLevel
variable {L : Type} [LinearOrder L]

/-- **accuracy at the level of the call**: for equally long inputs the accuracy of the returned
matrix is the fraction of samples whose two labels are equal (no side hypotheses left) -/
theorem accuracy_confusion {α : Type} [Field α] (pred truth : List L) (h : pred.length = truth.length) :
    ∃ m, confusion pred truth = some (classes pred truth, m) ∧
      (accuracy m : α) = (((pred.zip truth).filter fun p => p.1 = p.2).length : α) / (pred.length : α) := by
  refine ⟨_, confusion_eq pred truth h, ?_⟩
  rw [accuracy_def _ (nodup_classes pred truth) _ (pairs_in_classes pred truth), List.length_zip, h, min_self]

example : (([0, 1, 1].zip [1, 1, 0]).filter fun p : Nat × Nat => p.1 = p.2).length = 1 := by decide +kernel

/-- **Matthews correlation at the level of the call** -/
theorem mcc_confusion_call (pred truth : List L) (h : pred.length = truth.length) :
    ∃ m, confusion pred truth = some (classes pred truth, m) ∧
      (mcc m : ℝ) =
        ((((pred.zip truth).filter fun p => p.1 = p.2).length : ℝ) * ((pred.zip truth).length : ℝ) -
          ((classes pred truth).map fun c => (((pred.zip truth).filter fun p => p.1 = c).length : ℝ) *
            (((pred.zip truth).filter fun p => p.2 = c).length : ℝ)).sum) /
        Real.sqrt (((classes pred truth).map fun c => (((pred.zip truth).filter fun p => p.1 = c).length : ℝ) *
          (((pred.zip truth).length : ℝ) - (((pred.zip truth).filter fun p => p.1 = c).length : ℝ))).sum) /
        Real.sqrt (((classes pred truth).map fun c => (((pred.zip truth).filter fun p => p.2 = c).length : ℝ) *
          (((pred.zip truth).length : ℝ) - (((pred.zip truth).filter fun p => p.2 = c).length : ℝ))).sum) :=
  ⟨_, confusion_eq pred truth h, mcc_confusion _ (nodup_classes pred truth) _ (pairs_in_classes pred truth)⟩

example : ([0, 1, 2] : List Nat).length = ([2, 1, 0] : List Nat).length := rfl

/-- **one-vs-one split in terms of the samples**: the matrices of `split_one_vs_one` are exactly the
`[[N(a,a), N(a,b)], [N(b,a), N(b,b)]]` for the pairs of members `a = cs[i]`, `b = cs[j]`, `i < j`, with
`N(a,b)` the number of samples predicted `a` whose truth is `b` (`ovo_split_cells` counts them: N(N-1)/2) -/
theorem ovo_split_counts (cs : List L) (hnd : cs.Nodup) (pairs : List (L × L)) :
    (∀ M ∈ splitOneVsOne (countLoop cs pairs), ∃ (i j : Nat) (a b : L), i < j ∧ cs[i]? = some a ∧ cs[j]? = some b ∧
        M = [[pairCount pairs a a, pairCount pairs a b], [pairCount pairs b a, pairCount pairs b b]]) ∧
    (∀ (i j : Nat) (a b : L), i < j → cs[i]? = some a → cs[j]? = some b →
        [[pairCount pairs a a, pairCount pairs a b], [pairCount pairs b a, pairCount pairs b b]] ∈
          splitOneVsOne (countLoop cs pairs)) := by
  have hlen : (countLoop cs pairs).length = cs.length := (countLoop_square cs pairs).1
  constructor
  · intro M hM
    obtain ⟨i, j, hij, hj, rfl⟩ := (mem_splitOneVsOne _ _).mp hM
    rw [hlen] at hj
    have hi : i < cs.length := hij.trans hj
    have ha : cs[i]? = some cs[i] := List.getElem?_eq_getElem hi
    have hb : cs[j]? = some cs[j] := List.getElem?_eq_getElem hj
    exact ⟨i, j, cs[i], cs[j], hij, ha, hb, ovoMatrix_countLoop cs hnd pairs ha hb⟩
  · intro i j a b hij ha hb
    rw [← ovoMatrix_countLoop cs hnd pairs ha hb]
    exact (mem_splitOneVsOne _ _).mpr ⟨i, j, hij, by rw [hlen]; exact (List.getElem?_eq_some_iff.mp hb).1, rfl⟩

example : splitOneVsOne (countLoop [0, 1, 2] [(0, 0), (1, 2), (1, 1), (2, 1), (1, 0)]) =
    [[[1, 0], [1, 1]], [[1, 0], [0, 0]], [[1, 1], [1, 0]]] := by decide +kernel

/-- **precision and recall of a binary matrix in terms of the samples**: with members `[c0, c1]`
precision is `N(c0,c0) / (N(c0,c0) + N(c1,c0))` and recall `N(c0,c0) / (N(c0,c0) + N(c0,c1))` -/
theorem precision_recall_counts_binary {α : Type} [Field α] (c0 c1 : L) (hne : c0 ≠ c1) (pairs : List (L × L)) :
    (precision (countLoop [c0, c1] pairs) : α) =
      (pairCount pairs c0 c0 : α) / ((pairCount pairs c0 c0 : α) + (pairCount pairs c1 c0 : α)) ∧
    (recall (countLoop [c0, c1] pairs) : α) =
      (pairCount pairs c0 c0 : α) / ((pairCount pairs c0 c0 : α) + (pairCount pairs c0 c1 : α)) := by
  have hnd : ([c0, c1] : List L).Nodup := by simp [hne]
  have hlen : (countLoop [c0, c1] pairs).length = 2 := (countLoop_square [c0, c1] pairs).1
  obtain ⟨hp, hr⟩ := (precision_recall_documented (α := α) (countLoop [c0, c1] pairs)).1 hlen
  rw [hp, hr, cm_cells_count _ hnd pairs 0 0 c0 c0 rfl rfl, cm_cells_count _ hnd pairs 1 0 c1 c0 rfl rfl,
    cm_cells_count _ hnd pairs 0 1 c0 c1 rfl rfl]
  exact ⟨rfl, rfl⟩

example : (precision (countLoop [1, 0] [(0, 1), (1, 1), (0, 0), (1, 1), (0, 0), (1, 1)]) : Rat) = 3 / 4 := by
  decide +kernel

/-- **macro-averaged precision and recall in terms of the samples** (any number of classes other than
two): the mean over the members `c` of `TP_c / (TP_c + #{pred ≠ c, truth = c})` resp.
`TP_c / (TP_c + #{pred = c, truth ≠ c})` -/
theorem precision_recall_counts_macro {α : Type} [Field α] (cs : List L) (hnd : cs.Nodup) (pairs : List (L × L))
    (hall : ∀ p ∈ pairs, p.1 ∈ cs ∧ p.2 ∈ cs) (h2 : cs.length ≠ 2) :
    (precision (countLoop cs pairs) : α) =
      (cs.map fun c => ((pairs.filter fun p => p.1 = c ∧ p.2 = c).length : α) /
        (((pairs.filter fun p => p.1 = c ∧ p.2 = c).length : α) +
          ((pairs.filter fun p => ¬ p.1 = c ∧ p.2 = c).length : α))).sum / (cs.length : α) ∧
    (recall (countLoop cs pairs) : α) =
      (cs.map fun c => ((pairs.filter fun p => p.1 = c ∧ p.2 = c).length : α) /
        (((pairs.filter fun p => p.1 = c ∧ p.2 = c).length : α) +
          ((pairs.filter fun p => p.1 = c ∧ ¬ p.2 = c).length : α))).sum / (cs.length : α) := by
  have hlen : (countLoop cs pairs).length = cs.length := (countLoop_square cs pairs).1
  obtain ⟨hp, hr⟩ := (precision_recall_documented (α := α) (countLoop cs pairs)).2.1 (by rw [hlen]; exact h2)
  rw [hp, hr, hlen, splitOneVsAll_countLoop cs hnd pairs hall, List.map_map, List.map_map]
  exact ⟨rfl, rfl⟩

example : ([0, 1, 2] : List Nat).length ≠ 2 := by decide +kernel

end CallLevel

section Roc
variable {α : Type} [Field α] [LinearOrder α] [IsStrictOrderedRing α]

/-- the curve computed by `roc` with the group marker initially `None` (the code), spelled out -/
theorem roc_curve_eq (eps : α) (samples : List (α × Bool)) (hnn : ∀ x ∈ samples, 0 ≤ x.1) :
    (roc eps none samples).1 =
      let st := (sortByScore samples).foldl (rocStep eps) { tp := 0, fp := 0, s0 := none, pts := [], thr := [] }
      (st.pts ++ [(st.tp, st.fp)]).map fun p => (p.1 / st.tp, p.2 / st.fp) :=
  congrArg Prod.fst (roc_eq_of_nonneg eps none samples hnn)

/-- **the ROC curve starts at (0,0) and ends at (1,1)** whenever both classes are present -/
theorem roc_ends (eps : α) (samples : List (α × Bool)) (hnn : ∀ x ∈ samples, 0 ≤ x.1)
    (hpos : countPos samples ≠ 0) (hneg : countNeg samples ≠ 0) :
    (roc eps none samples).1.head? = some (0, 0) ∧ (roc eps none samples).1.getLast? = some (1, 1) := by
  rw [roc_curve_eq eps samples hnn]
  obtain ⟨htp, hfp⟩ := rocFold_sorted_counts eps samples
  have hhead := rocFold_head eps (sortByScore samples) { tp := 0, fp := 0, s0 := none, pts := [], thr := [] }
    (Or.inr ⟨rfl, rfl, rfl, rfl⟩)
  simp only
  constructor
  · rw [List.head?_map, hhead, Option.map_some, zero_div, zero_div]
  · rw [List.map_append, List.getLast?_append, List.map_singleton, List.getLast?_singleton, htp, hfp,
      div_self hpos, div_self hneg]
    rfl

set_option linter.unusedVariables false in
/-- **the ROC curve is monotone**: both coordinates are non-decreasing along the curve -/
theorem roc_monotone (eps : α) (samples : List (α × Bool)) (hnn : ∀ x ∈ samples, 0 ≤ x.1) :
    (roc eps none samples).1.Pairwise fun p q => p.1 ≤ q.1 ∧ p.2 ≤ q.2 :=
  roc_pairwise_le eps none samples

example : (roc (0 : Rat) none [(0, true), (0, false), (1/2, false), (1, true)]).1 =
    [(0, 0), (1/2, 1/2), (1/2, 1), (1, 1)] := by decide +kernel

/-- **ROC AUC equals the Mann-Whitney rank statistic with ties counted one half**, for a grouping
threshold `eps` that separates the distinct scores.  Scores are non-negative (the code drops negative
ones); if a class is absent both sides are `x / 0`.  The code is the instance `eps = 0`
(`roc_group_test_is_inequality`, `auc_eq_mannWhitney_exact`); `eps = 1e-10` is the group test
`roc_epsilon_grouping_defect` is about. -/
theorem auc_eq_mannWhitney (eps : α) (heps : 0 ≤ eps) (samples : List (α × Bool))
    (hnn : ∀ x ∈ samples, 0 ≤ x.1)
    (hsep : ∀ x ∈ samples, ∀ y ∈ samples, x.1 ≠ y.1 → eps < |x.1 - y.1|) :
    auc eps none samples = mannWhitney samples := by
  unfold auc
  rw [roc_curve_eq eps samples hnn]
  obtain ⟨sh, ar⟩ := rocInv_sorted eps heps samples hsep
  simp only
  rw [trapezoid_scale, mannWhitney_perm (perm_sortByScore samples).symm]
  unfold mannWhitney
  rw [countPos_eq, countNeg_eq, ← sh.tp_eq, ← sh.fp_eq, ← ar.area, mul_div_mul_left _ _ two_ne_zero]

example : auc (0 : Rat) none [(0, true), (0, false), (1/2, false), (1, true)] = 5 / 8 ∧
    mannWhitney [((0 : Rat), true), (0, false), (1/2, false), (1, true)] = 5 / 8 := by
  refine ⟨by decide +kernel, by decide +kernel⟩

/-- **the ROC curve and its thresholds from first principles** (non-negative scores whose distinct
values differ by more than `eps`): the thresholds are the distinct scores in increasing order; the
curve has, for every threshold `s`, the point (fraction of positives scored below `s`, fraction of
negatives scored below `s`) and ends with `(P/P, N/N)`.  `nBelow l c (some s)` is the number of
samples of class `c` with score `< s`, `nBelow l c none` the number of samples of class `c`. -/
theorem roc_curve_def (eps : α) (heps : 0 ≤ eps) (samples : List (α × Bool))
    (hnn : ∀ x ∈ samples, 0 ≤ x.1)
    (hsep : ∀ x ∈ samples, ∀ y ∈ samples, x.1 ≠ y.1 → eps < |x.1 - y.1|) :
    ∃ thr : List α, thr.Pairwise (· < ·) ∧ (∀ s, s ∈ thr ↔ ∃ y ∈ samples, y.1 = s) ∧
      (roc eps none samples).2 = thr ∧
      (roc eps none samples).1 =
        (thr.map fun s => ((nBelow samples true (some s) : α) / (nBelow samples true none : α),
                           (nBelow samples false (some s) : α) / (nBelow samples false none : α))) ++
        [((nBelow samples true none : α) / (nBelow samples true none : α),
          (nBelow samples false none : α) / (nBelow samples false none : α))] :=
  roc_shape eps heps samples hnn hsep

example : nBelow [((0 : Rat), true), (0, false), (1/2, false), (1, true)] false (some (1 : Rat)) = 2 ∧
    nBelow [((0 : Rat), true), (0, false), (1/2, false), (1, true)] true none = 2 := by
  refine ⟨by decide +kernel, by decide +kernel⟩

/-- **the ROC curve, its thresholds and the AUC are unchanged by one permutation applied to scores
and labels together** -/
theorem perm_invariant_roc (eps : α) (heps : 0 ≤ eps) (samples samples' : List (α × Bool))
    (hnn : ∀ x ∈ samples, 0 ≤ x.1)
    (hsep : ∀ x ∈ samples, ∀ y ∈ samples, x.1 ≠ y.1 → eps < |x.1 - y.1|)
    (h : samples.Perm samples') :
    roc eps none samples = roc eps none samples' ∧ auc eps none samples = auc eps none samples' := by
  have hnn' : ∀ x ∈ samples', 0 ≤ x.1 := fun x hx => hnn x (h.mem_iff.mpr hx)
  have hsep' : ∀ x ∈ samples', ∀ y ∈ samples', x.1 ≠ y.1 → eps < |x.1 - y.1| :=
    fun x hx y hy => hsep x (h.mem_iff.mpr hx) y (h.mem_iff.mpr hy)
  obtain ⟨thr, hs, hm, ht, hc⟩ := roc_shape eps heps samples hnn hsep
  obtain ⟨thr', hs', hm', ht', hc'⟩ := roc_shape eps heps samples' hnn' hsep'
  have hthr : thr = thr' := by
    apply hs.eq_of_mem_iff hs'
    intro a
    rw [hm a, hm' a]
    constructor
    · rintro ⟨y, hy, hya⟩; exact ⟨y, h.mem_iff.mp hy, hya⟩
    · rintro ⟨y, hy, hya⟩; exact ⟨y, h.mem_iff.mpr hy, hya⟩
  have hroc : roc eps none samples = roc eps none samples' := by
    apply Prod.ext
    · rw [hc, hc', hthr]
      simp only [nBelow_perm h]
    · rw [ht, ht', hthr]
  exact ⟨hroc, by unfold auc; rw [hroc]⟩

example : ([((0 : Rat), true), (1/2, false), (1, true)]).Perm [(1, true), (0, true), (1/2, false)] := by decide +kernel

/-- the defect that was repaired: with the original sentinel `s0 = 0.0` the curve of the same four
samples does not start at the origin and the area is 1/2, not the Mann-Whitney value 5/8 -/
theorem roc_sentinel_defect :
    (roc (0 : Rat) (some 0) [(0, true), (0, false), (1/2, false), (1, true)]).1 = [(1/2, 1/2), (1/2, 1), (1, 1)] ∧
    auc (0 : Rat) (some 0) [(0, true), (0, false), (1/2, false), (1, true)] = 1 / 2 := by
  refine ⟨by decide +kernel, by decide +kernel⟩

end Roc

section RocExact
variable {α : Type} [Field α] [LinearOrder α] [IsStrictOrderedRing α]

/-- the group test of the code, `s0.map_or(true, |s0| *s != s0)`, is the model's
`isFresh 0` (the driver runs `roc 0 none`) -/
theorem roc_group_test_is_inequality (s0 s : α) :
    isFresh (0 : α) (some s0) s = decide (s ≠ s0) ∧ isFresh (0 : α) none s = true := by
  refine ⟨?_, rfl⟩
  show decide ((0 : α) < absS (s - s0)) = decide (s ≠ s0)
  rw [absS_eq_abs]
  exact decide_eq_decide.mpr (by rw [abs_pos, sub_ne_zero])

example : isFresh (0 : Rat) (some (1/2)) (1/2) = false ∧ isFresh (0 : Rat) (some (1/2)) (3/4) = true := by
  decide +kernel

/-- **ROC AUC equals the Mann-Whitney rank statistic with ties counted one half — for ALL non-negative
score vectors** (no separation hypothesis: the code groups exactly the equal scores).
If a class is absent both sides are `x / 0`. -/
theorem auc_eq_mannWhitney_exact (samples : List (α × Bool)) (hnn : ∀ x ∈ samples, 0 ≤ x.1) :
    auc (0 : α) none samples = mannWhitney samples :=
  auc_eq_mannWhitney 0 le_rfl samples hnn (sep_zero samples)

example : auc (0 : Rat) none [(1/20000000000, false), (3/25000000000, true)] = 1 ∧
    mannWhitney [((1/20000000000 : Rat), false), (3/25000000000, true)] = 1 := by
  refine ⟨by decide +kernel, by decide +kernel⟩

/-- the curve and its thresholds from first principles, for all non-negative score vectors -/
theorem roc_curve_def_exact (samples : List (α × Bool)) (hnn : ∀ x ∈ samples, 0 ≤ x.1) :
    ∃ thr : List α, thr.Pairwise (· < ·) ∧ (∀ s, s ∈ thr ↔ ∃ y ∈ samples, y.1 = s) ∧
      (roc (0 : α) none samples).2 = thr ∧
      (roc (0 : α) none samples).1 =
        (thr.map fun s => ((nBelow samples true (some s) : α) / (nBelow samples true none : α),
                           (nBelow samples false (some s) : α) / (nBelow samples false none : α))) ++
        [((nBelow samples true none : α) / (nBelow samples true none : α),
          (nBelow samples false none : α) / (nBelow samples false none : α))] :=
  roc_shape 0 le_rfl samples hnn (sep_zero samples)

example : ∀ x ∈ [((1/20000000000 : Rat), false), (3/25000000000, true)], 0 ≤ x.1 := by decide +kernel

/-- curve, thresholds and AUC are unchanged by a joint permutation, for all non-negative score vectors -/
theorem perm_invariant_roc_exact (samples samples' : List (α × Bool)) (hnn : ∀ x ∈ samples, 0 ≤ x.1)
    (h : samples.Perm samples') :
    roc (0 : α) none samples = roc (0 : α) none samples' ∧ auc (0 : α) none samples = auc (0 : α) none samples' :=
  perm_invariant_roc 0 le_rfl samples samples' hnn (sep_zero samples) h

example : ([((0 : Rat), true), (1/2, false)]).Perm [(1/2, false), (0, true)] := by decide +kernel

/-- the grouping defect that was repaired: with the original group test `|s - s0| > 1e-10` two
saturated probabilities `5e-11` (negative) and `1.2e-10` (positive) were merged into one group — the
curve was the diagonal, the area 1/2, where the Mann-Whitney statistic is 1 -/
theorem roc_epsilon_grouping_defect :
    (roc (1/10000000000 : Rat) none [(1/20000000000, false), (3/25000000000, true)]).1 = [(0, 0), (1, 1)] ∧
    auc (1/10000000000 : Rat) none [(1/20000000000, false), (3/25000000000, true)] = 1 / 2 ∧
    mannWhitney [((1/20000000000 : Rat), false), (3/25000000000, true)] = 1 := by
  refine ⟨by decide +kernel, by decide +kernel, by decide +kernel⟩

end RocExact

section Regression
variable {α : Type} [Field α] [LinearOrder α] [IsStrictOrderedRing α]

/-- mean absolute / squared error and R² are their textbook formulas (R² carries the code's
`tiny = 1e-10` in the denominator) -/
theorem regression_means_def (tiny : α) (a b : List α) (h : List.zipWith (· - ·) a b ≠ []) (hb : b ≠ []) :
    meanAbsError a b = some ((List.zipWith (fun x y => |x - y|) a b).sum / ((List.zipWith (· - ·) a b).length : α)) ∧
    meanSqError a b = some ((List.zipWith (fun x y => (x - y) * (x - y)) a b).sum / ((List.zipWith (· - ·) a b).length : α)) ∧
    r2 tiny a b = some (1 - (List.zipWith (fun x y => (x - y) * (x - y)) a b).sum /
      ((b.map fun y => (y - b.sum / (b.length : α)) * (y - b.sum / (b.length : α))).sum + tiny)) := by
  refine ⟨?_, ?_, ?_⟩
  · unfold meanAbsError
    rw [map_absS_subL]
    exact meanS_zipWith _ a b h
  · unfold meanSqError
    rw [map_subL]
    exact meanS_zipWith _ a b h
  · unfold r2
    rw [meanS_eq _ hb, Option.map_some, map_subL, sumS_eq_sum, sqDevSum, sumS_eq_sum]

example : meanAbsError [1, 3, (2 : Rat)] [2, 1, 2] = some 1 ∧ meanSqError [1, 3, (2 : Rat)] [2, 1, 2] = some (5 / 3) := by
  refine ⟨by decide +kernel, by decide +kernel⟩

/-- `max_error` is the largest absolute difference: an upper bound that is attained -/
theorem max_error_def (a b : List α) (v : α) (h : maxError a b = some v) :
    (∀ e ∈ List.zipWith (fun x y => |x - y|) a b, e ≤ v) ∧ v ∈ List.zipWith (fun x y => |x - y|) a b := by
  unfold maxError at h
  rw [map_absS_subL] at h
  generalize List.zipWith (fun x y => |x - y|) a b = l at h
  cases l with
  | nil => exact absurd h (by simp)
  | cons x xs =>
    rw [← Option.some.inj h]
    exact foldl_maxS_spec xs x

example : maxError [1, 5, (2 : Rat)] [2, 1, 2] = some 4 := by decide +kernel

/-- **explained variance is not the textbook quantity**: on the vector of linfa's own unit test the
code's formula gives `4/5` where `1 - Var(err)/Var(truth)` is `12/25`; shifting the prediction by 10
changes the value although the explained variance is shift invariant.  (Open finding
`C05-explained-variance-mean-error`; `test_explained_variance_for_single_targets` pins `0.8`.) -/
theorem explained_variance_not_textbook :
    explainedVariance (0 : Rat) [1/10, 3/10, 2/10, 5/10, 7/10] [0, 1/10, 2/10, 3/10, 4/10] = some (4 / 5) ∧
    explainedVarianceSpec [1/10, 3/10, 2/10, 5/10, 7/10] [0, 1/10, 2/10, 3/10, (4/10 : Rat)] = some (12 / 25) ∧
    explainedVariance (0 : Rat) [101/10, 103/10, 102/10, 105/10, 107/10] [0, 1/10, 2/10, 3/10, 4/10] ≠
      explainedVariance (0 : Rat) [1/10, 3/10, 2/10, 5/10, 7/10] [0, 1/10, 2/10, 3/10, 4/10] ∧
    explainedVarianceSpec [101/10, 103/10, 102/10, 105/10, 107/10] [0, 1/10, 2/10, 3/10, (4/10 : Rat)] = some (12 / 25) := by
  refine ⟨by decide +kernel, by decide +kernel, by decide +kernel, by decide +kernel⟩

/-- The full statement `explainedVariance 0 a b = explainedVarianceSpec a b` for all `a`, `b` is false
of the code (`explained_variance_not_textbook`).  It holds under the extra hypothesis that the mean
error `m` satisfies `m = n·m²` (i.e. `m = 0` or `m = 1/n`), which is exactly when the code's
`Σe² - m` equals `Σ(e - m)² = Σe² - n·m²`. -/
theorem explained_variance_partial (a b : List α)
    (hm : ∀ m, meanS (subL a b) = some m → m = ((subL a b).length : α) * (m * m)) :
    explainedVariance 0 a b = explainedVarianceSpec a b := by
  rw [explainedVariance_of_mean_cond 0 a b hm]
  simp only [add_zero]
  rfl

example : meanS (subL [1, 3, (2 : Rat)] [2, 1, 3]) = some 0 := by decide +kernel

end Regression

section ExplainedVarianceCoded
variable {α : Type} [Field α] [LinearOrder α] [IsStrictOrderedRing α]

/-- **what `explained_variance` computes, with the regulariser the driver runs (`tiny = 1e-10`)**:
`1 − (Σe² − mean e) / (Σ(y − ȳ)² + tiny)` — the value the open finding's class
`value=sum_sq_minus_mean_error` recognises -/
theorem explained_variance_coded_def (tiny : α) (a b : List α) (h : List.zipWith (· - ·) a b ≠ []) (hb : b ≠ []) :
    explainedVariance tiny a b = some (1 - ((List.zipWith (fun x y => (x - y) * (x - y)) a b).sum -
        (List.zipWith (· - ·) a b).sum / ((List.zipWith (· - ·) a b).length : α)) /
      ((b.map fun y => (y - b.sum / (b.length : α)) * (y - b.sum / (b.length : α))).sum + tiny)) := by
  unfold explainedVariance
  rw [meanS_eq _ hb, Option.bind_some, meanS_eq _ (show subL a b ≠ [] from h), Option.map_some, map_subL,
    sumS_eq_sum, sqDevSum, sumS_eq_sum]
  rfl

example : explainedVariance (1/10000000000 : Rat) [1, 3, 2] [2, 1, 3] = some (1 - 6 / (2 + 1/10000000000)) := by
  decide +kernel

/-- for every regulariser: when the mean error `m` satisfies `m = n·m²` the coded value is `1 − Σ(e − ē)² / (Σ(y − ȳ)² + tiny)` for every `tiny` -/
theorem explained_variance_partial_tiny (tiny : α) (a b : List α)
    (hm : ∀ m, meanS (subL a b) = some m → m = ((subL a b).length : α) * (m * m)) :
    explainedVariance tiny a b = (meanS b).bind fun mean => (meanS (subL a b)).map fun me =>
      1 - sqDevSum me (subL a b) / (sqDevSum mean b + tiny) :=
  explainedVariance_of_mean_cond tiny a b hm

example : meanS (subL [1, 3, (2 : Rat)] [2, 1, 3]) = some 0 := by decide +kernel

/-- the refutation with the regulariser the code carries: still `≠` the textbook value on linfa's own
test vector -/
theorem explained_variance_not_textbook_tiny :
    explainedVariance (1/10000000000 : Rat) [1/10, 3/10, 2/10, 5/10, 7/10] [0, 1/10, 2/10, 3/10, 4/10] ≠
      explainedVarianceSpec [1/10, 3/10, 2/10, 5/10, 7/10] [0, 1/10, 2/10, 3/10, (4/10 : Rat)] := by
  decide +kernel

end ExplainedVarianceCoded

section PermReg
variable {α : Type} [Field α] [LinearOrder α] [IsStrictOrderedRing α]

/-- **permutation invariance of the regression scores built from sums**: applying one permutation
to predictions and truths together (a permutation of the list of pairs) leaves MAE, MSE, R² and the
coded explained variance unchanged -/
theorem perm_invariant_regression (tiny : α) (ps ps' : List (α × α)) (h : ps.Perm ps') :
    meanAbsError (ps.map Prod.fst) (ps.map Prod.snd) = meanAbsError (ps'.map Prod.fst) (ps'.map Prod.snd) ∧
    meanSqError (ps.map Prod.fst) (ps.map Prod.snd) = meanSqError (ps'.map Prod.fst) (ps'.map Prod.snd) ∧
    r2 tiny (ps.map Prod.fst) (ps.map Prod.snd) = r2 tiny (ps'.map Prod.fst) (ps'.map Prod.snd) ∧
    explainedVariance tiny (ps.map Prod.fst) (ps.map Prod.snd) =
      explainedVariance tiny (ps'.map Prod.fst) (ps'.map Prod.snd) := by
  have hd : (ps.map fun p => p.1 - p.2).Perm (ps'.map fun p => p.1 - p.2) := h.map _
  have hb : (ps.map Prod.snd).Perm (ps'.map Prod.snd) := h.map _
  refine ⟨?_, ?_, ?_, ?_⟩
  · unfold meanAbsError; rw [subL_eq_map, subL_eq_map]; exact meanS_perm (hd.map _)
  · unfold meanSqError; rw [subL_eq_map, subL_eq_map]; exact meanS_perm (hd.map _)
  · unfold r2
    rw [subL_eq_map, subL_eq_map, meanS_perm hb, sumS_perm (hd.map _)]
    simp only [sqDevSum_perm _ hb]
  · unfold explainedVariance
    rw [subL_eq_map, subL_eq_map, meanS_perm hb, meanS_perm hd, sumS_perm (hd.map _)]
    simp only [sqDevSum_perm _ hb]

example : ([((1 : Rat), (2 : Rat)), (3, 1), (2, 2)]).Perm [(2, 2), (1, 2), (3, 1)] := by decide +kernel

/-- **mean absolute percentage error**: the mean of `|(x - y) / x|`, the error taken relative to
the receiver `a` (the prediction), as the statement says -/
theorem mape_def (a b : List α) (h : List.zipWith (· - ·) a b ≠ []) :
    mape a b = some ((List.zipWith (fun x y => |(x - y) / x|) a b).sum /
      ((List.zipWith (· - ·) a b).length : α)) := by
  unfold mape
  rw [subL_div_eq, List.map_zipWith]
  simp only [absS_eq_abs]
  exact meanS_zipWith _ a b h

example : mape [2, 4, (1 : Rat)] [1, 5, 1] = some (1 / 4) := by decide +kernel

/-- **median absolute error**: the middle element of the sorted absolute errors, the mean of the two
middle ones for an even number of samples.  `s` is the sorted list the code builds. -/
theorem median_def (a b : List α) (h : List.zipWith (· - ·) a b ≠ []) :
    ∃ s : List α, s.Perm (List.zipWith (fun x y => |x - y|) a b) ∧ s.Pairwise (· ≤ ·) ∧
      ∃ (h0 : s.length / 2 < s.length),
        medianAbsError a b = some (if s.length % 2 = 0
          then (s[s.length / 2 - 1]'(by omega) + s[s.length / 2]) / 2 else s[s.length / 2]) := by
  refine ⟨sortAsc (List.zipWith (fun x y => |x - y|) a b), perm_sortAsc _, sorted_sortAsc _, ?_⟩
  have hlen : 0 < (sortAsc (List.zipWith (fun x y => |x - y|) a b)).length := by
    rw [(perm_sortAsc _).length_eq]; exact List.length_pos_of_ne_nil (zipWith_ne_nil _ h)
  have h2 := Nat.div_lt_self hlen Nat.one_lt_two
  refine ⟨h2, ?_⟩
  unfold medianAbsError
  rw [map_absS_subL]
  exact median_pick _ (lt_of_le_of_lt (Nat.sub_le _ _) h2) h2

example : medianAbsError [1, 5, 2, (9 : Rat)] [2, 1, 2, 3] = some (5 / 2) := by decide +kernel

/-- **permutation invariance of the order statistics and of MAPE**: median absolute error, max
error and MAPE are unchanged by one permutation applied to predictions and truths together -/
theorem perm_invariant_order_stats (ps ps' : List (α × α)) (h : ps.Perm ps') :
    medianAbsError (ps.map Prod.fst) (ps.map Prod.snd) = medianAbsError (ps'.map Prod.fst) (ps'.map Prod.snd) ∧
    maxError (ps.map Prod.fst) (ps.map Prod.snd) = maxError (ps'.map Prod.fst) (ps'.map Prod.snd) ∧
    mape (ps.map Prod.fst) (ps.map Prod.snd) = mape (ps'.map Prod.fst) (ps'.map Prod.snd) := by
  have hd : ((ps.map fun p => p.1 - p.2).map absS).Perm ((ps'.map fun p => p.1 - p.2).map absS) :=
    (h.map _).map _
  refine ⟨?_, ?_, ?_⟩
  · unfold medianAbsError
    rw [subL_eq_map, subL_eq_map, sortAsc_perm hd]
  · unfold maxError
    rw [subL_eq_map, subL_eq_map]
    exact maxOpt_perm hd
  · unfold mape
    rw [subL_div_eq, subL_div_eq, zipWith_same_map, zipWith_same_map]
    exact meanS_perm ((h.map _).map _)

end PermReg

section LogLoss

/-- **log-loss is the mean clipped negative log-likelihood**: every probability is clipped to
`[eps, 1 - eps]` (`eps = f32::EPSILON`), the summand is `-ln p` for a positive and `-ln (1 - p)`
for a negative sample, the sum is divided by the number of samples; no samples = `NotEnoughSamples` -/
theorem log_loss_def (eps : ℝ) (heps : eps ≤ 1 - eps) (ps : List (ℝ × Bool)) :
    logLoss eps (ps.map Prod.fst) (ps.map Prod.snd) =
      if ps = [] then none else some ((ps.map fun p =>
        if p.2 then -Real.log (max eps (min (1 - eps) p.1))
        else -Real.log (1 - max eps (min (1 - eps) p.1))).sum / (ps.length : ℝ)) :=
  logLoss_pairs eps heps ps

/-- log-loss is unchanged by one permutation applied to probabilities and labels together -/
theorem perm_invariant_log_loss (eps : ℝ) (heps : eps ≤ 1 - eps) (ps ps' : List (ℝ × Bool)) (h : ps.Perm ps') :
    logLoss eps (ps.map Prod.fst) (ps.map Prod.snd) = logLoss eps (ps'.map Prod.fst) (ps'.map Prod.snd) := by
  rw [logLoss_pairs eps heps, logLoss_pairs eps heps, (h.map _).sum_eq, h.length_eq]
  by_cases hp : ps = []
  · subst hp; rw [h.symm.eq_nil]
  · have hp' : ps' ≠ [] := fun hc => hp (by subst hc; exact h.eq_nil)
    simp [hp, hp']

example : ((1 : ℝ) / 8388608) ≤ 1 - 1 / 8388608 := by norm_num

/-- **mean squared log error**: the mean of `(ln(1+x) - ln(1+y))²` -/
theorem msle_def (a b : List ℝ) (h : List.zipWith (· - ·) a b ≠ []) :
    meanSqLogError a b = some ((List.zipWith (fun x y =>
        (Real.log (1 + x) - Real.log (1 + y)) * (Real.log (1 + x) - Real.log (1 + y))) a b).sum /
      ((List.zipWith (· - ·) a b).length : ℝ)) := by
  unfold meanSqLogError meanSqError
  rw [map_subL, List.zipWith_map]
  exact meanS_zipWith _ a b h

example : List.zipWith (· - ·) [(1 : ℝ), 2] [0, 3] ≠ [] := by simp

/-- the mean squared log error is unchanged by one permutation applied to predictions and truths together -/
theorem perm_invariant_msle (ps ps' : List (ℝ × ℝ)) (h : ps.Perm ps') :
    meanSqLogError (ps.map Prod.fst) (ps.map Prod.snd) = meanSqLogError (ps'.map Prod.fst) (ps'.map Prod.snd) := by
  unfold meanSqLogError
  have key := (perm_invariant_regression (0 : ℝ)
    (ps.map fun p => (Transc.ln (1 + p.1), Transc.ln (1 + p.2)))
    (ps'.map fun p => (Transc.ln (1 + p.1), Transc.ln (1 + p.2))) (h.map _)).2.1
  rw [List.map_map, List.map_map, List.map_map, List.map_map] at key ⊢
  exact key

example : ([((1 : ℝ), (2 : ℝ)), (3, 1)]).Perm [(3, 1), (1, 2)] := List.Perm.swap _ _ _

end LogLoss

section Pearson

/-- **Pearson coefficients equal the textbook formula, in upper-triangle order**: the output lists,
for the feature pairs `(i, j)` with `i < j` in row-major order, the covariance divided by the product
of the standard deviations (`pearsonCoeff`, all with the `n - 1` denominator).  The proof shows that
the centred columns have mean zero, so the `var_axis` of the centred column the code takes is the
variance of the feature. -/
theorem pearson_def (rows : List (List ℝ)) (p : Nat) (h : rows ≠ []) :
    pearson rows p = (List.range (p - 1)).flatMap fun i =>
      ((List.range p).filter fun j => i < j).map fun j =>
        coMoment rows i j / ((rows.length - 1 : Nat) : ℝ) /
          Real.sqrt (coMoment rows i i / ((rows.length - 1 : Nat) : ℝ)) /
          Real.sqrt (coMoment rows j j / ((rows.length - 1 : Nat) : ℝ)) :=
  pearson_eq_coeff rows p h

example : coMoment [[1, 2], [3, 6], [(5 : ℝ), 10]] 0 1 = 16 := by
  simp only [coMoment, colMean, List.map_cons, List.map_nil, List.sum_cons, List.sum_nil, List.getD_cons_zero,
    List.getD_cons_succ, List.length_cons, List.length_nil]
  norm_num

/-- there are `p(p-1)/2` coefficients -/
theorem pearson_count (rows : List (List ℝ)) (p : Nat) : 2 * (pearson rows p).length = p * (p - 1) := by
  rw [pearson_unfold]
  simp only [List.length_flatMap, List.length_map, length_filter_lt_range]
  cases p with
  | zero => rfl
  | succ k =>
    -- the row of the last feature is empty
    rw [← two_mul_sum_range_sub (k + 1), List.range_succ (n := k)]
    simp

example : (pearson [[1, 2, 4], [3, 6, 1], [(5 : ℝ), 10, 2]] 3).length = 3 := by
  have := pearson_count [[1, 2, 4], [3, 6, 1], [(5 : ℝ), 10, 2]] 3
  omega

/-- the coefficients are unchanged by a permutation of the observations -/
theorem perm_invariant_pearson (rows rows' : List (List ℝ)) (p : Nat) (h : rows.Perm rows') :
    pearson rows p = pearson rows' p := by
  by_cases hr : rows = []
  · subst hr; rw [h.symm.eq_nil]
  · have hr' : rows' ≠ [] := fun hc => hr (by subst hc; exact h.eq_nil)
    rw [pearson_eq_coeff _ _ hr, pearson_eq_coeff _ _ hr']
    simp only [pearsonCoeff_perm h]

end Pearson

section Silhouette
variable {α : Type} [Field α] [LinearOrder α] [IsStrictOrderedRing α]

/-- **silhouette of one sample**: with `a` the mean distance to the other members of the own
cluster (`total / (count - 1)`, 0 for a singleton) and `means` the mean distances to every other
cluster, the value is `(b - a) / max a b` where `b` is the least of `means` -/
theorem silhouette_sample_def (d : List (List α)) (labels : List Nat) (i li : Nat)
    (hk : (labelSet labels).filter (· != li) ≠ []) :
    ∃ b : α,
      b ∈ ((labelSet labels).filter (· != li)).map (fun l => totalDist d labels i l / ((labelCount labels l : Nat) : α)) ∧
      (∀ m ∈ ((labelSet labels).filter (· != li)).map (fun l => totalDist d labels i l / ((labelCount labels l : Nat) : α)), b ≤ m) ∧
      silSample d labels i li =
        (b - (if labelCount labels li = 1 then 0 else totalDist d labels i li / ((labelCount labels li - 1 : Nat) : α))) /
          max (if labelCount labels li = 1 then 0 else totalDist d labels i li / ((labelCount labels li - 1 : Nat) : α)) b := by
  unfold silSample
  simp only []
  generalize (if labelCount labels li = 1 then (0 : α) else totalDist d labels i li / ((labelCount labels li - 1 : Nat) : α)) = a
  generalize hm : ((labelSet labels).filter (· != li)).map (fun l => totalDist d labels i l / ((labelCount labels l : Nat) : α)) = means
  cases means with
  | nil => exact absurd (List.map_eq_nil_iff.mp hm) hk
  | cons m0 ms =>
    obtain ⟨h1, h2⟩ := foldl_min_spec ms m0
    rw [← ite_lt_eq_min] at h1 h2
    refine ⟨_, h2, fun m hm' => h1 m hm', ?_⟩
    simp only []
    split
    · rename_i hba; rw [max_eq_left hba]
    · rename_i hba; rw [max_eq_right (le_of_lt (not_le.mp hba))]

/-- **`a(x)` excludes the sample itself**: when the distance of sample `i` to itself is 0, the
own-cluster accumulator is the sum of the distances to the *other* members of its cluster, and the
divisor `count - 1` is their number -/
theorem silhouette_a_excludes_self (d : List (List α)) (labels : List Nat) (i li : Nat)
    (hrow : (d.getD i [])[i]? = some 0) (hl : labels[i]? = some li) :
    totalDist d labels i li =
      ((((d.getD i []).zip labels).eraseIdx i).filterMap fun (x, lj) => if lj == li then some x else none).sum ∧
    labelCount labels li - 1 = ((labels.eraseIdx i).filter (· == li)).length :=
  ⟨totalDist_excludes_self d labels i li hrow hl, labelCount_excludes_self labels i li hl⟩

example : ([[0, 1, 4], [1, 0, 3], [4, 3, (0 : Rat)]].getD 1 [])[1]? = some 0 ∧ ([0, 0, 1] : List Nat)[1]? = some 0 := by
  decide +kernel

/-- **silhouette score**: 1 for a single cluster, otherwise the mean of the per-sample values -/
theorem silhouette_def (d : List (List α)) (labels : List Nat) :
    ((labelSet labels).length = 1 → silhouette d labels = 1) ∧
    ((labelSet labels).length ≠ 1 → silhouette d labels =
      (((List.range labels.length).zip labels).map fun p => silSample d labels p.1 p.2).sum / (labels.length : α)) := by
  refine ⟨fun h => by simp [silhouette, h], fun h => ?_⟩
  simp only [silhouette, h, if_false, sumS_eq_sum]

example : silhouette [[0, 1, 4, 5], [1, 0, 3, 4], [4, 3, 0, 1], [5, 4, 1, (0 : Rat)]] [0, 0, 1, 1] = 47 / 63 := by
  decide +kernel

end Silhouette

section SilhouetteDist

/-- **the distances the silhouette runs on are Euclidean** (`silhouettePts x l = silhouette (distMatrix x) l`
is what the driver evaluates): entry `(i, j)` of `distMatrix x` is `√Σ_k (x_ik − x_jk)²`, and the
diagonal is zero — the hypothesis of `silhouette_a_excludes_self` -/
theorem silhouette_distances_euclidean (x : List (List ℝ)) (labels : List Nat) :
    silhouettePts x labels = silhouette (distMatrix x) labels ∧
    (∀ (i j : Nat) (xi xj : List ℝ), x[i]? = some xi → x[j]? = some xj →
      ((distMatrix x).getD i [])[j]? =
        some (Real.sqrt ((List.zipWith (fun a b => (a - b) * (a - b)) xi xj).sum))) ∧
    (∀ i : Nat, i < x.length → ((distMatrix x).getD i [])[i]? = some 0) :=
  ⟨rfl, fun i j xi xj hi hj => distMatrix_entry x i j xi xj hi hj, fun i hi => distMatrix_diag x i hi⟩

/-- **`a(x)` on records**: for every sample of a data set the own-cluster accumulator is the sum of
the Euclidean distances to the *other* members of its cluster, divided by their number -/
theorem silhouette_points_a_excludes_self (x : List (List ℝ)) (labels : List Nat) (i li : Nat)
    (hi : i < x.length) (hl : labels[i]? = some li) :
    totalDist (distMatrix x) labels i li =
      (((((distMatrix x).getD i []).zip labels).eraseIdx i).filterMap
        fun (v, lj) => if lj == li then some v else none).sum ∧
    labelCount labels li - 1 = ((labels.eraseIdx i).filter (· == li)).length :=
  silhouette_a_excludes_self (distMatrix x) labels i li (distMatrix_diag x i hi) hl

example : (1 : Nat) < ([[0, 0], [3, 4], [(6 : ℝ), 8]] : List (List ℝ)).length ∧ ([0, 0, 1] : List Nat)[1]? = some 0 := by
  exact ⟨by decide, rfl⟩

/-- **the silhouette score is unchanged by one permutation applied to records and labels together**
`ps` is the list of
(record, label) pairs; the score is that of `silhouettePts`, the function the driver evaluates -/
theorem perm_invariant_silhouette (ps ps' : List (List ℝ × Nat)) (h : ps.Perm ps') :
    silhouettePts (ps.map Prod.fst) (ps.map Prod.snd) = silhouettePts (ps'.map Prod.fst) (ps'.map Prod.snd) :=
  silhouettePts_perm h

example : ([([0, 0], 0), ([3, 4], 1), ([(6 : ℝ), 8], 0)] : List (List ℝ × Nat)).Perm
    [([3, 4], 1), ([0, 0], 0), ([6, 8], 0)] := List.Perm.swap _ _ _

/-- the score in position-free form: 1 for a single label, else the mean over the samples of
`(b − a)/max(a, b)`-by-cases (`silS`), with `a`, `b` built from the total Euclidean distances of the
record to the samples of each label and the cluster sizes -/
theorem silhouette_points_def (ps : List (List ℝ × Nat)) :
    silhouettePts (ps.map Prod.fst) (ps.map Prod.snd) =
      if (labelSet (ps.map Prod.snd)).length = 1 then 1
      else (ps.map fun p => silS ps p.1 p.2).sum / (ps.length : ℝ) :=
  silhouettePts_eq ps

example : (labelSet [0, 1, 0]).length ≠ 1 := by decide +kernel

/-- **the label-count glue of the silhouette**: a receiver whose `label_count()` is that of
its own labels (every array-backed dataset, a `CountedTargets` that was not mutated) gives the plain
score; `silSample` is the cached form `silSampleC` with the data's own label set and cluster sizes -/
theorem silhouette_fresh_cache {α : Type} [Field α] [LinearOrder α] (d : List (List α)) (labels : List Nat) (i li : Nat) :
    silhouetteC (labelCache labels) d labels = some (silhouette d labels) ∧
    silSample d labels i li = silSampleC (labelSet labels) (labelCount labels) d labels i li :=
  ⟨silhouetteC_fresh d labels, rfl⟩

example : silhouetteC (labelCache [0, 0, 1, 1]) [[0, 1, 4, 5], [1, 0, 3, 4], [4, 3, 0, 1], [5, 4, 1, (0 : Rat)]] [0, 0, 1, 1] =
    some (47 / 63) ∧
    silhouetteC (labelCache [0, 0, 0, 1]) [[0, 1, 4, 5], [1, 0, 3, 4], [4, 3, 0, 1], [5, 4, 1, (0 : Rat)]] [0, 0, 1, 2] = none := by
  refine ⟨by decide +kernel, by decide +kernel⟩

end SilhouetteDist

end LinfaSpec.Props.C05
