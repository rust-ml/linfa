import LinfaSpec.Proofs.Logistic
import LinfaSpec.Proofs.LogisticReal

/-!
# C12 — logistic regression and Tweedie GLM: coding, probabilities, gradients

Theorems about `LinfaSpec.Logistic` / `LinfaSpec.Glm` (the models of `linfa-logistic` and of the
Tweedie GLM of `linfa-linear`).  L-BFGS is not modelled; that the returned point is stationary is
checked by the oracle of the correspondence run, with the gradient these theorems speak about.
-/
namespace LinfaSpec.Props.C12
open LinfaSpec LinfaSpec.Logistic

section Labels
variable {C : Type} [DecidableEq C]

/-- **`label_classes` codes with ±1**: when it succeeds the two reported classes are distinct,
every label is one of them, and sample `i` gets `+1` exactly when its label is the positive class
(else `-1`). -/
theorem labels_pm_one {α} [Ring α] (y : List C) (r : BinLabels C α)
    (h : labelClasses y = .ok r) :
    r.pos ≠ r.neg ∧ (∀ x ∈ y, x = r.pos ∨ x = r.neg) ∧
      r.target = y.map (fun x => if x = r.pos then (1 : α) else -1) := by
  obtain ⟨a, na, b, nb, ⟨hab, -, -, -, -, hmem⟩, ⟨-, rfl⟩ | ⟨-, rfl⟩⟩ := labelClasses_ok y r h
  · refine ⟨fun e => hab e.symm, fun x hx => (hmem x hx).symm, ?_⟩
    rw [List.map_map]
    apply List.map_congr_left
    intro x hx
    rcases hmem x hx with e | e
    · subst e; simp [hab]
    · subst e; simp [Ne.symm hab]
  · exact ⟨hab, hmem, rfl⟩

/-- **the more frequent class is the positive one** (ties: the class seen first); both occur. -/
theorem larger_class_positive {α} [Ring α] (y : List C) (r : BinLabels C α)
    (h : labelClasses y = .ok r) :
    y.count r.neg ≤ y.count r.pos ∧ 0 < y.count r.neg := by
  obtain ⟨a, na, b, nb, ⟨-, rfl, rfl, h3, h4, -⟩, ⟨hlt, rfl⟩ | ⟨hlt, rfl⟩⟩ := labelClasses_ok y r h
  · exact ⟨hlt.le, h3⟩
  · exact ⟨not_lt.mp hlt, h4⟩

example : (labelClasses (α := Int) [3, 5, 5, 3, 5]).toOption.map (fun r => (r.pos, r.neg, r.target)) =
    some (5, 3, [-1, 1, 1, -1, 1]) := by decide
example : (labelClasses (α := Int) [3, 5, 3]).toOption.map (fun r => (r.pos, r.neg, r.target)) =
    some (3, 5, [1, -1, 1]) := by decide
example : ((labelClasses (α := Int) [3, 5, 7]).toOption.map (·.pos)) = none := by decide
example : ((labelClasses (α := Int) [3, 3]).toOption.map (·.pos)) = none := by decide

end Labels

section Multi
variable {C : Type} [LinearOrder C]

/-- **`label_classes_multi` reports the sorted set of classes**: strictly increasing (so without
repetition) and containing exactly the labels that occur. -/
theorem classes_sorted_dedup (y : List C) :
    (classesOf y).Pairwise (· < ·) ∧ ∀ x, x ∈ classesOf y ↔ x ∈ y :=
  ⟨classesOf_pairwise y, mem_classesOf y⟩

/-- **one-hot rows**: the row of a sample with label `c` has one entry per class, entry `j` is `1`
exactly when class `j` is `c` and `0` otherwise — exactly one `1`, at the rank of `c`. -/
theorem onehot_row {α} [Zero α] [One α] (y : List C) (c : C) (hc : c ∈ y) :
    (onehotRow (α := α) (classesOf y) c).length = (classesOf y).length ∧
    (classesOf y).idxOf c < (classesOf y).length ∧
    ∀ j (hj : j < (classesOf y).length),
      (onehotRow (α := α) (classesOf y) c)[j]? = some (if (classesOf y)[j] = c then 1 else 0) ∧
      ((classesOf y)[j] = c ↔ j = (classesOf y).idxOf c) := by
  have hmem : c ∈ classesOf y := (mem_classesOf y c).mpr hc
  have hnd : (classesOf y).Nodup := (classesOf_pairwise y).imp (fun h => ne_of_lt h)
  have hidx : (classesOf y).idxOf c < (classesOf y).length := List.idxOf_lt_length_of_mem hmem
  refine ⟨by rw [onehotRow, List.length_set, List.length_replicate], hidx, ?_⟩
  intro j hj
  have hiff : (classesOf y)[j] = c ↔ j = (classesOf y).idxOf c := by
    constructor
    · intro h
      rw [← h, List.Nodup.idxOf_getElem hnd]
    · intro h
      subst h
      exact List.getElem_idxOf hidx
  refine ⟨?_, hiff⟩
  unfold onehotRow
  rw [List.getElem?_set]
  by_cases hji : (classesOf y).idxOf c = j
  · rw [if_pos hji, if_pos (by rwa [List.length_replicate]), if_pos (hiff.mpr hji.symm)]
  · rw [if_neg hji, if_neg (fun h => hji (hiff.mp h).symm), List.getElem?_replicate, if_pos hj]

/-- **the target matrix `label_classes_multi` builds satisfies the hypothesis of the whole-gradient theorem**
(`multi_logistic_grad_is_derivative`): every row has one entry per class and sums to one -/
theorem label_classes_multi_rows_one_hot (y : List C) :
    ∀ yr ∈ (labelClassesMulti (α := ℝ) y).2, yr.length = (classesOf y).length ∧ yr.sum = 1 := by
  intro yr hyr
  obtain ⟨c, hc, rfl⟩ := List.mem_map.mp hyr
  have h := onehot_row (α := ℝ) y c hc
  exact ⟨h.1, replicate_set_sum_one _ _ h.2.1⟩

example : (classesOf [3, 1, 3, 2, 1]).Pairwise (· < ·) ∧ 2 ∈ classesOf [3, 1, 3, 2, 1] :=
  ⟨(classes_sorted_dedup _).1, ((classes_sorted_dedup _).2 2).mpr (by decide)⟩
example : (onehotRow (α := Int) (classesOf [3, 1, 3]) 3).length = (classesOf [3, 1, 3]).length :=
  (onehot_row [3, 1, 3] 3 (by decide)).1

end Multi

/-! ## scalar laws (over `ℝ`; `exp`/`ln` are `Real.exp`/`Real.log`) -/

section Scalar

theorem logistic_eq (x : ℝ) : logistic x = 1 / (1 + Real.exp (-x)) := rfl

/-- **`logistic` maps into the open unit interval** -/
theorem logistic_range (x : ℝ) : 0 < logistic x ∧ logistic x < 1 := by
  rw [logistic_eq]
  have h : 0 < Real.exp (-x) := Real.exp_pos _
  constructor
  · positivity
  · rw [div_lt_one (by linarith)]
    linarith

/-- **both branches of `log_logistic` compute `ln (logistic x)`** -/
theorem log_logistic_branches (x : ℝ) : logLogistic x = Real.log (logistic x) := by
  rw [logistic_eq, one_div, Real.log_inv]
  unfold logLogistic
  split_ifs with h
  · rfl
  · show x - Real.log (1 + Real.exp x) = -Real.log (1 + Real.exp (-x))
    have h1 : 1 + Real.exp (-x) = (1 + Real.exp x) / Real.exp x := by
      rw [Real.exp_neg]; field_simp; ring
    rw [h1, Real.log_div (by positivity) (by positivity), Real.log_exp]
    ring

example : (0 : ℝ) < logistic 1000 ∧ logistic (-1000 : ℝ) < 1 := ⟨(logistic_range _).1, (logistic_range _).2⟩

/-- shape of `softmax_inplace` on a non-empty row -/
theorem softmax_cons (a : ℝ) (as : List ℝ) :
    softmax (a :: as) = (a :: as).map (fun n => Real.exp (n - as.foldl maxS a) /
      ((a :: as).map fun n => Real.exp (n - as.foldl maxS a)).sum) := by
  simp only [softmax, maxList, sumS_eq_sum, List.map_map]
  rfl

theorem softmax_denominator_pos (a : ℝ) (as : List ℝ) (m : ℝ) :
    0 < ((a :: as).map fun n => Real.exp (n - m)).sum := by
  simp only [List.map_cons, List.sum_cons]
  have h1 : 0 < Real.exp (a - m) := Real.exp_pos _
  have h2 : 0 ≤ (as.map fun n => Real.exp (n - m)).sum := by
    apply List.sum_nonneg
    intro x hx
    obtain ⟨n, -, rfl⟩ := List.mem_map.mp hx
    exact (Real.exp_pos _).le
  linarith

/-- **softmax entries are non-negative** (indeed positive) -/
theorem softmax_nonneg (v : List ℝ) : ∀ p ∈ softmax v, 0 ≤ p := by
  cases v with
  | nil => simp [softmax, maxList]
  | cons a as =>
    intro p hp
    rw [softmax_cons] at hp
    obtain ⟨n, -, rfl⟩ := List.mem_map.mp hp
    exact div_nonneg (Real.exp_pos _).le (softmax_denominator_pos a as _).le

/-- **softmax rows sum to one** -/
theorem softmax_sum_one (v : List ℝ) (hv : v ≠ []) : (softmax v).sum = 1 := by
  cases v with
  | nil => exact absurd rfl hv
  | cons a as =>
    rw [softmax_cons]
    simp only [div_eq_mul_inv, List.sum_map_mul_right]
    exact mul_inv_cancel₀ (softmax_denominator_pos a as _).ne'

theorem softmax_le_one (v : List ℝ) : ∀ p ∈ softmax v, p ≤ 1 := by
  intro p hp
  have hv : v ≠ [] := by
    rintro rfl
    simp [softmax, maxList] at hp
  have hs := softmax_sum_one v hv
  have := List.single_le_sum (softmax_nonneg v) p hp
  linarith

/-- **softmax is invariant under a common shift of the scores** -/
theorem softmax_shift_invariant (v : List ℝ) (c : ℝ) : softmax (v.map (· + c)) = softmax v := by
  cases v with
  | nil => rfl
  | cons a as =>
    rw [List.map_cons, softmax_cons, softmax_cons, foldl_maxS_shift]
    simp only [List.map_cons, List.map_map, Function.comp_def, add_sub_add_right_eq_sub]

theorem softmax_eq_map_strictMono (a : ℝ) (as : List ℝ) :
    ∃ f : ℝ → ℝ, StrictMono f ∧ softmax (a :: as) = (a :: as).map f := by
  refine ⟨fun n => Real.exp (n - as.foldl maxS a) /
      ((a :: as).map fun n => Real.exp (n - as.foldl maxS a)).sum, ?_, softmax_cons a as⟩
  intro x y hxy
  have hpos := softmax_denominator_pos a as (as.foldl maxS a)
  exact div_lt_div_of_pos_right (Real.exp_lt_exp.mpr (by linarith)) hpos

/-- **the arg-max of the un-normalised scores (what `predict` uses) is the arg-max of the
probabilities (what `predict_probabilities` reports)** -/
theorem argmax_scores_eq_argmax_softmax (v : List ℝ) : argmax (softmax v) = argmax v := by
  cases v with
  | nil => rfl
  | cons a as =>
    obtain ⟨f, hf, he⟩ := softmax_eq_map_strictMono a as
    rw [he]
    exact argmax_map f hf (a :: as)

/-- so the multinomial prediction is the class with the largest reported probability -/
theorem predict_multi_matches_probabilities {C} [Inhabited C] (k : Nat) (x : List (List ℝ))
    (params : List (List ℝ)) (b : List ℝ) (classes : List C) :
    predictMulti k x params b classes =
      (predictProbaMulti k x params b).map fun p => classes.getD (argmax p) default := by
  simp only [predictMulti, predictProbaMulti, List.map_map, Function.comp_def,
    argmax_scores_eq_argmax_softmax]

/-- **the binary prediction is the positive class exactly when the reported probability reaches
the threshold** -/
theorem predict_matches_threshold {C} (x : List (List ℝ)) (params : List ℝ) (b thr : ℝ)
    (pos neg : C) (hne : pos ≠ neg) (i : Nat) (hi : i < x.length) :
    ∃ p c, (predictProba x params b)[i]? = some p ∧ (predictBinary x params b thr pos neg)[i]? = some c ∧
      0 < p ∧ p < 1 ∧ (c = pos ↔ thr ≤ p) ∧ (c = neg ↔ p < thr) := by
  have hlen : i < (predictProba x params b).length := by simp [predictProba, linPred, hi]
  refine ⟨(predictProba x params b)[i], if thr ≤ (predictProba x params b)[i] then pos else neg, by simp [hlen], ?_, ?_⟩
  · simp [predictBinary, hlen]
  · have hp : (predictProba x params b)[i] ∈ predictProba x params b := List.getElem_mem hlen
    obtain ⟨z, -, hz⟩ := List.mem_map.mp hp
    rw [← hz]
    refine ⟨(logistic_range z).1, (logistic_range z).2, ?_, ?_⟩
    · split_ifs with h
      · simp [h]
      · simp [h, hne.symm]
    · split_ifs with h
      · simp [hne, not_lt.mpr h]
      · simp [not_le.mp h]

example : softmax ([1, 2, 3] : List ℝ) ≠ [] ∧ (softmax ([1, 2, 3] : List ℝ)).sum = 1 :=
  ⟨by rw [softmax_cons]; simp, softmax_sum_one _ (by simp)⟩

end Scalar

/-! ## gradients

For each of the three objectives: the derivative of one sample's term along a line `z₀ + xj (t - w₀)` in the linear
predictor and of the penalty, the sum over the samples, and the `List.set` / `convert_params` bookkeeping that turns
"coordinate `j` of the parameter vector" into "coordinate of the split parameters". -/

section Grad

/-- derivative of the per-sample loss `-log_logistic u = ln(1 + e^{-u})` is `logistic u - 1` -/
theorem neg_log_logistic_hasDerivAt (u : ℝ) :
    HasDerivAt (fun u : ℝ => -logLogistic u) (logistic u - 1) u := by
  have hfun : (fun u : ℝ => -logLogistic u) = fun u => Real.log (1 + Real.exp (-u)) := by
    funext v
    rw [log_logistic_branches, logistic_eq, one_div, Real.log_inv, neg_neg]
  rw [hfun]
  have hpos : 0 < 1 + Real.exp (-u) := by positivity
  refine ((one_add_exp_neg_hasDerivAt u).log hpos.ne').congr_deriv ?_
  rw [logistic_eq]
  field_simp
  ring

/-- **per-sample, per-coordinate term**: if the linear
predictor of a sample depends on the coordinate `t` as `z₀ + xj (t - w₀)` (weight `j`: `xj = x_ij`;
intercept: `xj = 1`), the sample's loss has derivative `(logistic(z y) - 1) * y * xj` at `w₀` —
the summand `residuals[i] * x_ij` of `logistic_grad`. -/
theorem logistic_grad_is_derivative_partial (z0 xj w0 y : ℝ) :
    HasDerivAt (fun t : ℝ => -logLogistic ((z0 + xj * (t - w0)) * y))
      ((logistic (z0 * y) - 1) * y * xj) w0 :=
  (hasDerivAt_comp_affine (neg_log_logistic_hasDerivAt (z0 * y)) _ (xj * y) w0 (fun _ => by ring)).congr_deriv (by ring)

/-- the penalty `0.5 * alpha * (c + t^2)` (weights only) has derivative `t * alpha` — the summand
`params * alpha` of the gradient; the intercept does not occur in it -/
theorem penalty_hasDerivAt (alpha c t : ℝ) :
    HasDerivAt (fun t : ℝ => (Logistic.half : ℝ) * alpha * (c + t * t)) (t * alpha) t := by
  have h := (((hasDerivAt_id t).mul (hasDerivAt_id t)).const_add c).const_mul ((Logistic.half : ℝ) * alpha)
  exact h.congr_deriv (by simp only [Logistic.half, id]; ring)

/-- the gradient the code returns is assembled from exactly these summands: weight block
`Xᵀ r + alpha w`, intercept entry `Σ r` (no penalty), with `r = residuals` -/
theorem logistic_grad_structure (nf : Nat) (x : List (List ℝ)) (y w : List ℝ) (alpha : ℝ)
    (hw : w.length = nf + 1) :
    logisticGrad nf x y alpha w =
      some (List.zipWith (· + ·) (tDot nf x (residuals x y (w.take nf) ((w.drop nf).headD 0)))
              ((w.take nf).map (· * alpha)) ++
            [sumS (residuals x y (w.take nf) ((w.drop nf).headD 0))]) := by
  simp only [logisticGrad, splitParams_of_length_succ nf w hw, if_pos hw]

/-- sum rule over the sample list, weight coordinate `j`: the data part of `logistic_loss` as a function of
weight `j` has derivative `(Xᵀ r)[j]`, `r = residuals` -/
theorem data_loss_hasDerivAt_weight (x : List (List ℝ)) (y p : List ℝ) (b : ℝ) (j : Nat) (hj : j < p.length) :
    HasDerivAt (fun t : ℝ => -(sumS ((List.zipWith (· * ·) (linPred x (p.set j t) b) y).map logLogistic)))
      (dotS (col x j) (residuals x y p b)) (p.getD j 0) := by
  simp only [data_loss_eq, residuals_eq, dotS_col_zipWith']
  refine hasDerivAt_neg_zipWith_sum _ _ _ x y fun q _ => ?_
  simp only [dotS_set_add q.1 p b j _ hj]
  exact logistic_grad_is_derivative_partial _ _ _ _

/-- sum rule, intercept coordinate: derivative `Σ r` -/
theorem data_loss_hasDerivAt_intercept (x : List (List ℝ)) (y p : List ℝ) (b : ℝ) :
    HasDerivAt (fun t : ℝ => -(sumS ((List.zipWith (· * ·) (linPred x p t) y).map logLogistic)))
      (sumS (residuals x y p b)) b := by
  simp only [data_loss_eq, residuals_eq]
  rw [sumS_eq_sum]
  refine hasDerivAt_neg_zipWith_sum _ _ _ x y fun q _ => ?_
  exact (hasDerivAt_comp_affine (neg_log_logistic_hasDerivAt ((dotS q.1 p + b) * q.2)) (fun t => (dotS q.1 p + t) * q.2)
    q.2 b fun t => by ring).congr_deriv rfl

theorem penalty_set_hasDerivAt (p : List ℝ) (alpha : ℝ) (j : Nat) (hj : j < p.length) :
    HasDerivAt (fun t : ℝ => (Logistic.half : ℝ) * alpha * dotS (p.set j t) (p.set j t))
      (p.getD j 0 * alpha) (p.getD j 0) := by
  simp only [dotS_set_self p j _ hj]
  exact penalty_hasDerivAt alpha _ _

theorem loss_split (nf : Nat) (x : List (List ℝ)) (y w : List ℝ) (alpha : ℝ) (hw : w.length = nf + 1) :
    logisticLoss nf x y alpha w =
      some (-(sumS ((List.zipWith (· * ·) (linPred x (w.take nf) ((w.drop nf).headD 0)) y).map logLogistic)) +
        Logistic.half * alpha * dotS (w.take nf) (w.take nf)) :=
  logisticLoss_of_split nf x y w _ alpha _ (splitParams_of_length_succ nf w hw)

theorem grad_entry_weight (nf : Nat) (x : List (List ℝ)) (y w : List ℝ) (alpha : ℝ)
    (hw : w.length = nf + 1) (j : Nat) (hj : j < nf) :
    ((logisticGrad nf x y alpha w).getD []).getD j 0 =
      dotS (col x j) (residuals x y (w.take nf) ((w.drop nf).headD 0)) + (w.take nf).getD j 0 * alpha :=
  logisticGrad_getD_of_split nf x y w _ alpha _ (splitParams_of_length_succ nf w hw)
    (by rw [List.length_take, hw]; omega) j hj

/-- **weight coordinate, model with intercept**: entry `j < nf` of `logisticGrad` is the partial derivative
of `logisticLoss` with respect to weight `j`, for every sample list, every target list and every parameter vector -/
theorem logistic_grad_is_derivative_weight (nf : Nat) (x : List (List ℝ)) (y w : List ℝ) (alpha : ℝ)
    (hw : w.length = nf + 1) (j : Nat) (hj : j < nf) :
    HasDerivAt (fun t : ℝ => (logisticLoss nf x y alpha (w.set j t)).getD 0)
      (((logisticGrad nf x y alpha w).getD []).getD j 0) (w.getD j 0) := by
  have hwj : (w.take nf).getD j 0 = w.getD j 0 := by
    simp [List.getD_eq_getElem?_getD, hj]
  rw [← hwj]
  refine split_loss_hasDerivAt_weight nf x y w (w.take nf) alpha ((w.drop nf).headD 0) j hj
    (by rw [List.length_take, hw]; omega) (splitParams_of_length_succ nf w hw)
    (fun h => (data_loss_hasDerivAt_weight x y _ _ j h).add (penalty_set_hasDerivAt _ alpha j h)) fun t => ?_
  rw [splitParams_of_length_succ nf _ (by rw [List.length_set, hw]), List.take_set, List.drop_set_of_lt hj]

theorem grad_entry_intercept (nf : Nat) (x : List (List ℝ)) (y w : List ℝ) (alpha : ℝ)
    (hw : w.length = nf + 1) :
    ((logisticGrad nf x y alpha w).getD []).getD nf 0 =
      sumS (residuals x y (w.take nf) ((w.drop nf).headD 0)) := by
  have hlen : (List.zipWith (· + ·) (tDot nf x (residuals x y (w.take nf) ((w.drop nf).headD 0)))
      ((w.take nf).map (· * alpha))).length = nf := by
    simp [tDot]; omega
  rw [logistic_grad_structure nf x y w alpha hw, Option.getD_some, getD_append_length _ _ _ nf hlen]

/-- **intercept coordinate**: the last entry of `logisticGrad` is the partial derivative of `logisticLoss`
with respect to the intercept (no penalty term) -/
theorem logistic_grad_is_derivative_intercept (nf : Nat) (x : List (List ℝ)) (y w : List ℝ) (alpha : ℝ)
    (hw : w.length = nf + 1) :
    HasDerivAt (fun t : ℝ => (logisticLoss nf x y alpha (w.set nf t)).getD 0)
      (((logisticGrad nf x y alpha w).getD []).getD nf 0) ((w.drop nf).headD 0) := by
  have e : ∀ t, splitParams nf (w.set nf t) = some (w.take nf, t) := by
    intro t
    rw [splitParams_of_length_succ nf _ (by rw [List.length_set, hw]), List.take_set_of_le (le_refl nf),
      headD_drop, getD_set_self _ _ _ _ (by omega)]
  simp only [fun t => logisticLoss_of_split nf x y _ _ alpha _ (e t), Option.getD_some]
  rw [grad_entry_intercept nf x y w alpha hw]
  exact (data_loss_hasDerivAt_intercept x y (w.take nf) ((w.drop nf).headD 0)).add_const _

/-- **model without intercept**: `w.length = nf`: every entry of `logisticGrad` is the partial derivative of
`logisticLoss` -/
theorem logistic_grad_is_derivative_no_intercept (nf : Nat) (x : List (List ℝ)) (y w : List ℝ) (alpha : ℝ)
    (hw : w.length = nf) (j : Nat) (hj : j < nf) :
    HasDerivAt (fun t : ℝ => (logisticLoss nf x y alpha (w.set j t)).getD 0)
      (((logisticGrad nf x y alpha w).getD []).getD j 0) (w.getD j 0) :=
  split_loss_hasDerivAt_weight nf x y w w alpha 0 j hj hw (splitParams_of_length nf w hw)
    (fun h => (data_loss_hasDerivAt_weight x y w 0 j h).add (penalty_set_hasDerivAt w alpha j h)) fun t =>
    splitParams_of_length nf _ (by rw [List.length_set, hw])

example : HasDerivAt (fun t : ℝ => (logisticLoss 2 [[1, 2], [3, -1], [0, 1]] [1, -1, 1] (1 / 2) (([1, 2, 3] : List ℝ).set 1 t)).getD 0)
    (((logisticGrad 2 [[1, 2], [3, -1], [0, 1]] [1, -1, 1] (1 / 2) ([1, 2, 3] : List ℝ)).getD []).getD 1 0)
    (([1, 2, 3] : List ℝ).getD 1 0) :=
  logistic_grad_is_derivative_weight 2 [[1, 2], [3, -1], [0, 1]] [1, -1, 1] [1, 2, 3] (1 / 2) rfl 1 (by norm_num)

example : HasDerivAt (fun t : ℝ => (logisticLoss 2 [[1, 2], [3, -1], [0, 1]] [1, -1, 1] (1 / 2) (([1, 2, 3] : List ℝ).set 2 t)).getD 0)
    (((logisticGrad 2 [[1, 2], [3, -1], [0, 1]] [1, -1, 1] (1 / 2) ([1, 2, 3] : List ℝ)).getD []).getD 2 0)
    ((([1, 2, 3] : List ℝ).drop 2).headD 0) :=
  logistic_grad_is_derivative_intercept 2 [[1, 2], [3, -1], [0, 1]] [1, -1, 1] [1, 2, 3] (1 / 2) rfl

example : HasDerivAt (fun t : ℝ => (logisticLoss 2 [[1, 2], [3, -1]] [1, -1] 1 (([1, 2] : List ℝ).set 0 t)).getD 0)
    (((logisticGrad 2 [[1, 2], [3, -1]] [1, -1] 1 ([1, 2] : List ℝ)).getD []).getD 0 0)
    (([1, 2] : List ℝ).getD 0 0) :=
  logistic_grad_is_derivative_no_intercept 2 [[1, 2], [3, -1]] [1, -1] [1, 2] 1 rfl 0 (by norm_num)

/-- every coordinate at once (binary model with intercept) -/
theorem logistic_grad_is_derivative (nf : Nat) (x : List (List ℝ)) (y w : List ℝ) (alpha : ℝ)
    (hw : w.length = nf + 1) (j : Nat) (hj : j < nf + 1) :
    HasDerivAt (fun t : ℝ => (logisticLoss nf x y alpha (w.set j t)).getD 0)
      (((logisticGrad nf x y alpha w).getD []).getD j 0) (w.getD j 0) := by
  by_cases h : j < nf
  · exact logistic_grad_is_derivative_weight nf x y w alpha hw j h
  · have : j = nf := by omega
    subst this
    have h := logistic_grad_is_derivative_intercept j x y w alpha hw
    rw [headD_drop] at h
    exact h

/-- **oracle clause `stationary` ⇔ first-order optimality** (binary): the gradient the code returns vanishes at `w`
iff every partial derivative of the documented objective `logisticLoss` is zero at `w` -/
theorem logistic_stationary_iff_grad_zero (nf : Nat) (x : List (List ℝ)) (y w : List ℝ) (alpha : ℝ)
    (hw : w.length = nf + 1) :
    (∀ j, j < nf + 1 → ((logisticGrad nf x y alpha w).getD []).getD j 0 = 0) ↔
    (∀ j, j < nf + 1 → HasDerivAt (fun t : ℝ => (logisticLoss nf x y alpha (w.set j t)).getD 0) 0 (w.getD j 0)) :=
  stationary_iff_of_hasDerivAt (nf + 1) _ _ _ (fun j hj => logistic_grad_is_derivative nf x y w alpha hw j hj)

/-- quantitative form, as the oracle tests it: `‖logisticGrad‖₂ ≤ tol` ⇒ every partial derivative of the documented
objective is at most `tol` in absolute value -/
theorem logistic_partials_le_of_grad_norm_le (nf : Nat) (x : List (List ℝ)) (y w : List ℝ) (alpha tol : ℝ)
    (hw : w.length = nf + 1) (htol : 0 ≤ tol)
    (hn : (((logisticGrad nf x y alpha w).getD []).map (· ^ 2)).sum ≤ tol ^ 2) (j : Nat) (hj : j < nf + 1) :
    |deriv (fun t : ℝ => (logisticLoss nf x y alpha (w.set j t)).getD 0) (w.getD j 0)| ≤ tol := by
  rw [(logistic_grad_is_derivative nf x y w alpha hw j hj).deriv]
  exact getD_abs_le_of_norm_le _ tol htol hn j

example : (∀ j, j < 2 + 1 → ((logisticGrad 2 [[1, 2], [3, -1], [0, 1]] [1, -1, 1] (1 / 2) ([1, 2, 3] : List ℝ)).getD []).getD j 0 = 0) ↔
    (∀ j, j < 2 + 1 → HasDerivAt (fun t : ℝ =>
      (logisticLoss 2 [[1, 2], [3, -1], [0, 1]] [1, -1, 1] (1 / 2) (([1, 2, 3] : List ℝ).set j t)).getD 0) 0
      (([1, 2, 3] : List ℝ).getD j 0)) :=
  logistic_stationary_iff_grad_zero 2 _ _ _ _ rfl

example : HasDerivAt (fun t : ℝ => -logLogistic ((2 + 3 * (t - 1)) * (-1)))
    ((logistic (2 * (-1)) - 1) * (-1) * 3) 1 := logistic_grad_is_derivative_partial 2 3 1 (-1)

/-! ### multinomial

Every entry of `multiLogisticGrad` is the partial derivative of `multiLogisticLoss` (penalty on the weight rows only,
intercept row = column sums of `softmax(H) - Y`), for one-hot targets (rows of length `k` that sum to one — for other
targets the code's gradient is NOT the derivative of its loss).  First: the quantity the gradient code calls `prob` IS
the row-wise softmax (the `1e-15` floor is inactive once the max is taken per row), and the block structure of the
result. -/

/-- **`exp(H - log_sum_exp(H))` is the softmax of the row** (for any floor `eps ≤ 1`; the code's is
`1e-15`) — `multi_logistic_grad` and `predict_probabilities` speak of the same probabilities. -/
theorem exp_logprob_is_softmax (eps : ℝ) (heps : eps ≤ 1) (a : ℝ) (as : List ℝ) :
    (a :: as).map (fun h => Real.exp (h - logSumExpRow eps (a :: as))) = softmax (a :: as) := by
  have hS := softmax_denominator_pos a as (as.foldl maxS a)
  rw [softmax_cons, logSumExpRow_cons eps heps]
  apply List.map_congr_left
  intro h _
  rw [← sub_sub, sub_right_comm, Real.exp_sub, Real.exp_log hS]

/-- block structure of the multinomial gradient: weight rows `Xᵀ(P - Y) + alpha W`, then one
intercept row of column sums of `P - Y` without penalty -/
theorem multi_logistic_grad_structure (eps : ℝ) (nf k : Nat) (x y w : List (List ℝ)) (alpha : ℝ)
    (hw : w.length = nf + 1) :
    multiLogisticGrad eps nf k x y alpha w =
      some ((List.range nf).map (fun j => (List.range k).map fun c =>
              dotS (col x j) (col (multiDiff eps k x y (w.take nf) ((w.drop nf).headD [])) c) +
                ((w.take nf).getD j []).getD c 0 * alpha) ++
            [(List.range k).map fun c => sumS (col (multiDiff eps k x y (w.take nf) ((w.drop nf).headD [])) c)]) := by
  simp only [multiLogisticGrad, splitParams2_of_length_succ nf k w hw, if_pos hw]

example : ([1, 2, 3] : List ℝ).map (fun h => Real.exp (h - logSumExpRow (1 / 10) [1, 2, 3])) = softmax [1, 2, 3] :=
  exp_logprob_is_softmax _ (by norm_num) 1 [2, 3]

theorem multi_penalty_hasDerivAt (params : List (List ℝ)) (alpha : ℝ) (j c0 : Nat) (hj : j < params.length)
    (hc0 : c0 < (params.getD j []).length) :
    HasDerivAt (fun t : ℝ => (Logistic.half : ℝ) * alpha *
        elemDot (params.set j ((params.getD j []).set c0 t)) (params.set j ((params.getD j []).set c0 t)))
      ((params.getD j []).getD c0 0 * alpha) ((params.getD j []).getD c0 0) := by
  simp only [elemDot_set_self params j _ hj, dotS_set_self (params.getD j []) c0 _ hc0, ← add_assoc,
    sub_add_sub_cancel]
  exact penalty_hasDerivAt alpha _ _

/-- **weight entry `(j, c0)`, model with intercept**: every weight entry of `multiLogisticGrad` is the partial
derivative of `multiLogisticLoss`, for every sample list, every one-hot target matrix (rows of length `k` summing to
one), every `k`, `alpha` and every parameter matrix with `nf + 1` rows of length `k` -/
theorem multi_logistic_grad_is_derivative_weight (eps : ℝ) (heps : eps ≤ 1) (nf k : Nat) (x y w : List (List ℝ))
    (alpha : ℝ) (hw : w.length = nf + 1) (hwk : ∀ r ∈ w, r.length = k)
    (hy : ∀ yr ∈ y, yr.length = k ∧ yr.sum = 1) (j c0 : Nat) (hj : j < nf) (hc0 : c0 < k) :
    HasDerivAt (fun t : ℝ => (multiLogisticLoss eps nf k x y alpha (setEntry w j c0 t)).getD 0)
      ((((multiLogisticGrad eps nf k x y alpha w).getD []).getD j []).getD c0 0) ((w.getD j []).getD c0 0) := by
  have hwj : (w.take nf).getD j [] = w.getD j [] := by simp [List.getD_eq_getElem?_getD, hj]
  rw [← hwj]
  refine multi_split_loss_hasDerivAt_weight eps heps nf k x y w (w.take nf) ((w.drop nf).headD []) alpha hy j c0 hj hc0
    (by rw [List.length_take, hw]; omega) (by rw [hwj]; exact length_getD_of_forall hwk (by omega))
    (splitParams2_of_length_succ nf k w hw) (multi_penalty_hasDerivAt _ alpha j c0) fun t => ?_
  rw [splitParams2_of_length_succ nf k _ (by rw [setEntry, List.length_set, hw]), setEntry, List.take_set,
    List.drop_set_of_lt hj, setEntry, hwj]

/-- **intercept entry `c0`**: the last row of `multiLogisticGrad` holds the partial derivatives with respect to
the intercepts (no penalty term) -/
theorem multi_logistic_grad_is_derivative_intercept (eps : ℝ) (heps : eps ≤ 1) (nf k : Nat) (x y w : List (List ℝ))
    (alpha : ℝ) (hw : w.length = nf + 1) (hwk : ∀ r ∈ w, r.length = k)
    (hy : ∀ yr ∈ y, yr.length = k ∧ yr.sum = 1) (c0 : Nat) (hc0 : c0 < k) :
    HasDerivAt (fun t : ℝ => (multiLogisticLoss eps nf k x y alpha (setEntry w nf c0 t)).getD 0)
      ((((multiLogisticGrad eps nf k x y alpha w).getD []).getD nf []).getD c0 0) ((w.getD nf []).getD c0 0) := by
  have hnw : nf < w.length := by omega
  have hB : ∀ v : List (List ℝ), (v.drop nf).headD [] = v.getD nf [] := fun v => by
    rw [List.headD_eq_head?_getD, List.head?_drop, List.getD_eq_getElem?_getD]
  have e : ∀ t, splitParams2 nf k (setEntry w nf c0 t) = some (w.take nf, (w.getD nf []).set c0 t) := by
    intro t
    rw [splitParams2_of_length_succ nf k _ (by rw [setEntry, List.length_set, hw]), hB, setEntry,
      List.take_set_of_le (le_refl nf), getD_set_self _ _ _ _ hnw]
  simp only [fun t => multiLogisticLoss_of_split eps nf k x y _ _ _ alpha (e t), Option.getD_some, elemDot_logProb]
  rw [multi_logistic_grad_structure eps nf k x y w alpha hw, Option.getD_some,
    getD_append_length _ _ _ nf (by rw [List.length_map, List.length_range]), getD_map_range _ hc0, hB,
    col_multiDiff eps k c0 hc0 _ _ x y hy, sumS_eq_sum]
  refine ((multi_data_hasDerivAt eps heps k c0 hc0 _ (fun row => sc k row (w.take nf) (w.getD nf [])) (fun _ => 1) _
    (fun t row => ?_) (fun row => sc_length k row _ _) x y hy).congr_deriv (by simp only [mul_one])).add_const _
  rw [sc_set_intercept k row _ _ c0 t (by rw [length_getD_of_forall hwk hnw]; exact hc0),
    sc_getD k row _ _ c0 hc0]

/-- **model without intercept**: `w` has `nf` rows, the intercepts are fixed at zero -/
theorem multi_logistic_grad_is_derivative_no_intercept (eps : ℝ) (heps : eps ≤ 1) (nf k : Nat)
    (x y w : List (List ℝ)) (alpha : ℝ) (hw : w.length = nf) (hwk : ∀ r ∈ w, r.length = k)
    (hy : ∀ yr ∈ y, yr.length = k ∧ yr.sum = 1) (j c0 : Nat) (hj : j < nf) (hc0 : c0 < k) :
    HasDerivAt (fun t : ℝ => (multiLogisticLoss eps nf k x y alpha (setEntry w j c0 t)).getD 0)
      ((((multiLogisticGrad eps nf k x y alpha w).getD []).getD j []).getD c0 0) ((w.getD j []).getD c0 0) :=
  multi_split_loss_hasDerivAt_weight eps heps nf k x y w w (List.replicate k 0) alpha hy j c0 hj hc0 hw
    (length_getD_of_forall hwk (by omega)) (splitParams2_of_length nf k w hw)
    (multi_penalty_hasDerivAt w alpha j c0) fun t =>
      splitParams2_of_length nf k _ (by rw [setEntry, List.length_set, hw])

/-- **every entry at once** (model with intercept): rows `j < nf` are weights, row `nf` the intercepts -/
theorem multi_logistic_grad_is_derivative (eps : ℝ) (heps : eps ≤ 1) (nf k : Nat) (x y w : List (List ℝ))
    (alpha : ℝ) (hw : w.length = nf + 1) (hwk : ∀ r ∈ w, r.length = k)
    (hy : ∀ yr ∈ y, yr.length = k ∧ yr.sum = 1) (j c0 : Nat) (hj : j < nf + 1) (hc0 : c0 < k) :
    HasDerivAt (fun t : ℝ => (multiLogisticLoss eps nf k x y alpha (setEntry w j c0 t)).getD 0)
      ((((multiLogisticGrad eps nf k x y alpha w).getD []).getD j []).getD c0 0) ((w.getD j []).getD c0 0) := by
  by_cases h : j < nf
  · exact multi_logistic_grad_is_derivative_weight eps heps nf k x y w alpha hw hwk hy j c0 h hc0
  · have : j = nf := by omega
    subst this
    exact multi_logistic_grad_is_derivative_intercept eps heps j k x y w alpha hw hwk hy c0 hc0

/-- **oracle clause `stationary` ⇔ first-order optimality** (multinomial): the gradient matrix the code returns
vanishes at `w` iff every partial derivative of the documented objective `multiLogisticLoss` is zero at `w` -/
theorem multi_logistic_stationary_iff_grad_zero (eps : ℝ) (heps : eps ≤ 1) (nf k : Nat) (x y w : List (List ℝ))
    (alpha : ℝ) (hw : w.length = nf + 1) (hwk : ∀ r ∈ w, r.length = k)
    (hy : ∀ yr ∈ y, yr.length = k ∧ yr.sum = 1) :
    (∀ j c, j < nf + 1 → c < k → (((multiLogisticGrad eps nf k x y alpha w).getD []).getD j []).getD c 0 = 0) ↔
    (∀ j c, j < nf + 1 → c < k →
      HasDerivAt (fun t : ℝ => (multiLogisticLoss eps nf k x y alpha (setEntry w j c t)).getD 0) 0
        ((w.getD j []).getD c 0)) := by
  constructor
  · intro h0 j c hj hc
    have h := multi_logistic_grad_is_derivative eps heps nf k x y w alpha hw hwk hy j c hj hc
    rw [h0 j c hj hc] at h
    exact h
  · intro h0 j c hj hc
    exact (multi_logistic_grad_is_derivative eps heps nf k x y w alpha hw hwk hy j c hj hc).unique (h0 j c hj hc)

example : HasDerivAt (fun t : ℝ => (multiLogisticLoss (1 / 10) 1 2 [[1], [2], [-1]] [[1, 0], [0, 1], [1, 0]] (1 / 2)
      (setEntry ([[1, 2], [0, 1]] : List (List ℝ)) 0 1 t)).getD 0)
    ((((multiLogisticGrad (1 / 10) 1 2 [[1], [2], [-1]] [[1, 0], [0, 1], [1, 0]] (1 / 2)
      ([[1, 2], [0, 1]] : List (List ℝ))).getD []).getD 0 []).getD 1 0)
    (((([[1, 2], [0, 1]] : List (List ℝ))).getD 0 []).getD 1 0) :=
  multi_logistic_grad_is_derivative (1 / 10) (by norm_num) 1 2 _ _ _ _ rfl
    (by intro r hr; simp at hr; rcases hr with rfl | rfl <;> rfl)
    (by intro r hr; simp at hr; rcases hr with rfl | rfl | rfl <;> norm_num) 0 1 (by norm_num) (by norm_num)

example : HasDerivAt (fun t : ℝ => (multiLogisticLoss (1 / 10) 1 2 [[1], [2], [-1]] [[1, 0], [0, 1], [1, 0]] (1 / 2)
      (setEntry ([[1, 2]] : List (List ℝ)) 0 0 t)).getD 0)
    ((((multiLogisticGrad (1 / 10) 1 2 [[1], [2], [-1]] [[1, 0], [0, 1], [1, 0]] (1 / 2)
      ([[1, 2]] : List (List ℝ))).getD []).getD 0 []).getD 0 0)
    (((([[1, 2]] : List (List ℝ))).getD 0 []).getD 0 0) :=
  multi_logistic_grad_is_derivative_no_intercept (1 / 10) (by norm_num) 1 2 _ _ _ _ rfl
    (by intro r hr; simp at hr; subst hr; rfl)
    (by intro r hr; simp at hr; rcases hr with rfl | rfl | rfl <;> norm_num) 0 0 (by norm_num) (by norm_num)

end Grad

section Glm
open LinfaSpec.Glm

/-- **`in_range` is the support of the distribution**: every real for the normal (`power ≤ 0`),
`y ≥ 0` for `1 ≤ power < 2`, `y > 0` for `power ≥ 2`; powers in `(0,1)` are rejected. -/
theorem in_range_iff_support (power : ℝ) (y : List ℝ) :
    (power ≤ 0 → inRange power y = some true) ∧
    (0 < power → power < 1 → inRange power y = none) ∧
    (1 ≤ power → power < 2 → inRange power y = some (decide (∀ v ∈ y, 0 ≤ v))) ∧
    (2 ≤ power → inRange power y = some (decide (∀ v ∈ y, 0 < v))) := by
  refine ⟨fun h => ?_, fun h0 h1 => ?_, fun h1 h2 => ?_, fun h => ?_⟩
  · rw [inRange, if_pos h]
  · rw [inRange, if_neg (not_le.mpr h0), if_pos h1]
  · rw [inRange, if_neg (not_le.mpr (one_pos.trans_le h1)), if_neg (not_lt.mpr h1), two_eq, if_pos h2, List.all_eq]
    simp only [decide_eq_true_eq]
  · rw [inRange, if_neg (not_le.mpr (two_pos.trans_le h)), if_neg (not_lt.mpr (one_le_two.trans h)), two_eq,
      if_neg (not_lt.mpr h), List.all_eq]
    simp only [decide_eq_true_eq]

/-- **predictions lie in the range of the link**: positive for the log link, in `(0,1)` for logit -/
theorem predictions_in_link_range (x : List (List ℝ)) (coef : List ℝ) (b : ℝ) :
    (∀ p ∈ predict .log x coef b, 0 < p) ∧ (∀ p ∈ predict .logit x coef b, 0 < p ∧ p < 1) := by
  constructor
  · intro p hp
    obtain ⟨row, -, rfl⟩ := List.mem_map.mp hp
    exact Real.exp_pos _
  · intro p hp
    obtain ⟨row, -, rfl⟩ := List.mem_map.mp hp
    exact logistic_range _

/-- **default link selection** (`TweedieRegressorValidParams::link()`): an explicitly chosen link is used as is; with
none chosen, the identity link for `power ≤ 0` and the log link otherwise -/
theorem default_link_spec (power : ℝ) :
    (∀ l, Glm.selectLink (some l) power = l) ∧
    (power ≤ 0 → Glm.selectLink none power = .identity) ∧
    (0 < power → Glm.selectLink none power = .log) := by
  refine ⟨fun l => rfl, fun h => ?_, fun h => ?_⟩
  · simp [Glm.selectLink, Glm.defaultLink, h]
  · simp [Glm.selectLink, Glm.defaultLink, not_le.mpr h]

/-- with the default link every prediction of a model with `power > 0` is strictly positive, i.e. a mean inside the
domain of the deviance of every distribution with `power ≥ 1` (whose support needs `μ > 0`) -/
theorem default_link_predictions_positive (power : ℝ) (hp : 0 < power) (x : List (List ℝ)) (coef : List ℝ) (b : ℝ) :
    ∀ p ∈ predict (Glm.selectLink none power) x coef b, 0 < p := by
  rw [(default_link_spec power).2.2 hp]
  exact (predictions_in_link_range x coef b).1

example : Glm.selectLink none (0 : ℝ) = .identity ∧ Glm.selectLink none (3 / 2 : ℝ) = .log ∧
    Glm.selectLink (some .logit) (1 : ℝ) = .logit :=
  ⟨(default_link_spec 0).2.1 le_rfl, (default_link_spec (3 / 2)).2.2 (by norm_num), rfl⟩

/-- **`check()` + `link()`** (`Glm.checkedLink`, the function the driver op `deflink` answers through): rejected exactly
for powers strictly between 0 and 1; otherwise the chosen link, or the default -/
theorem checked_link_spec (chosen : Option Glm.Link) (power : ℝ) :
    (Glm.checkedLink chosen power = none ↔ 0 < power ∧ power < 1) ∧
    (¬ (0 < power ∧ power < 1) → Glm.checkedLink chosen power = some (Glm.selectLink chosen power)) := by
  unfold Glm.checkedLink
  by_cases h : 0 < power ∧ power < 1
  · simp [h]
  · simp [h]

example : Glm.checkedLink none (1 / 2 : ℝ) = none ∧ Glm.checkedLink (some .logit) (3 : ℝ) = some .logit ∧
    Glm.checkedLink none (0 : ℝ) = some .identity := by
  refine ⟨((checked_link_spec none (1 / 2)).1).mpr (by norm_num), ?_, ?_⟩
  · rw [(checked_link_spec (some .logit) 3).2 (by norm_num)]; rfl
  · rw [(checked_link_spec none 0).2 (by norm_num)]; exact congrArg some ((default_link_spec 0).2.1 le_rfl)

/-- `inverse_derviative` is the derivative of `inverse`, for each link -/
theorem link_inverse_hasDerivAt (l : Glm.Link) (x : ℝ) :
    HasDerivAt (linkInverse (α := ℝ) l) (linkInverseDeriv l x) x := by
  cases l with
  | identity => exact hasDerivAt_id x
  | log => exact Real.hasDerivAt_exp x
  | logit =>
    have hf : linkInverse (α := ℝ) .logit = fun v => (1 + Real.exp (-v))⁻¹ := by
      funext v; simp [linkInverse, Transc.exp]
    rw [hf]
    have hpos : 0 < 1 + Real.exp (-x) := by positivity
    refine ((one_add_exp_neg_hasDerivAt x).inv hpos.ne').congr_deriv ?_
    simp only [linkInverseDeriv, Transc.exp]
    field_simp
    ring

example : (∀ p ∈ predict .logit [[1000], [-1000]] ([1] : List ℝ) 0, 0 < p ∧ p < 1) :=
  (predictions_in_link_range _ _ _).2

/-- `powf` over the reals -/
noncomputable def rpw : ℝ → ℝ → ℝ := fun a b => a ^ b

example : powerClass (1 / 1000000 : ℝ) 3 = .generic ∧ powerClass (1 / 1000000 : ℝ) (3 / 2) = .generic := by
  constructor <;> rw [powerClass_of_one_le _ _ (by norm_num), if_neg (by norm_num), if_neg (by norm_num)]

example : HasDerivAt (fun m => (unitDeviance rpw (1 / 1000000) 1 3 m).getD 0)
    (unitDevianceDeriv rpw 1 3 2) 2 :=
  tweedie_unit_deviance_deriv_poisson rpw rfl _ 3 2 (by norm_num) (by norm_num) (by norm_num)

/-- **per-sample, per-coordinate term of the GLM gradient**.  If `D` is the unit deviance of the sample as a function
of the mean, with derivative `d` at `μ = h(η₀)`, and the linear predictor depends on the coordinate as `η₀ + xj (t - w₀)`, then
`½ D(h(η))` has derivative `d · h'(η₀) · xj · ½` — the summand `temp[i] * x_ij * 0.5` of
`TweedieProblem::gradient` (`xj = 1` for the intercept). -/
theorem tweedie_grad_is_derivative_partial (D : ℝ → ℝ) (d : ℝ) (l : Glm.Link) (η0 xj w0 : ℝ)
    (hD : HasDerivAt D d (linkInverse l η0)) :
    HasDerivAt (fun t : ℝ => (Glm.half : ℝ) * D (linkInverse l (η0 + xj * (t - w0))))
      (d * linkInverseDeriv l η0 * xj * Glm.half) w0 :=
  ((hasDerivAt_comp_affine (hD.comp η0 (link_inverse_hasDerivAt l η0)) _ xj w0 (fun _ => rfl)).const_mul Glm.half).congr_deriv
    (mul_comm _ _)

example : HasDerivAt (fun t : ℝ => (Glm.half : ℝ) * (fun m => (unitDeviance rpw (1 / 1000000) 1 3 m).getD 0)
      (linkInverse .log (0 + 2 * (t - 0))))
    (unitDevianceDeriv rpw 1 3 (linkInverse .log 0) * linkInverseDeriv .log 0 * 2 * Glm.half) 0 :=
  tweedie_grad_is_derivative_partial _ _ .log 0 2 0
    (tweedie_unit_deviance_deriv_poisson rpw rfl _ 3 _ (by norm_num) (by simp [linkInverse, Transc.exp]) (by norm_num))

/-- sum rule over the sample list, coefficient `j` of the GLM objective (data part `½ Σ d(yᵢ, h(ηᵢ))`) -/
theorem glm_data_hasDerivAt_weight (pw : ℝ → ℝ → ℝ) (tol6 power : ℝ) (l : Glm.Link)
    (x : List (List ℝ)) (y c : List ℝ) (b : ℝ) (j : Nat) (hj : j < c.length)
    (H : ∀ q ∈ x.zip y, HasDerivAt (fun m => (unitDeviance pw tol6 power q.2 m).getD 0)
      (unitDevianceDeriv pw power q.2 (linkInverse l (dotS q.1 c + b))) (linkInverse l (dotS q.1 c + b))) :
    HasDerivAt (fun t : ℝ => (Glm.half : ℝ) *
        (List.zipWith (fun u v => (unitDeviance pw tol6 power u v).getD 0) y
          ((x.map fun row => dotS row (c.set j t) + b).map (linkInverse l))).sum)
      (dotS (List.zipWith (· * ·) ((x.map fun row => dotS row c + b).map (linkInverseDeriv l))
          (List.zipWith (unitDevianceDeriv pw power) y ((x.map fun row => dotS row c + b).map (linkInverse l))))
        (Glm.col x j) * Glm.half) (c.getD j 0) := by
  simp only [dev_sum_eq, temp_eq]
  rw [dotS_comm _ (Glm.col x j), col_eq, dotS_col_zipWith', mul_comm]
  refine (hasDerivAt_zipWith_sum _ _ _ x y fun q hq => ?_).const_mul _
  exact (hasDerivAt_comp_affine ((H q hq).comp _ (link_inverse_hasDerivAt l (dotS q.1 c + b)))
    (fun t => dotS q.1 (c.set j t) + b) _ _ fun t => dotS_set_add q.1 c b j t hj).congr_deriv (by ring)

theorem glm_penalty_hasDerivAt (c : List ℝ) (alpha : ℝ) (j : Nat) (hj : j < c.length) :
    HasDerivAt (fun t : ℝ => (Glm.half : ℝ) * dotS (c.set j t) ((c.set j t).map (· * alpha)))
      (c.getD j 0 * alpha) (c.getD j 0) := by
  simp only [dotS_map_mul_right, dotS_set_self c j _ hj]
  have h := ((((hasDerivAt_id' (c.getD j 0)).mul (hasDerivAt_id' (c.getD j 0))).const_add
    (dotS c c - c.getD j 0 * c.getD j 0)).mul_const alpha).const_mul (Glm.half : ℝ)
  exact h.congr_deriv (by simp only [Glm.half]; ring)

/-- negative powers (the first arm of the `match`; extreme-stable distributions): same derivative -/
theorem tweedie_unit_deviance_deriv_negative (tol6 p y μ : ℝ) (hp : p < 0) (hμ : 0 < μ) :
    HasDerivAt (fun m => (unitDeviance rpw tol6 p y m).getD 0) (unitDevianceDeriv rpw p y μ) μ := by
  simp only [unitDeviance, powerClass_of_neg tol6 p hp, Option.getD_some]
  exact power_arm_hasDerivAt rpw rfl _ p y μ (by linarith) (by linarith) hμ

/-- the points at which the code's unit deviance is finite and differentiable in the mean, per arm of the power
`match`: everywhere for the Normal arm; `μ > 0` (and the support of `y`) for the others -/
def DevianceDomain (tol6 power y μ : ℝ) : Prop :=
  power = 0 ∨ (power < 0 ∧ 0 < μ) ∨ (power = 1 ∧ 0 < μ ∧ 0 ≤ y) ∨ (power = 2 ∧ 0 < μ ∧ 0 < y) ∨
    (powerClass tol6 power = .generic ∧ power ≠ 1 ∧ power ≠ 2 ∧ 0 < μ)

/-- every arm of the power `match`: the code's `unit_deviance_derivative` is the derivative of its `unit_deviance` -/
theorem unit_deviance_hasDerivAt (tol6 power y μ : ℝ) (ht : 0 < tol6) (ht1 : tol6 ≤ 1)
    (h : DevianceDomain tol6 power y μ) :
    HasDerivAt (fun m => (unitDeviance rpw tol6 power y m).getD 0) (unitDevianceDeriv rpw power y μ) μ := by
  rcases h with h | ⟨h, hμ⟩ | ⟨h, hμ, hy⟩ | ⟨h, hμ, hy⟩ | ⟨hc, h1, h2, hμ⟩
  · subst h; exact tweedie_unit_deviance_deriv_normal rpw rfl tol6 y μ
  · exact tweedie_unit_deviance_deriv_negative tol6 power y μ h hμ
  · subst h; exact tweedie_unit_deviance_deriv_poisson rpw rfl tol6 y μ ht hμ hy
  · subst h; exact tweedie_unit_deviance_deriv_gamma rpw rfl tol6 y μ ht ht1 hμ hy
  · exact tweedie_unit_deviance_deriv_generic rpw rfl tol6 power y μ hc h1 h2 hμ

theorem link_inverse_pos (l : Glm.Link) (hl : l ≠ .identity) (η : ℝ) : 0 < linkInverse l η := by
  cases l with
  | identity => exact absurd rfl hl
  | log => exact Real.exp_pos η
  | logit => exact (logistic_range η).1

/-- the data-part summands of `TweedieProblem::gradient` (`temp` in the Rust code) -/
noncomputable def glmTemp (power : ℝ) (l : Glm.Link) (x : List (List ℝ)) (y c : List ℝ) (b : ℝ) : List ℝ :=
  List.zipWith (· * ·) ((x.map fun row => dotS row c + b).map (linkInverseDeriv l))
    (List.zipWith (unitDevianceDeriv rpw power) y ((x.map fun row => dotS row c + b).map (linkInverse l)))

theorem glm_cost_icpt (tol6 power alpha : ℝ) (l : Glm.Link) (hc : powerClass tol6 power ≠ .invalid)
    (x : List (List ℝ)) (y c : List ℝ) (b : ℝ) :
    (Glm.cost rpw tol6 power alpha l true x y (b :: c)).getD 0 =
      (Glm.half : ℝ) * (List.zipWith (fun u v => (unitDeviance rpw tol6 power u v).getD 0) y
          ((x.map fun row => dotS row c + b).map (linkInverse l))).sum +
        (Glm.half : ℝ) * dotS c (c.map (· * alpha)) := by
  simp only [Glm.cost, Glm.linPred, Glm.splitP, if_true, List.drop_one, List.tail_cons, List.headD_cons]
  rw [deviance_eq rpw tol6 power hc]
  simp only [Option.getD_some]
  ring

theorem glm_gradient_icpt (power alpha : ℝ) (l : Glm.Link) (nf : Nat) (x : List (List ℝ)) (y c : List ℝ) (b : ℝ) :
    Glm.gradient rpw power alpha l true nf x y (b :: c) =
      (sumS (glmTemp power l x y c b) * Glm.half) ::
        (List.range nf).map fun j => dotS (glmTemp power l x y c b) (Glm.col x j) * Glm.half + c.getD j 0 * alpha := by
  simp only [Glm.gradient, Glm.linPred, Glm.splitP, if_true, List.drop_one, List.tail_cons, List.headD_cons, glmTemp]

/-- **coefficient `j`, model with intercept**: entry `j+1` of `Glm.gradient` is the partial derivative of
`Glm.cost` = `½ (deviance + α ‖coef‖²)` with respect to coefficient `j` (parameter vector = intercept first), for every
sample list, every arm of the power `match` and every link, at parameters whose means are in the deviance's domain -/
theorem tweedie_grad_is_derivative_weight (tol6 power alpha : ℝ) (ht : 0 < tol6) (ht1 : tol6 ≤ 1) (l : Glm.Link)
    (hc : powerClass tol6 power ≠ .invalid) (nf : Nat) (x : List (List ℝ)) (y p : List ℝ)
    (hp : p.length = nf + 1) (j : Nat) (hj : j < nf)
    (H : ∀ q ∈ x.zip y, DevianceDomain tol6 power q.2 (linkInverse l (dotS q.1 (p.drop 1) + p.headD 0))) :
    HasDerivAt (fun t : ℝ => (Glm.cost rpw tol6 power alpha l true x y (p.set (j + 1) t)).getD 0)
      ((Glm.gradient rpw power alpha l true nf x y p).getD (j + 1) 0) (p.getD (j + 1) 0) := by
  cases p with
  | nil => simp at hp
  | cons b c =>
    simp only [List.set_cons_succ, glm_cost_icpt tol6 power alpha l hc]
    rw [glm_gradient_icpt, List.getD_cons_succ, List.getD_cons_succ, getD_map_range _ hj]
    have hjc : j < c.length := by rw [List.length_cons] at hp; omega
    exact (glm_data_hasDerivAt_weight rpw tol6 power l x y c b j hjc
      (fun q hq => unit_deviance_hasDerivAt tol6 power q.2 _ ht ht1 (H q hq))).add (glm_penalty_hasDerivAt c alpha j hjc)

/-- **model without intercept**: `p.length = nf`, intercept fixed at `0` -/
theorem tweedie_grad_is_derivative_no_intercept (tol6 power alpha : ℝ) (ht : 0 < tol6) (ht1 : tol6 ≤ 1) (l : Glm.Link)
    (hc : powerClass tol6 power ≠ .invalid) (nf : Nat) (x : List (List ℝ)) (y p : List ℝ)
    (hp : p.length = nf) (j : Nat) (hj : j < nf)
    (H : ∀ q ∈ x.zip y, DevianceDomain tol6 power q.2 (linkInverse l (dotS q.1 p + 0))) :
    HasDerivAt (fun t : ℝ => (Glm.cost rpw tol6 power alpha l false x y (p.set j t)).getD 0)
      ((Glm.gradient rpw power alpha l false nf x y p).getD j 0) (p.getD j 0) := by
  simp only [glm_cost_no_icpt rpw tol6 power alpha l hc]
  rw [glm_gradient_no_icpt, getD_map_range _ hj]
  exact (glm_data_hasDerivAt_weight rpw tol6 power l x y p 0 j (hp ▸ hj)
    (fun q hq => unit_deviance_hasDerivAt tol6 power q.2 _ ht ht1 (H q hq))).add (glm_penalty_hasDerivAt p alpha j (hp ▸ hj))

/-- **every entry at once** (model with intercept; entry `0` = intercept, entry `j+1` = coefficient `j`) -/
theorem tweedie_grad_is_derivative (tol6 power alpha : ℝ) (ht : 0 < tol6) (ht1 : tol6 ≤ 1) (l : Glm.Link)
    (hc : powerClass tol6 power ≠ .invalid) (nf : Nat) (x : List (List ℝ)) (y p : List ℝ)
    (hp : p.length = nf + 1) (i : Nat) (hi : i < nf + 1)
    (H : ∀ q ∈ x.zip y, DevianceDomain tol6 power q.2 (linkInverse l (dotS q.1 (p.drop 1) + p.headD 0))) :
    HasDerivAt (fun t : ℝ => (Glm.cost rpw tol6 power alpha l true x y (p.set i t)).getD 0)
      ((Glm.gradient rpw power alpha l true nf x y p).getD i 0) (p.getD i 0) := by
  cases i with
  | zero =>
    -- the intercept: no penalty term
    cases p with
    | nil => simp at hp
    | cons b c =>
      have H : ∀ q ∈ x.zip y, DevianceDomain tol6 power q.2 (linkInverse l (dotS q.1 c + b)) := H
      simp only [List.set_cons_zero, glm_cost_icpt tol6 power alpha l hc, dev_sum_eq]
      rw [glm_gradient_icpt, List.getD_cons_zero, List.getD_cons_zero, glmTemp, temp_eq, sumS_eq_sum,
        mul_comm _ (Glm.half : ℝ)]
      refine ((hasDerivAt_zipWith_sum _ _ _ x y fun q hq => ?_).const_mul _).add_const _
      exact (hasDerivAt_comp_affine ((unit_deviance_hasDerivAt tol6 power q.2 _ ht ht1 (H q hq)).comp _
        (link_inverse_hasDerivAt l (dotS q.1 c + b))) (fun t => dotS q.1 c + t) 1 b fun t => by ring).congr_deriv
        (by ring)
  | succ j => exact tweedie_grad_is_derivative_weight tol6 power alpha ht ht1 l hc nf x y p hp j (by omega) H

/-- **oracle clause `stationary` ⇔ first-order optimality** (Tweedie GLM): `Glm.gradient` vanishes at `p` iff every
partial derivative of the documented objective `½ (deviance + α ‖coef‖²)` is zero at `p` -/
theorem tweedie_stationary_iff_grad_zero (tol6 power alpha : ℝ) (ht : 0 < tol6) (ht1 : tol6 ≤ 1) (l : Glm.Link)
    (hc : powerClass tol6 power ≠ .invalid) (nf : Nat) (x : List (List ℝ)) (y p : List ℝ)
    (hp : p.length = nf + 1)
    (H : ∀ q ∈ x.zip y, DevianceDomain tol6 power q.2 (linkInverse l (dotS q.1 (p.drop 1) + p.headD 0))) :
    (∀ i, i < nf + 1 → (Glm.gradient rpw power alpha l true nf x y p).getD i 0 = 0) ↔
    (∀ i, i < nf + 1 →
      HasDerivAt (fun t : ℝ => (Glm.cost rpw tol6 power alpha l true x y (p.set i t)).getD 0) 0 (p.getD i 0)) :=
  stationary_iff_of_hasDerivAt (nf + 1) _ _ _
    (fun i hi => tweedie_grad_is_derivative tol6 power alpha ht ht1 l hc nf x y p hp i hi H)

/-- with the log or the logit link the domain hypothesis reduces to the support of the targets -/
theorem deviance_domain_of_positive_link (tol6 power y η : ℝ) (l : Glm.Link) (hl : l ≠ .identity)
    (h : power = 0 ∨ power < 0 ∨ (power = 1 ∧ 0 ≤ y) ∨ (power = 2 ∧ 0 < y) ∨
      (powerClass tol6 power = .generic ∧ power ≠ 1 ∧ power ≠ 2)) :
    DevianceDomain tol6 power y (linkInverse l η) := by
  have hμ := link_inverse_pos l hl η
  rcases h with h | h | ⟨h, hy⟩ | ⟨h, hy⟩ | ⟨h, h1, h2⟩
  · exact Or.inl h
  · exact Or.inr (Or.inl ⟨h, hμ⟩)
  · exact Or.inr (Or.inr (Or.inl ⟨h, hμ, hy⟩))
  · exact Or.inr (Or.inr (Or.inr (Or.inl ⟨h, hμ, hy⟩)))
  · exact Or.inr (Or.inr (Or.inr (Or.inr ⟨h, h1, h2, hμ⟩)))

example : HasDerivAt (fun t : ℝ => (Glm.cost rpw (1 / 1000000) 1 (1 / 2) .log true [[1], [2]] [3, 0]
      (([0, 1 / 2] : List ℝ).set 1 t)).getD 0)
    ((Glm.gradient rpw 1 (1 / 2) .log true 1 [[1], [2]] [3, 0] ([0, 1 / 2] : List ℝ)).getD 1 0)
    (([0, 1 / 2] : List ℝ).getD 1 0) :=
  tweedie_grad_is_derivative (1 / 1000000) 1 (1 / 2) (by norm_num) (by norm_num) .log
    (by rw [powerClass_one _ (by norm_num)]; decide) 1 _ _ _ rfl 1 (by norm_num)
    (fun q hq => deviance_domain_of_positive_link _ _ _ _ .log (by decide)
      (Or.inr (Or.inr (Or.inl ⟨rfl, by
        have := (List.of_mem_zip hq).2
        simp only [List.mem_cons, List.not_mem_nil, or_false] at this
        rcases this with h | h <;> norm_num [h]⟩))))

/-- identity link: the domain hypothesis `μ > 0` is a genuine condition on the parameters (Gamma, `μ = x·coef`) -/
example : HasDerivAt (fun t : ℝ => (Glm.cost rpw (1 / 1000000) 2 1 .identity false [[1], [2]] [3, 1]
      (([1] : List ℝ).set 0 t)).getD 0)
    ((Glm.gradient rpw 2 1 .identity false 1 [[1], [2]] [3, 1] ([1] : List ℝ)).getD 0 0)
    (([1] : List ℝ).getD 0 0) :=
  tweedie_grad_is_derivative_no_intercept (1 / 1000000) 2 1 (by norm_num) (by norm_num) .identity
    (by rw [powerClass_two _ (by norm_num) (by norm_num)]; decide) 1 _ _ _ rfl 0 (by norm_num)
    (fun q hq => Or.inr (Or.inr (Or.inr (Or.inl (by
      have : q ∈ [([1], (3 : ℝ)), ([2], (1 : ℝ))] := hq
      simp at this
      rcases this with rfl | rfl <;> simp [linkInverse, dotS, sumS])))))

end Glm

/-! ## quantitative stationarity, hypotheses discharged by the code's guards

The exact-zero forms `*_stationary_iff_grad_zero` never apply to a float output; the forms below are what the oracle
clause `stationary` tests (`‖gradient‖₂ ≤ tol`), evaluated with the CODE's gradient at the fitted point and
compared there with `multiLogisticGrad` / `Glm.gradient` through the ops `mgrad` / `ggrad`. -/

section Quantitative
open LinfaSpec.Glm

theorem getD_mem_or_default {α : Type} (l : List α) (i : Nat) (d : α) : l.getD i d ∈ l ∨ l.getD i d = d := by
  rw [List.getD_eq_getElem?_getD]
  cases h : l[i]? with
  | none => right; rfl
  | some v => left; exact List.mem_of_getElem? h

/-- **quantitative form (multinomial), as the oracle tests it**: Frobenius norm of `multiLogisticGrad` at most `tol` ⇒ every
partial derivative of the documented objective is at most `tol` in absolute value (usable on a float output, unlike the
exact-zero form `multi_logistic_stationary_iff_grad_zero`) -/
theorem multi_logistic_partials_le_of_grad_norm_le (eps : ℝ) (heps : eps ≤ 1) (nf k : Nat) (x y w : List (List ℝ))
    (alpha tol : ℝ) (hw : w.length = nf + 1) (hwk : ∀ r ∈ w, r.length = k)
    (hy : ∀ yr ∈ y, yr.length = k ∧ yr.sum = 1) (htol : 0 ≤ tol)
    (hn : ((((multiLogisticGrad eps nf k x y alpha w).getD []).flatten).map (· ^ 2)).sum ≤ tol ^ 2)
    (j c : Nat) (hj : j < nf + 1) (hc : c < k) :
    |deriv (fun t : ℝ => (multiLogisticLoss eps nf k x y alpha (setEntry w j c t)).getD 0) ((w.getD j []).getD c 0)| ≤ tol := by
  rw [(multi_logistic_grad_is_derivative eps heps nf k x y w alpha hw hwk hy j c hj hc).deriv]
  rcases getD_mem_or_default (((multiLogisticGrad eps nf k x y alpha w).getD []).getD j []) c 0 with h | h
  · rcases getD_mem_or_default ((multiLogisticGrad eps nf k x y alpha w).getD []) j [] with h' | h'
    · exact entry_abs_le_of_norm_le _ tol htol hn _ (List.mem_flatten.mpr ⟨_, h', h⟩)
    · rw [h'] at h; simp at h
  · rw [h]; simpa using htol

theorem sum_sq_nonneg (g : List ℝ) : 0 ≤ (g.map (· ^ 2)).sum :=
  List.sum_nonneg (by intro v hv; obtain ⟨u, -, rfl⟩ := List.mem_map.mp hv; exact sq_nonneg u)

/-- hypotheses satisfiable: with `tol = ‖gradient‖₂` every partial derivative is bounded by the norm of the code's gradient -/
example : |deriv (fun t : ℝ => (multiLogisticLoss (1 / 10) 1 2 [[1], [2], [-1]] [[1, 0], [0, 1], [1, 0]] (1 / 2)
      (setEntry ([[1, 2], [0, 1]] : List (List ℝ)) 0 1 t)).getD 0) (((([[1, 2], [0, 1]] : List (List ℝ))).getD 0 []).getD 1 0)| ≤
    Real.sqrt (((((multiLogisticGrad (1 / 10) 1 2 [[1], [2], [-1]] [[1, 0], [0, 1], [1, 0]] (1 / 2)
      ([[1, 2], [0, 1]] : List (List ℝ))).getD []).flatten).map (· ^ 2)).sum) :=
  multi_logistic_partials_le_of_grad_norm_le (1 / 10) (by norm_num) 1 2 _ _ _ _ _ rfl
    (by intro r hr; simp at hr; rcases hr with rfl | rfl <;> rfl)
    (by intro r hr; simp at hr; rcases hr with rfl | rfl | rfl <;> norm_num) (Real.sqrt_nonneg _)
    (by rw [Real.sq_sqrt (sum_sq_nonneg _)]) 0 1 (by norm_num) (by norm_num)

/-- **quantitative form (Tweedie GLM)**: `‖Glm.gradient‖₂ ≤ tol` ⇒ every partial derivative of `½ (deviance + α ‖coef‖²)` is at
most `tol` in absolute value -/
theorem tweedie_partials_le_of_grad_norm_le (tol6 power alpha tol : ℝ) (ht : 0 < tol6) (ht1 : tol6 ≤ 1) (l : Glm.Link)
    (hc : powerClass tol6 power ≠ .invalid) (nf : Nat) (x : List (List ℝ)) (y p : List ℝ)
    (hp : p.length = nf + 1) (htol : 0 ≤ tol)
    (hn : ((Glm.gradient rpw power alpha l true nf x y p).map (· ^ 2)).sum ≤ tol ^ 2)
    (H : ∀ q ∈ x.zip y, DevianceDomain tol6 power q.2 (linkInverse l (dotS q.1 (p.drop 1) + p.headD 0)))
    (i : Nat) (hi : i < nf + 1) :
    |deriv (fun t : ℝ => (Glm.cost rpw tol6 power alpha l true x y (p.set i t)).getD 0) (p.getD i 0)| ≤ tol := by
  rw [(tweedie_grad_is_derivative tol6 power alpha ht ht1 l hc nf x y p hp i hi H).deriv]
  exact getD_abs_le_of_norm_le _ tol htol hn i

example : |deriv (fun t : ℝ => (Glm.cost rpw (1 / 1000000) 1 (1 / 2) .log true [[1], [2]] [3, 0]
      (([0, 1 / 2] : List ℝ).set 1 t)).getD 0) (([0, 1 / 2] : List ℝ).getD 1 0)| ≤
    Real.sqrt (((Glm.gradient rpw 1 (1 / 2) .log true 1 [[1], [2]] [3, 0] ([0, 1 / 2] : List ℝ)).map (· ^ 2)).sum) :=
  tweedie_partials_le_of_grad_norm_le (1 / 1000000) 1 (1 / 2) _ (by norm_num) (by norm_num) .log
    (by rw [powerClass_one _ (by norm_num)]; decide) 1 _ _ _ rfl (Real.sqrt_nonneg _) (by rw [Real.sq_sqrt (sum_sq_nonneg _)])
    (fun q hq => deviance_domain_of_positive_link _ _ _ _ .log (by decide)
      (Or.inr (Or.inr (Or.inl ⟨rfl, by
        have := (List.of_mem_zip hq).2
        simp only [List.mem_cons, List.not_mem_nil, or_false] at this
        rcases this with h | h <;> norm_num [h]⟩)))) 1 (by norm_num)

/-- the powers for which the code's derivative IS the derivative of the code's deviance: the exact arms of the power
`match` (a power within `1e-6` of 1 or 2 but different from it takes the Poisson / Gamma deviance with the generic
derivative: excluded) -/
def ExactPower (tol6 power : ℝ) : Prop :=
  power ≤ 0 ∨ power = 1 ∨ power = 2 ∨ (powerClass tol6 power = .generic ∧ power ≠ 1 ∧ power ≠ 2)

/-- **the domain hypothesis is discharged by the code's own guard**: with the log or the logit link, targets accepted
by `in_range` (the test `fit` performs before anything else) lie in the domain of the deviance at EVERY parameter -/
theorem deviance_domain_of_in_range (tol6 power : ℝ) (l : Glm.Link) (hl : l ≠ .identity) (y : List ℝ)
    (hr : inRange power y = some true) (hpow : ExactPower tol6 power) (yi : ℝ) (hyi : yi ∈ y) (η : ℝ) :
    DevianceDomain tol6 power yi (linkInverse l η) := by
  apply deviance_domain_of_positive_link tol6 power yi η l hl
  rcases hpow with h | h | h | h
  · rcases lt_or_eq_of_le h with h | h
    · exact Or.inr (Or.inl h)
    · exact Or.inl h
  · subst h
    have := (in_range_iff_support 1 y).2.2.1 le_rfl (by norm_num)
    rw [this] at hr
    have hall : ∀ v ∈ y, (0 : ℝ) ≤ v := by simpa using hr
    exact Or.inr (Or.inr (Or.inl ⟨rfl, hall yi hyi⟩))
  · subst h
    have := (in_range_iff_support 2 y).2.2.2 le_rfl
    rw [this] at hr
    have hall : ∀ v ∈ y, (0 : ℝ) < v := by simpa using hr
    exact Or.inr (Or.inr (Or.inr (Or.inl ⟨rfl, hall yi hyi⟩)))
  · exact Or.inr (Or.inr (Or.inr (Or.inr h)))

/-- **whole gradient, log / logit link, hypotheses = the code's guards**: for targets accepted by `in_range` every entry
of `Glm.gradient` is the partial derivative of `½ (deviance + α ‖coef‖²)` at EVERY parameter vector (no condition on
the means: they are positive by the link) -/
theorem tweedie_grad_is_derivative_of_in_range (tol6 power alpha : ℝ) (ht : 0 < tol6) (ht1 : tol6 ≤ 1) (l : Glm.Link)
    (hl : l ≠ .identity) (hc : powerClass tol6 power ≠ .invalid) (hpow : ExactPower tol6 power)
    (nf : Nat) (x : List (List ℝ)) (y p : List ℝ) (hr : inRange power y = some true)
    (hp : p.length = nf + 1) (i : Nat) (hi : i < nf + 1) :
    HasDerivAt (fun t : ℝ => (Glm.cost rpw tol6 power alpha l true x y (p.set i t)).getD 0)
      ((Glm.gradient rpw power alpha l true nf x y p).getD i 0) (p.getD i 0) :=
  tweedie_grad_is_derivative tol6 power alpha ht ht1 l hc nf x y p hp i hi
    (fun q hq => deviance_domain_of_in_range tol6 power l hl y hr hpow q.2 (List.of_mem_zip hq).2 _)

example : HasDerivAt (fun t : ℝ => (Glm.cost rpw (1 / 1000000) 1 (1 / 2) .log true [[1], [2]] [3, 0]
      (([0, 1 / 2] : List ℝ).set 1 t)).getD 0)
    ((Glm.gradient rpw 1 (1 / 2) .log true 1 [[1], [2]] [3, 0] ([0, 1 / 2] : List ℝ)).getD 1 0)
    (([0, 1 / 2] : List ℝ).getD 1 0) :=
  tweedie_grad_is_derivative_of_in_range (1 / 1000000) 1 (1 / 2) (by norm_num) (by norm_num) .log (by decide)
    (by rw [powerClass_one _ (by norm_num)]; decide) (Or.inr (Or.inl rfl)) 1 _ _ _
    (by rw [(in_range_iff_support 1 _).2.2.1 le_rfl (by norm_num)]; simp) rfl 1 (by norm_num)

end Quantitative

end LinfaSpec.Props.C12
