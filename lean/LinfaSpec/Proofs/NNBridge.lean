import LinfaSpec.Proofs.NN
import LinfaSpec.Proofs.NNMetrics

/-! C07 — bridge between the metric theorems (stated on the subtype `{l // l.length = d}`, where the
provided metrics are `Lawful`) and the functions the driver runs on raw `List α` rows.

* `fit d` / `fitM d m`: the metric read through padding / cutting to length `d` is total on raw lists,
  `Lawful` whenever `onDim d m` is, and equal to `m` on lists of length `d` (`agree_fitM`).
* `request_congr`: one whole request (`knnRequest` / `rangeRequest`: guards, dispatch on the kind,
  build of the ball tree, search loop) does not distinguish two metrics that agree on a predicate `S`
  satisfied by the query, every row, every leaf mean and every split centre.
So a theorem about `fitM d m` (lawful) transfers to `m` itself on batches of `d`-dimensional rows. -/
namespace LinfaSpec.NN

section bridge
variable {α : Type} [Field α] [LinearOrder α] [IsStrictOrderedRing α]

/-- pad with zeros / cut to length `d` (the identity on lists of length `d`) -/
def fit (d : Nat) (l : List α) : List α := (l ++ List.replicate d 0).take d

end bridge

section
variable {α : Type} [Field α]

theorem fit_length (d : Nat) (l : List α) : (fit d l).length = d := by simp [fit]
theorem fit_eq {d : Nat} {l : List α} (h : l.length = d) : fit d l = l := by
  unfold fit; exact List.take_left' h

end

section bridge
variable {α : Type} [Field α] [LinearOrder α] [IsStrictOrderedRing α]

/-- the metric `m` read through `fit d`: total on raw lists, equal to `m` on lists of length `d` -/
def fitM (d : Nat) (m : Metric (List α) α) : Metric (List α) α :=
  ⟨fun a b => m.dist (fit d a) (fit d b), fun a b => m.rdist (fit d a) (fit d b), m.toR, m.ofR⟩

set_option linter.unusedSectionVars false in
theorem fitM_lawful {d : Nat} {m : Metric (List α) α} (h : Lawful (onDim d m)) : Lawful (fitM d m) where
  dist_nonneg a b := h.dist_nonneg ⟨fit d a, fit_length d a⟩ ⟨fit d b, fit_length d b⟩
  triangle a b c := h.triangle ⟨fit d a, fit_length d a⟩ ⟨fit d b, fit_length d b⟩ ⟨fit d c, fit_length d c⟩
  rdist_eq a b := h.rdist_eq ⟨fit d a, fit_length d a⟩ ⟨fit d b, fit_length d b⟩
  toR_strictMono := h.toR_strictMono
  ofR_toR := h.ofR_toR

/-- two metrics that agree on the points satisfying `S` (same conversions) -/
structure Agree {P : Type} (S : P → Prop) (m m' : Metric P α) : Prop where
  dist : ∀ a b, S a → S b → m.dist a b = m'.dist a b
  rdist : ∀ a b, S a → S b → m.rdist a b = m'.rdist a b
  toR : m.toR = m'.toR
  ofR : m.ofR = m'.ofR

set_option linter.unusedSectionVars false in
theorem agree_fitM (d : Nat) (m : Metric (List α) α) : Agree (fun l => l.length = d) m (fitM d m) where
  dist a b ha hb := by show m.dist a b = m.dist (fit d a) (fit d b); rw [fit_eq ha, fit_eq hb]
  rdist a b ha hb := by show m.rdist a b = m.rdist (fit d a) (fit d b); rw [fit_eq ha, fit_eq hb]
  toR := rfl
  ofR := rfl

end bridge

/-- both build forms go through `from_batch_with_leaf_size` -/
theorem buildForm_leafSize {P α : Type} [LT α] [DecidableLT α] [LE α] [DecidableLE α] [OfNat α 0] [Sub α]
    (m : Metric P α) (mean : List P → P)
    (split : List (Pt P) → Option (List (Pt P) × P × List (Pt P))) (kind : Kind) (form : Form)
    (ncols : Nat) (rows : List P) :
    buildForm m mean split kind form ncols rows =
      fromBatchWithLeafSize m mean split kind (form.leafSize) ncols rows := by
  cases form <;> rfl

section congr
variable {P α : Type} [Field α] [LinearOrder α] [IsStrictOrderedRing α]

def AllIn (S : P → Prop) : Ball P α → Prop
  | .leaf c _ pts => S c ∧ ∀ x ∈ pts, S x.1
  | .branch c _ l r => S c ∧ AllIn S l ∧ AllIn S r

set_option linter.unusedSectionVars false in
theorem AllIn.center : ∀ {node : Ball P α}, AllIn S node → S node.center
  | .leaf .., h => h.1
  | .branch .., h => h.1

/-- what `scriptSplit` guarantees besides `SplitPerm`: halves taken from the input, non-empty, the
centre is the coordinates of one of the input points -/
def SplitGood (split : List (Pt P) → Option (List (Pt P) × P × List (Pt P))) : Prop :=
  ∀ pts a c b, split pts = some (a, c, b) →
    (∀ x ∈ a ++ b, x ∈ pts) ∧ a ≠ [] ∧ b ≠ [] ∧ ∃ p ∈ pts, p.1 = c

end congr

section pointwise
variable {P α : Type} [LinearOrder α] {S : P → Prop} {m m' : Metric P α}

theorem visit_congr (hA : Agree S m m') (q : P) (hq : S q) (k : Nat) (R : Option α)
    (out : List (α × Pt P)) (p : Pt P) (hp : S p.1) :
    visit m q k R out p = visit m' q k R out p := by
  simp only [visit, hA.rdist _ _ hq hp]

theorem linearKnnTagged_congr (hA : Agree S m m') (q : P) (hq : S q) (k : Nat) (pts : List (Pt P))
    (hp : ∀ x ∈ pts, S x.1) : linearKnnTagged m q k pts = linearKnnTagged m' q k pts := by
  unfold linearKnnTagged
  rw [List.foldl_ext (fun heap p => insertAsc (tag m q p) heap)
    (fun heap p => insertAsc (tag m' q p) heap) []
    (fun acc p hpm => by simp only [tag, hA.rdist _ _ hq (hp p hpm)])]

theorem linearRange_congr (hA : Agree S m m') (q : P) (hq : S q) (r : α) (pts : List (Pt P))
    (hp : ∀ x ∈ pts, S x.1) : linearRange m q r pts = linearRange m' q r pts := by
  unfold linearRange
  rw [hA.toR]
  apply List.filter_congr
  intro x hx
  rw [hA.rdist _ _ hq (hp x hx)]

end pointwise

section radius
variable {P α : Type} [Field α] [LinearOrder α] {S : P → Prop} {m m' : Metric P α}

theorem calcRadius_congr (hA : Agree S m m') (c : P) (hc : S c) (pts : List (Pt P))
    (hp : ∀ x ∈ pts, S x.1) : calcRadius m c pts = calcRadius m' c pts := by
  unfold calcRadius
  rw [hA.ofR]
  congr 2
  apply List.map_congr_left
  intro p hpm
  exact hA.rdist _ _ (hp p hpm) hc

theorem leafOf_congr (hA : Agree S m m') (mean : List P → P)
    (hmean : ∀ ps, ps ≠ [] → (∀ p ∈ ps, S p) → S (mean ps)) (pts : List (Pt P)) (hne : pts ≠ [])
    (hp : ∀ x ∈ pts, S x.1) :
    leafOf m mean pts = leafOf m' mean pts ∧ AllIn S (leafOf m mean pts) := by
  have hc : S (mean (pts.map (·.1))) :=
    hmean _ (mt List.map_eq_nil_iff.mp hne) (List.forall_mem_map.mpr hp)
  cases pts with
  | nil => exact absurd rfl hne
  | cons x xs => exact ⟨by simp only [leafOf, calcRadius_congr hA _ hc _ hp], hc, hp⟩

end radius

section congr
variable {P α : Type} [Field α] [LinearOrder α] [IsStrictOrderedRing α]
variable {S : P → Prop} {m m' : Metric P α}
set_option linter.unusedSectionVars false

theorem lower_congr (hA : Agree S m m') (q : P) (hq : S q) (node : Ball P α) (hn : AllIn S node) :
    lower m q node = lower m' q node := by
  unfold lower
  rw [hA.toR, hA.dist _ _ hq hn.center]

theorem build_congr (hA : Agree S m m') (mean : List P → P)
    (hmean : ∀ ps, ps ≠ [] → (∀ p ∈ ps, S p) → S (mean ps))
    (split : List (Pt P) → Option (List (Pt P) × P × List (Pt P))) (hsplit : SplitGood split)
    (leafSize : Nat) : ∀ (fuel : Nat) (pts : List (Pt P)), pts ≠ [] → (∀ x ∈ pts, S x.1) →
      build m mean split leafSize fuel pts = build m' mean split leafSize fuel pts ∧
        AllIn S (build m mean split leafSize fuel pts) := by
  intro fuel
  induction fuel with
  | zero =>
    intro pts hne hp
    simpa [build] using leafOf_congr hA mean hmean pts hne hp
  | succ n ih =>
    intro pts hne hp
    by_cases h0 : pts.length ≤ leafSize
    · simpa [build, h0] using leafOf_congr hA mean hmean pts hne hp
    · cases hsp : split pts with
      | none => simpa [build, h0, hsp] using leafOf_congr hA mean hmean pts hne hp
      | some t =>
        obtain ⟨a, c, b⟩ := t
        obtain ⟨hsub, hna, hnb, p, hpm, hpc⟩ := hsplit _ _ _ _ hsp
        have hSa : ∀ x ∈ a, S x.1 := fun x hx => hp x (hsub x (List.mem_append_left _ hx))
        have hSb : ∀ x ∈ b, S x.1 := fun x hx => hp x (hsub x (List.mem_append_right _ hx))
        have hSc : S c := hpc ▸ hp p hpm
        obtain ⟨ea, ia⟩ := ih a hna hSa
        obtain ⟨eb, ib⟩ := ih b hnb hSb
        have hr := calcRadius_congr hA c hSc (a ++ b) fun x hx => hp x (hsub x hx)
        simp only [build, h0, hsp, if_false]
        exact ⟨by rw [ea, eb, hr], hSc, ia, ib⟩

theorem searchLoop_congr (hA : Agree S m m') (q : P) (hq : S q) (k : Nat) (R : Option α) :
    ∀ (fuel : Nat) (queue : List (α × Ball P α)) (out : List (α × Pt P)),
      (∀ e ∈ queue, AllIn S e.2) →
      searchLoop m q k R fuel queue out = searchLoop m' q k R fuel queue out := by
  intro fuel
  induction fuel with
  | zero => intro _ _ _; rfl
  | succ n ih =>
    intro queue out hQ
    cases queue with
    | nil => rfl
    | cons e rest =>
      obtain ⟨d, node⟩ := e
      have hnode : AllIn S node := hQ (d, node) List.mem_cons_self
      have hrest : ∀ e ∈ rest, AllIn S e.2 := fun e he => hQ e (List.mem_cons_of_mem _ he)
      rw [searchLoop_cons, searchLoop_cons]
      cases node with
      | leaf c r pts =>
        dsimp only
        rw [List.foldl_ext (visit m q k R) (visit m' q k R) out
          (fun acc p hp => visit_congr hA q hq k R acc p (hnode.2 p hp)), ih _ _ hrest]
      | branch c r l rr =>
        have hpush : ∀ (c : Ball P α) (Q : List (α × Ball P α)), AllIn S c → (∀ e ∈ Q, AllIn S e.2) →
            push m q R c Q = push m' q R c Q ∧ ∀ e ∈ push m q R c Q, AllIn S e.2 := by
          intro c Q hc hQ
          refine ⟨by rw [push, push, lower_congr hA q hq c hc], fun e he => ?_⟩
          rcases mem_push he with he | he
          · exact he ▸ hc
          · exact hQ e he
        obtain ⟨e1, a1⟩ := hpush l rest hnode.2.1 hrest
        obtain ⟨e2, a2⟩ := hpush rr _ hnode.2.2 a1
        dsimp only
        rw [ih _ _ a2, e2, e1]

theorem searchTagged_congr (hA : Agree S m m') (q : P) (hq : S q) (k : Nat) (R : Option α)
    (tree : Ball P α) (ht : AllIn S tree) :
    searchTagged m tree q k R = searchTagged m' tree q k R := by
  unfold searchTagged
  rw [lower_congr hA q hq tree ht]
  exact searchLoop_congr hA q hq k R _ _ _ (by simpa using ht)

/-- **one whole request does not distinguish two metrics that agree on `S`** when the query, every
row, every leaf mean and every split centre satisfy `S`: all three kinds, both build forms, every
guard.  (The empty batch has no leaf mean in `S`; the ball tree answers it before looking at the tree.) -/
theorem request_congr (hA : Agree S m m') (mean : List P → P)
    (hmean : ∀ ps, ps ≠ [] → (∀ p ∈ ps, S p) → S (mean ps))
    (split : List (Pt P) → Option (List (Pt P) × P × List (Pt P))) (hsplit : SplitGood split)
    (kind : Kind) (form : Form) (ncols : Nat) (rows : List P) (hrows : ∀ x ∈ rows, S x) (qdim : Nat)
    (q : P) (hq : S q) (k : Nat) (r : α) :
    knnRequest m mean split kind form ncols rows qdim q k =
      knnRequest m' mean split kind form ncols rows qdim q k ∧
    rangeRequest m mean split kind form ncols rows qdim q r =
      rangeRequest m' mean split kind form ncols rows qdim q r := by
  have hen : ∀ x ∈ enumerate rows, S x.1 := fun x hx =>
    hrows x.1 (List.mem_of_getElem? (mem_enumerate hx))
  have hk := linearKnnTagged_congr hA q hq k (enumerate rows) hen
  have hkn := linearKnnTagged_congr hA q hq (enumerate rows).length (enumerate rows) hen
  have hlr := linearRange_congr hA q hq r (enumerate rows) hen
  -- the ball tree: the same index, and the same answer of `nn_helper` (an empty batch is answered
  -- before the tree is looked at, a non-empty one has all its centres and points in `S`)
  have hball : ∀ (kk : Nat) (R : Option α),
      nnHelper m (ballIndex m mean split form.leafSize ncols rows) qdim q kk R =
        nnHelper m' (ballIndex m' mean split form.leafSize ncols rows) qdim q kk R := by
    intro kk R
    cases rows with
    | nil => rfl
    | cons x xs =>
      obtain ⟨e, a⟩ := build_congr hA mean hmean split hsplit form.leafSize (x :: xs).length
        (enumerate (x :: xs)) (List.cons_ne_nil _ _) hen
      simp only [ballIndex, nnHelper, ← e, searchTagged_congr hA q hq kk R _ a]
  simp only [knnRequest, rangeRequest, buildForm_leafSize, fromBatchWithLeafSize]
  cases buildCheck ncols form.leafSize with
  | error e => exact ⟨rfl, rfl⟩
  | ok u =>
    cases kind with
    | linear => exact ⟨by simp only [Index.kNearest, linearKnnQ, linearKnn, hk],
        by simp only [Index.withinRange, linearRangeQ, hlr]⟩
    | kd => exact ⟨by simp only [Index.kNearest, kdKnnQ, linearKnn, hk],
        by simp only [Index.withinRange, kdRangeQ, kdWithin, hkn, hA.toR]⟩
    | ball => exact ⟨by simp only [Index.kNearest, ballKnnQ, hball],
        by simp only [Index.withinRange, ballRangeQ, hball, hA.toR]; rfl⟩

end congr
end LinfaSpec.NN
