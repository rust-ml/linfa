import LinfaSpec.Proofs.Pca
import LinfaSpec.Proofs.PcaKyFan
import Mathlib.Tactic.FieldSimp

/-!
# C18 — PCA returns the leading orthonormal principal axes with their true variances

Theorems about `LinfaSpec.Pca` (the model of `linfa_reduction::Pca`: guards, sigma floor, whitening
scale, `explained_variance(_ratio)`, `predict`, `inverse_transform`).  The truncated SVD itself is an
external solver (LOBPCG / dense Rayleigh-Ritz in `linfa-linalg`): it appears as the *certificate*
hypotheses `V Vᵀ = 1` (orthonormal rows) and `(XcᵀXc) Vᵀ = Vᵀ diag(σ²)` (right-singular vectors of the
centred data), which the oracle of the check evaluates on every fit against a dense Jacobi
eigen-decomposition.  Certificate ⇒ property is proved here for all matrices, all sizes, all `k`,
whitening on and off.  Not proved: that the certificate's eigenvalues are the *largest* ones
(oracle only), and nothing about IEEE rounding.
-/
namespace LinfaSpec.Props.C18
open LinfaSpec.Pca LinfaSpec.PcaMatrix LinfaSpec.PcaKyFan Matrix

/-- carrier of the `example`s below; `sqrt` is the identity, which only the instance `sqrt 1 * sqrt 1 = 1`
(`n = 2`) of the whitening assumption relies on -/
@[reducible] private def ratTransc : Transc Rat := ⟨fun x => x, fun x => x, fun x => x⟩
attribute [local instance] ratTransc

/-- `fit` rejects exactly the inputs the statement names, before the solver is called, with the
error kinds in the order of the code -/
theorem fit_error_of_bad_input {α ε : Type} [Add α] [Sub α] [Mul α] [Div α] [LT α] [DecidableLT α]
    [OfNat α 0] [OfNat α 1] [NatCast α] [Transc α] (fl : α)
    (svd : List (List α) → Nat → Except ε (List α × List (List α))) (k p : Nat) (w : Bool)
    (lay : Layout) (X : List (List α)) :
    (X.length = 0 → fit fl svd k w lay p X = .error .notEnoughSamples) ∧
    (X.length ≠ 0 → (k = 0 ∨ p < k) → fit fl svd k w lay p X = .error (.embeddingTooSmall k)) := by
  unfold fit Pca.guard
  exact ⟨fun h => by rw [if_pos h], fun h hk => by rw [if_neg h, if_pos hk.symm]⟩

/-- conversely a fitted model exists only for `n ≥ 1` and `1 ≤ k ≤ p`, and then it is the SVD
output with floored singular values, the optional whitening scale, the column mean and `n` -/
theorem fit_ok_iff {α ε : Type} [Add α] [Sub α] [Mul α] [Div α] [LT α] [DecidableLT α]
    [OfNat α 0] [OfNat α 1] [NatCast α] [Transc α] (fl : α)
    (svd : List (List α) → Nat → Except ε (List α × List (List α))) (k p : Nat) (w : Bool)
    (lay : Layout) (X : List (List α)) (m : Model α) :
    fit fl svd k w lay p X = .ok m ↔
      (0 < X.length ∧ 1 ≤ k ∧ k ≤ p) ∧
      ∃ σ0 vt, svd (center X (colMeanL lay p X)) k = .ok (σ0, vt) ∧
        m = { embedding := if w then whiten X.length vt (floorSigma fl σ0) else vt,
              sigma := floorSigma fl σ0, mean := colMeanL lay p X, nSamples := X.length } := by
  rw [← guard_eq_none_iff (ε := ε)]
  unfold fit
  cases Pca.guard (ε := ε) X.length p k with
  | some e => exact iff_of_false nofun fun h => nomatch h.1
  | none =>
    dsimp only
    cases svd (center X (colMeanL lay p X)) k with
    | error e => exact iff_of_false nofun fun ⟨_, _, _, h, _⟩ => nomatch h
    | ok r =>
      exact ⟨fun h => ⟨rfl, r.1, r.2, rfl, (Except.ok.inj h).symm⟩,
        fun ⟨_, _, _, h, hm⟩ => by cases h; rw [hm]⟩

example : fit (α := Rat) (ε := String) 0 (fun _ _ => .ok ([2, 1], [[1, 0], [0, 1]])) 3 false .c 2
    [[1, 0], [-1, 0]] = Except.error (.embeddingTooSmall 3) := rfl
example : fit (α := Rat) (ε := String) 0 (fun _ _ => .ok ([2, 1], [[1, 0], [0, 1]])) 1 false .f 2
    [] = Except.error .notEnoughSamples := rfl

/-- the stored mean is the column mean whatever the memory layout of the records (the layouts
differ only in the order of the additions): entry `j` is `(Σ_i X_i[j]) / n` -/
theorem fit_mean_is_column_mean {α : Type} [Field α] (lay : Layout) (X : List (List α)) (n p : Nat)
    (hX : Shape X n p) :
    (colMeanL lay p X).length = p ∧
    ∀ j : Fin p, (colMeanL lay p X).getD j 0 = (∑ i : Fin n, (X.getD i []).getD j 0) / (n : α) := by
  rw [colMeanL_eq_colMean lay X n p hX]
  exact colMean_spec X n p hX

example : colMeanL (α := Rat) .f 2 [[1, 0], [3, 2]] = [2, 1] := by decide +kernel

/-- `leading_svd` asks the dense solver for all `min(n, p)` pairs exactly when `min(n, p) < 5k` and
keeps the leading `min(k, ·)` singular values and rows — at most `k`, the same number of each, in
the solver's (non-increasing) order; otherwise it is the LOBPCG call for `k` pairs, unchanged. -/
theorem leadingSvd_spec {α ε : Type} [LE α]
    (dense iter : List (List α) → Nat → Except ε (List α × List (List α))) (p : Nat)
    (x : List (List α)) (k : Nat) :
    (min x.length p < 5 * k → ∀ σ vt, dense x (min x.length p) = .ok (σ, vt) →
      leadingSvd dense iter p x k = .ok (σ.take (min k σ.length), vt.take (min k σ.length)) ∧
      (σ.take (min k σ.length)).length ≤ k ∧
      (vt.length = σ.length → (vt.take (min k σ.length)).length = (σ.take (min k σ.length)).length) ∧
      (σ.Pairwise (· ≥ ·) → (σ.take (min k σ.length)).Pairwise (· ≥ ·))) ∧
    (min x.length p < 5 * k → ∀ e, dense x (min x.length p) = .error e →
      leadingSvd dense iter p x k = .error e) ∧
    (¬ min x.length p < 5 * k → leadingSvd dense iter p x k = iter x k) := by
  unfold leadingSvd
  dsimp only
  refine ⟨fun h σ vt hd => ⟨by rw [if_pos h, hd], ?_, fun hl => ?_,
      fun hp => hp.sublist (List.take_sublist _ _)⟩,
    fun h e hd => by rw [if_pos h, hd], fun h => if_neg h⟩
  · rw [List.length_take]
    exact (min_le_left _ _).trans (min_le_left _ _)
  · rw [List.length_take, List.length_take, hl]

example : leadingSvd (α := Rat) (ε := String) (fun _ _ => .ok ([3, 2, 1], [[1, 0, 0], [0, 1, 0], [0, 0, 1]]))
    (fun _ _ => .error "lobpcg") 3 [[1, 0, 0], [0, 1, 0], [0, 0, 1], [1, 1, 1]] 2
    = .ok ([3, 2], [[1, 0, 0], [0, 1, 0]]) := by
  decide +kernel

/-- after the floor every singular value is at least the floor (so `> 0`: the whitening scale and
the ratios never divide by zero) and the non-increasing order of the solver's output is kept -/
theorem floorSigma_spec {α : Type} [Field α] [LinearOrder α] [IsStrictOrderedRing α] (fl : α)
    (σ : List α) :
    (∀ s ∈ floorSigma fl σ, fl ≤ s) ∧
    (σ.Pairwise (· ≥ ·) → (floorSigma fl σ).Pairwise (· ≥ ·)) := by
  rw [floorSigma_eq_map_max]
  refine ⟨fun s hs => ?_, fun h => List.pairwise_map.2 (h.imp fun hab => max_le_max_right fl hab)⟩
  obtain ⟨x, -, rfl⟩ := List.mem_map.1 hs
  exact le_max_right _ _

example : floorSigma (1/100 : Rat) [3, 1, 0] = [3, 1, 1/100] := by decide +kernel

theorem floorSigma_id {α : Type} [Field α] [LinearOrder α] [IsStrictOrderedRing α] (fl : α)
    (σ : List α) (h : ∀ s ∈ σ, fl ≤ s) : floorSigma fl σ = σ := by
  rw [floorSigma_eq_map_max]
  exact (List.map_congr_left fun x hx => max_eq_left (h x hx)).trans (List.map_id _)

example : floorSigma (1/100 : Rat) [3, 1] = [3, 1] := by decide +kernel

/-- **what `fit` returns through `leading_svd` in the dense regime** (`min(n,p) < 5k`): at most `k`
components, as many rows as singular values, every singular value at least the floor, and — when the
solver lists its values largest first — non-increasing singular values. -/
theorem fit_dense_components {α ε : Type} [Field α] [LinearOrder α] [IsStrictOrderedRing α]
    [Transc α] (fl : α) (dense iter : List (List α) → Nat → Except ε (List α × List (List α)))
    (k p : Nat) (w : Bool) (lay : Layout) (X : List (List α)) (m : Model α)
    (hreg : min X.length p < 5 * k)
    (hfit : fit fl (leadingSvd dense iter p) k w lay p X = .ok m) :
    ∃ σ vt, dense (center X (colMeanL lay p X)) (min X.length p) = .ok (σ, vt) ∧
      m.sigma.length ≤ k ∧
      (vt.length = σ.length → m.embedding.length = m.sigma.length) ∧
      (∀ s ∈ m.sigma, fl ≤ s) ∧
      (σ.Pairwise (· ≥ ·) → m.sigma.Pairwise (· ≥ ·)) := by
  obtain ⟨-, σ0, vt0, hs, rfl⟩ := (fit_ok_iff fl _ k p w lay X m).1 hfit
  obtain ⟨hok, herr, -⟩ := leadingSvd_spec dense iter p (center X (colMeanL lay p X)) k
  rw [show (center X (colMeanL lay p X)).length = X.length from List.length_map _] at hok herr
  cases hd : dense (center X (colMeanL lay p X)) (min X.length p) with
  | error e => rw [herr hreg e hd] at hs; cases hs
  | ok r =>
    obtain ⟨h1, h2, h3, h4⟩ := hok hreg r.1 r.2 hd
    rw [h1] at hs
    cases hs
    refine ⟨r.1, r.2, rfl, (List.length_map _).trans_le h2, fun hl => ?_,
      (floorSigma_spec fl _).1, fun hp => (floorSigma_spec fl _).2 (h4 hp)⟩
    cases w
    · exact (h3 hl).trans (List.length_map _).symm
    · show (whiten _ _ (floorSigma fl _)).length = (floorSigma fl _).length
      rw [whiten, floorSigma, List.length_zipWith, List.length_map, h3 hl, min_self]

example : (fit (α := Rat) (ε := String) 0
      (leadingSvd (fun _ _ => .ok ([3, 2], [[1, 0], [0, 1]])) (fun _ _ => .error "lobpcg") 2)
      1 false .c 2 [[1, 0], [-1, 0], [0, 1]]).toOption.map (·.sigma) = some [3] := by
  decide +kernel

/-- ratios are proportional to the explained variances (same factor `1 / Σ ev` for all) -/
theorem ratio_proportional {α : Type} [Field α] (m : Model α) (i j : Nat) :
    (explainedVarianceRatio m).getD i 0 * (explainedVariance m).getD j 0
      = (explainedVarianceRatio m).getD j 0 * (explainedVariance m).getD i 0 := by
  have key : ∀ (l : List α) (s : α) (i : Nat), (l.map (· / s)).getD i 0 = l.getD i 0 / s := by
    intro l s i
    rcases lt_or_ge i l.length with h | h
    · exact getD_map_of_lt _ h 0 0
    · simp [List.getD_eq_getElem?_getD, List.getElem?_eq_none h]
  unfold explainedVarianceRatio
  simp only [key]
  rw [div_mul_eq_mul_div, div_mul_eq_mul_div, mul_comm]

/-- with at least two samples and positive singular values (the floor guarantees that) every
explained variance is positive, their sum is positive (so the ratios are well defined: "finite"),
every ratio is non-negative, and the ratios sum to one -/
theorem ratio_nonneg_sum_one {α : Type} [Field α] [LinearOrder α] [IsStrictOrderedRing α]
    (m : Model α) (hn : 2 ≤ m.nSamples) (hne : m.sigma ≠ []) (hpos : ∀ s ∈ m.sigma, 0 < s) :
    (∀ v ∈ explainedVariance m, 0 < v) ∧ 0 < (explainedVariance m).sum ∧
    (∀ r ∈ explainedVarianceRatio m, 0 ≤ r) ∧ (explainedVarianceRatio m).sum = 1 := by
  have hev : ∀ v ∈ explainedVariance m, 0 < v := by
    intro v hv
    obtain ⟨s, hs, rfl⟩ := List.mem_map.1 hv
    exact div_pos (mul_pos (hpos s hs) (hpos s hs)) (sub_pos.2 (Nat.one_lt_cast.2 hn))
  have hsum : 0 < (explainedVariance m).sum :=
    List.sum_pos _ hev fun h => hne (List.map_eq_nil_iff.1 h)
  refine ⟨hev, hsum, fun r hr => ?_, ?_⟩
  · obtain ⟨v, hv, rfl⟩ := List.mem_map.1 hr
    exact (div_pos (hev v hv) (by rwa [sumS_eq_sum])).le
  · unfold explainedVarianceRatio
    simp only [div_eq_mul_inv]
    rw [List.sum_map_mul_right, List.map_id', sumS_eq_sum, mul_inv_cancel₀ hsum.ne']

example : explainedVarianceRatio (⟨[[1, 0], [0, 1]], [2, 1], [0, 0], 5⟩ : Model Rat) = [4/5, 1/5] := by
  decide +kernel

theorem transform_shape {α : Type} [Field α] (m : Model α) (X : List (List α)) (n k : Nat)
    (hX : X.length = n) (hW : m.embedding.length = k) : Shape (transform m X) n k := by
  refine ⟨by rw [transform, List.length_map, hX], fun z hz => ?_⟩
  obtain ⟨x, -, rfl⟩ := List.mem_map.1 hz
  exact (List.length_map _).trans hW

/-- **`inverse_transform ∘ predict` is the orthogonal projection onto the component subspace about
the mean**, `x ↦ mean + (x - mean) VᵀV`, whenever the embedding rows are orthonormal directions `V`
times non-zero factors `d` — `d = 1` without whitening, `d i = sqrt(n-1)/sigma_i` with whitening
(`whitened_embedding` below).  `VᵀV` is idempotent and symmetric (`projection_idempotent_symmetric`). -/
theorem inverse_transform_is_projection {α : Type} [Field α] (m : Model α) (X : List (List α))
    (n k p : Nat) (hX : Shape X n p) (hW : Shape m.embedding k p) (hμ : m.mean.length = p)
    (V : Matrix (Fin k) (Fin p) α) (d : Fin k → α) (hV : V * Vᵀ = 1) (hd : ∀ i, d i ≠ 0)
    (hemb : toM m.embedding k p = diagonal d * V) :
    toM (inverseTransform m (transform m X)) n p
      = (toM X n p - rowConst n (toV m.mean p)) * (Vᵀ * V) + rowConst n (toV m.mean p) := by
  rw [inverseTransform_toM m _ n k p (transform_shape m X n k hX.1 hW.1) hW hμ,
    transform_toM m X n k p hX hW hμ, hemb]
  exact inverse_transform_eq V d hV hd _ _

theorem projection_idempotent_symmetric {α : Type} [Field α] {k p : Nat}
    (V : Matrix (Fin k) (Fin p) α) (hV : V * Vᵀ = 1) :
    (Vᵀ * V) * (Vᵀ * V) = Vᵀ * V ∧ (Vᵀ * V)ᵀ = Vᵀ * V :=
  ⟨proj_idem V hV, proj_symm V⟩

/-- … and it is the identity when all components are kept (`k = p`) -/
theorem inverse_transform_identity_full {α : Type} [Field α] (m : Model α) (X : List (List α))
    (n p : Nat) (hX : Shape X n p) (hW : Shape m.embedding p p) (hμ : m.mean.length = p)
    (V : Matrix (Fin p) (Fin p) α) (d : Fin p → α) (hV : V * Vᵀ = 1) (hd : ∀ i, d i ≠ 0)
    (hemb : toM m.embedding p p = diagonal d * V) :
    toM (inverseTransform m (transform m X)) n p = toM X n p := by
  rw [inverseTransform_toM m _ n p p (transform_shape m X n p hX.1 hW.1) hW hμ,
    transform_toM m X n p p hX hW hμ, hemb]
  exact inverse_transform_full V d hV hd _ _

/-- the embedding `fit` stores with whitening on is `diag(sqrt(n-1)/sigma_i) · V` -/
theorem whitened_embedding {α : Type} [Field α] [Transc α] (nS : Nat) (V : List (List α))
    (σ : List α) (k p : Nat) (hV : Shape V k p) (hσ : σ.length = k) :
    Shape (whiten nS V σ) k p ∧
    toM (whiten nS V σ) k p
      = diagonal (fun i : Fin k => Transc.sqrt ((nS : α) - 1) / σ.getD i 0) * toM V k p :=
  whiten_spec nS V σ k p hV hσ

example : toM (α := Rat) [[1, 0], [0, 1]] 2 2 * (toM (α := Rat) [[1, 0], [0, 1]] 2 2)ᵀ = 1 := by
  decide +kernel

/-- **eigen-certificate ⇒ uncorrelated coordinates with the reported variances.**  `Xc` = centred
training data, `V` = un-whitened components with `V Vᵀ = 1`, and the solver's certificate
`(XcᵀXc) Vᵀ = Vᵀ diag(σ_i²)`.  Then the scatter of the projected data `Z = predict(X)` divided by
`n - 1` is the diagonal matrix of `explained_variance()`: off-diagonal covariances are zero and the
`i`-th sample variance is `σ_i²/(n-1)`. -/
theorem projected_cov_is_explained_variance {α : Type} [Field α] (m : Model α) (X : List (List α))
    (n k p : Nat) (hX : Shape X n p) (hW : Shape m.embedding k p) (hμ : m.mean.length = p)
    (hσ : m.sigma.length = k) (hV : toM m.embedding k p * (toM m.embedding k p)ᵀ = 1)
    (hc : ((toM X n p - rowConst n (toV m.mean p))ᵀ * (toM X n p - rowConst n (toV m.mean p)))
            * (toM m.embedding k p)ᵀ
          = (toM m.embedding k p)ᵀ * diagonal fun i : Fin k => m.sigma.getD i 0 * m.sigma.getD i 0) :
    (((m.nSamples : α) - 1)⁻¹) • ((toM (transform m X) n k)ᵀ * toM (transform m X) n k)
      = diagonal fun i : Fin k => (explainedVariance m).getD i 0 := by
  rw [transform_toM m X n k p hX hW hμ, transformM, scatter_proj, conj_certificate _ _ _ hV hc,
    ← Matrix.diagonal_smul]
  refine congrArg diagonal (funext fun i => ?_)
  rw [explainedVariance, getD_map_of_lt _ (hσ ▸ i.2) 0]
  exact (div_eq_inv_mul _ _).symm

/-- **with whitening the projected training data has identity covariance.**  Embedding =
`diag(c/σ_i) · V` (what `whiten` builds, `whitened_embedding`), `c² = n - 1` (`c = sqrt(n-1)`),
`σ_i ≠ 0` (the floor), same certificate for `V`: scatter of the projection / (n-1) = 1. -/
theorem whitened_cov_identity {α : Type} [Field α] (m : Model α) (X : List (List α))
    (n k p : Nat) (hX : Shape X n p) (hW : Shape m.embedding k p) (hμ : m.mean.length = p)
    (V : Matrix (Fin k) (Fin p) α) (s : Fin k → α) (c : α) (hc2 : c * c = (m.nSamples : α) - 1)
    (hn : (m.nSamples : α) - 1 ≠ 0) (hs : ∀ i, s i ≠ 0)
    (hemb : toM m.embedding k p = diagonal (fun i => c / s i) * V) (hV : V * Vᵀ = 1)
    (hc : ((toM X n p - rowConst n (toV m.mean p))ᵀ * (toM X n p - rowConst n (toV m.mean p))) * Vᵀ
          = Vᵀ * diagonal fun i : Fin k => s i * s i) :
    (((m.nSamples : α) - 1)⁻¹) • ((toM (transform m X) n k)ᵀ * toM (transform m X) n k) = 1 := by
  rw [transform_toM m X n k p hX hW hμ, hemb, transformM, whitened_scatter_diag V _ _ _ hV hc,
    ← Matrix.diagonal_smul, ← Matrix.diagonal_one]
  refine congrArg diagonal (funext fun i => ?_)
  have hs := hs i
  have hc0 : c ≠ 0 := fun h => hn (by rw [← hc2, h, mul_zero])
  simp only [Pi.smul_apply, smul_eq_mul, ← hc2]
  field_simp

/-- non-vacuity of the certificate hypotheses: four centred points on the axes, `V = I`,
`σ² = (2, 2)` -/
example : let X : Matrix (Fin 4) (Fin 2) Rat := toM [[1, 0], [-1, 0], [0, 1], [0, -1]] 4 2
    (Xᵀ * X) * (1 : Matrix (Fin 2) (Fin 2) Rat)ᵀ = (1 : Matrix (Fin 2) (Fin 2) Rat)ᵀ * diagonal fun _ => 2 := by
  decide +kernel

/-- **the projected training data is centred** (so the scatter `ZᵀZ` used above is `(n-1)` times its
sample covariance): the mean `fit` stores is the column mean in every layout, hence every coordinate
of `predict(X)` sums to zero over the training rows. -/
theorem projected_training_data_centred {α : Type} [Field α] (m : Model α) (lay : Layout)
    (X : List (List α)) (n k p : Nat) (hX : Shape X n p) (hW : Shape m.embedding k p)
    (hmean : m.mean = colMeanL lay p X) (hn : (n : α) ≠ 0) (j : Fin k) :
    ∑ i : Fin n, toM (transform m X) n k i j = 0 := by
  rw [colMeanL_eq_colMean lay X n p hX] at hmean
  exact transform_colsum_zero m X n k p hX hW hmean hn j

example : transform (⟨[[1, 0]], [2], colMeanL .c 2 [[1, 0], [3, 2]], 2⟩ : Model Rat) [[1, 0], [3, 2]]
    = [[-1], [1]] := by
  decide +kernel

/-- **no `k`-dimensional orthogonal projection retains more variance.**  `S = XcᵀXc` is the scatter of
the centred training data with a full eigen-decomposition `S = Uᵀ diag(lam) U` (`U` orthogonal, `lam`
non-increasing); the fitted components `W` (un-whitened) carry the certificate `W Wᵀ = 1`,
`S Wᵀ = Wᵀ diag(σ²)` and their `σ_i²` are the `k` LEADING eigenvalues.  Then for every `Q` with `k`
orthonormal rows the scatter retained by projecting on `Q` is at most the scatter of
`predict(X)`: `tr((Xc Qᵀ)ᵀ(Xc Qᵀ)) ≤ tr(ZᵀZ)` (divide by `n-1` for variances). -/
theorem no_projection_retains_more {α : Type} [Field α] [LinearOrder α] [IsStrictOrderedRing α]
    (m : Model α) (X : List (List α)) (n k p : Nat) (hX : Shape X n p)
    (hW : Shape m.embedding k p) (hμ : m.mean.length = p) (hk : k ≤ p)
    (U : Matrix (Fin p) (Fin p) α) (lam : Fin p → α) (hU : U * Uᵀ = 1)
    (hS : (toM X n p - rowConst n (toV m.mean p))ᵀ * (toM X n p - rowConst n (toV m.mean p))
          = Uᵀ * diagonal lam * U)
    (hmono : ∀ i j : Fin p, i ≤ j → lam j ≤ lam i)
    (hlead : ∀ i : Fin k, m.sigma.getD i 0 * m.sigma.getD i 0 = lam (Fin.castLE hk i))
    (hV : toM m.embedding k p * (toM m.embedding k p)ᵀ = 1)
    (hc : ((toM X n p - rowConst n (toV m.mean p))ᵀ * (toM X n p - rowConst n (toV m.mean p)))
            * (toM m.embedding k p)ᵀ
          = (toM m.embedding k p)ᵀ * diagonal fun i : Fin k => m.sigma.getD i 0 * m.sigma.getD i 0)
    (Q : Matrix (Fin k) (Fin p) α) (hQ : Q * Qᵀ = 1) :
    trace (((toM X n p - rowConst n (toV m.mean p)) * Qᵀ)ᵀ
            * ((toM X n p - rowConst n (toV m.mean p)) * Qᵀ))
      ≤ trace ((toM (transform m X) n k)ᵀ * toM (transform m X) n k) := by
  have h := scatter_retained_le _ U lam hU hS hmono le_rfl hk _ _ hlead hV hc Q hQ
  rw [Finset.sum_eq_zero fun i _ => if_pos i.2, add_zero] at h
  rwa [transform_toM m X n k p hX hW hμ]

/-- **… also when the solver returned fewer than the `k` requested pairs** (its cut-off drops the
pairs whose variance is below 2.2e-10 of the largest): `r ≤ k` components carrying the `r` leading
eigenvalues.  Every projection on `k` orthonormal directions `Q` — `k` the REQUESTED embedding size,
not the number of returned rows — retains at most what `predict(X)` retains plus the eigenvalues
`lam_r … lam_{k-1}` of the dropped directions (zero when the dropped pairs have zero variance, e.g.
exactly rank-deficient records). -/
theorem no_projection_retains_more_dropped {α : Type} [Field α] [LinearOrder α]
    [IsStrictOrderedRing α] (m : Model α) (X : List (List α)) (n r k p : Nat) (hX : Shape X n p)
    (hW : Shape m.embedding r p) (hμ : m.mean.length = p) (hr : r ≤ k) (hk : k ≤ p)
    (U : Matrix (Fin p) (Fin p) α) (lam : Fin p → α) (hU : U * Uᵀ = 1)
    (hS : (toM X n p - rowConst n (toV m.mean p))ᵀ * (toM X n p - rowConst n (toV m.mean p))
          = Uᵀ * diagonal lam * U)
    (hmono : ∀ i j : Fin p, i ≤ j → lam j ≤ lam i)
    (hlead : ∀ i : Fin r, m.sigma.getD i 0 * m.sigma.getD i 0 = lam (Fin.castLE (hr.trans hk) i))
    (hV : toM m.embedding r p * (toM m.embedding r p)ᵀ = 1)
    (hc : ((toM X n p - rowConst n (toV m.mean p))ᵀ * (toM X n p - rowConst n (toV m.mean p)))
            * (toM m.embedding r p)ᵀ
          = (toM m.embedding r p)ᵀ * diagonal fun i : Fin r => m.sigma.getD i 0 * m.sigma.getD i 0)
    (Q : Matrix (Fin k) (Fin p) α) (hQ : Q * Qᵀ = 1) :
    trace (((toM X n p - rowConst n (toV m.mean p)) * Qᵀ)ᵀ
            * ((toM X n p - rowConst n (toV m.mean p)) * Qᵀ))
      ≤ trace ((toM (transform m X) n r)ᵀ * toM (transform m X) n r)
        + ∑ i : Fin k, (if (i : ℕ) < r then 0 else lam (Fin.castLE hk i)) := by
  rw [transform_toM m X n r p hX hW hμ]
  exact scatter_retained_le _ U lam hU hS hmono hr hk _ _ hlead hV hc Q hQ

/-- non-vacuity: `S = diag(2, 1)` with `U = 1`, the leading axis `W = (1 0)` against `Q = (0 1)` -/
example : (1 : Matrix (Fin 2) (Fin 2) Rat) * (1 : Matrix (Fin 2) (Fin 2) Rat)ᵀ = 1 ∧
    (!![1, 0] : Matrix (Fin 1) (Fin 2) Rat) * (!![1, 0] : Matrix (Fin 1) (Fin 2) Rat)ᵀ = 1 ∧
    (!![0, 1] : Matrix (Fin 1) (Fin 2) Rat) * (!![0, 1] : Matrix (Fin 1) (Fin 2) Rat)ᵀ = 1 := by
  decide +kernel

/-- non-vacuity of the dropped-pairs form: `S = diag(2, 0)` (rank one), `r = 1` returned row
`W = (1 0)` for `k = 2` requested pairs -/
example : (!![1, 0] : Matrix (Fin 1) (Fin 2) Rat) * (!![1, 0] : Matrix (Fin 1) (Fin 2) Rat)ᵀ = 1 ∧
    (!![2, 0; 0, 0] : Matrix (Fin 2) (Fin 2) Rat) * (!![1, 0] : Matrix (Fin 1) (Fin 2) Rat)ᵀ
      = (!![1, 0] : Matrix (Fin 1) (Fin 2) Rat)ᵀ * diagonal (fun _ : Fin 1 => (2 : Rat)) := by
  decide +kernel

/-- **the leading rows of a certificate are a certificate** (what the dense branch of `leading_svd`
keeps): if `V` (`r` orthonormal rows) satisfies `C Vᵀ = Vᵀ diag(s)` then so do its first `k` rows
with the first `k` values.  Not composed with `leadingSvd_spec`: the end-to-end theorems below assume
the certificate for the pair the `svd` parameter returns, i.e. after this truncation. -/
theorem leading_rows_certificate {α : Type} [Field α] {r k p : Nat} (h : k ≤ r)
    (C : Matrix (Fin p) (Fin p) α) (V : Matrix (Fin r) (Fin p) α) (s : Fin r → α)
    (hV : V * Vᵀ = 1) (hc : C * Vᵀ = Vᵀ * diagonal s) :
    (V.submatrix (Fin.castLE h) id) * (V.submatrix (Fin.castLE h) id)ᵀ = 1 ∧
    C * (V.submatrix (Fin.castLE h) id)ᵀ
      = (V.submatrix (Fin.castLE h) id)ᵀ * diagonal fun i : Fin k => s (Fin.castLE h i) := by
  constructor
  · rw [Matrix.transpose_submatrix, ← Matrix.submatrix_mul _ _ _ id _ Function.bijective_id, hV,
      Matrix.submatrix_one _ (Fin.castLE_injective h)]
  · ext a i
    have := congrFun (congrFun hc a) (Fin.castLE h i)
    rw [Matrix.mul_diagonal] at this
    rw [Matrix.mul_diagonal]
    exact this

/-- the rows the dense branch keeps, as a matrix: the list `vt.take k` is the sub-matrix of the
first `k` rows of `vt` -/
theorem take_rows_toM {α : Type} [Field α] (vt : List (List α)) (r k p : Nat) (h : k ≤ r) :
    toM (vt.take k) k p = (toM vt r p).submatrix (Fin.castLE h) id := by
  ext i j
  simp only [toM, Matrix.of_apply, Matrix.submatrix_apply, id, Fin.val_castLE]
  congr 1
  simp [List.getD_eq_getElem?_getD, i.2]

example : toM (α := Rat) ([[1, 0], [0, 1]].take 1) 1 2
    = (toM (α := Rat) [[1, 0], [0, 1]] 2 2).submatrix (Fin.castLE (by decide : 1 ≤ 2)) id :=
  take_rows_toM _ 2 1 2 (by decide)

/-! ## end to end: `fit` + the solver's certificate on the matrix `fit` hands to it ⇒ the clauses

The theorems above take a fitted `Model` and the certificate as separate hypotheses; the two below
chain them through `fit` itself (`fit_ok_iff`, `fit_mean_is_column_mean`, `center_toM`,
`whitened_embedding`): the certificate is stated about `toM (center X (colMeanL lay p X))` — the very
argument `fit` passes to the solver parameter — and about the pair `(σ0, vt)` that call returned;
`n` is the number of records (`m.nSamples = n` is derived, not assumed).  Assumptions that remain:
the certificate (external solver; evaluated per fit by the oracle), "the floor does not act"
(`fl ≤ s` for the solver's values — where it acts the reported variance is the floor's, not the
data's: finding C18-sigma-floor-misreports-variance), and for whitening `sqrt(n-1)² = n-1`
(`Transc.sqrt` carries no laws). -/

/-- **`fit` without whitening, end to end**: if `fit` succeeds, the solver was called on the centred
records `center X (colMeanL lay p X)` and returned some `(σ0, vt)`; whenever that pair is a
certificate for that matrix (`vt` has `r` orthonormal rows, `(XcᵀXc) vtᵀ = vtᵀ diag(σ0²)`) and no
value is below the floor, the projected training records `predict(X)` have sample covariance
`diag(explained_variance())` with the divisor `n − 1` of the `n` records. -/
theorem fit_projected_cov {α ε : Type} [Field α] [LinearOrder α] [IsStrictOrderedRing α] [Transc α]
    (fl : α) (svd : List (List α) → Nat → Except ε (List α × List (List α))) (k p n : Nat)
    (lay : Layout) (X : List (List α)) (m : Model α) (hX : Shape X n p)
    (hfit : fit fl svd k false lay p X = .ok m) :
    ∃ σ0 vt, svd (center X (colMeanL lay p X)) k = .ok (σ0, vt) ∧ m.nSamples = n ∧
      ∀ r, Shape vt r p → σ0.length = r → (∀ s ∈ σ0, fl ≤ s) →
        toM vt r p * (toM vt r p)ᵀ = 1 →
        ((toM (center X (colMeanL lay p X)) n p)ᵀ * toM (center X (colMeanL lay p X)) n p)
            * (toM vt r p)ᵀ
          = (toM vt r p)ᵀ * diagonal (fun i : Fin r => σ0.getD i 0 * σ0.getD i 0) →
        (m.sigma = σ0 ∧ m.embedding = vt) ∧
        (((n : α) - 1)⁻¹) • ((toM (transform m X) n r)ᵀ * toM (transform m X) n r)
          = diagonal fun i : Fin r => (explainedVariance m).getD i 0 := by
  obtain rfl := hX.1
  obtain ⟨-, σ0, vt, hs, rfl⟩ := (fit_ok_iff fl svd k p false lay X m).1 hfit
  refine ⟨σ0, vt, hs, rfl, fun r hvt hσ hfl hV hc => ?_⟩
  have hμ : (colMeanL lay p X).length = p := (fit_mean_is_column_mean lay X _ p hX).1
  rw [(center_toM X _ _ p hX hμ).2] at hc
  rw [floorSigma_id fl σ0 hfl]
  exact ⟨⟨rfl, rfl⟩, projected_cov_is_explained_variance
    ⟨vt, σ0, colMeanL lay p X, X.length⟩ X _ r p hX hvt hμ hσ hV hc⟩

/-- **`fit` with whitening, end to end**: same chain; the stored embedding is
`diag(sqrt(n−1)/σ_i)·vt` (`whitened_embedding`), so with `sqrt(n−1)² = n−1`, a positive floor and no
value below it the projected training records have identity sample covariance. -/
theorem fit_whitened_cov {α ε : Type} [Field α] [LinearOrder α] [IsStrictOrderedRing α] [Transc α]
    (fl : α) (svd : List (List α) → Nat → Except ε (List α × List (List α))) (k p n : Nat)
    (lay : Layout) (X : List (List α)) (m : Model α) (hX : Shape X n p) (hfl0 : 0 < fl)
    (hsqrt : Transc.sqrt ((n : α) - 1) * Transc.sqrt ((n : α) - 1) = (n : α) - 1)
    (hn1 : (n : α) - 1 ≠ 0)
    (hfit : fit fl svd k true lay p X = .ok m) :
    ∃ σ0 vt, svd (center X (colMeanL lay p X)) k = .ok (σ0, vt) ∧ m.nSamples = n ∧
      ∀ r, Shape vt r p → σ0.length = r → (∀ s ∈ σ0, fl ≤ s) →
        toM vt r p * (toM vt r p)ᵀ = 1 →
        ((toM (center X (colMeanL lay p X)) n p)ᵀ * toM (center X (colMeanL lay p X)) n p)
            * (toM vt r p)ᵀ
          = (toM vt r p)ᵀ * diagonal (fun i : Fin r => σ0.getD i 0 * σ0.getD i 0) →
        (((n : α) - 1)⁻¹) • ((toM (transform m X) n r)ᵀ * toM (transform m X) n r) = 1 := by
  obtain rfl := hX.1
  obtain ⟨-, σ0, vt, hs, rfl⟩ := (fit_ok_iff fl svd k p true lay X m).1 hfit
  refine ⟨σ0, vt, hs, rfl, fun r hvt hσ hfl hV hc => ?_⟩
  have hμ : (colMeanL lay p X).length = p := (fit_mean_is_column_mean lay X _ p hX).1
  rw [(center_toM X _ _ p hX hμ).2] at hc
  rw [floorSigma_id fl σ0 hfl]
  obtain ⟨hWs, hemb⟩ := whitened_embedding X.length vt σ0 r p hvt hσ
  have hs0 : ∀ i : Fin r, σ0.getD i 0 ≠ 0 := fun i => by
    have hi : (i : Nat) < σ0.length := hσ ▸ i.2
    rw [getD_of_lt _ _ hi]
    exact (hfl0.trans_le (hfl _ (List.getElem_mem hi))).ne'
  exact whitened_cov_identity ⟨whiten X.length vt σ0, σ0, colMeanL lay p X, X.length⟩ X _ r p hX
    hWs hμ (toM vt r p) (fun i => σ0.getD i 0) (Transc.sqrt ((X.length : α) - 1)) hsqrt hn1 hs0
    hemb hV hc

/-- non-vacuity of both: four centred records with scatter `diag(4, 4)`; the solver answers
`σ0 = (2, 2)`, `vt = 1`; `fit` succeeds, the floor `1/100` does not act, the matrix handed to the
solver is the records themselves (mean zero) and the pair is a certificate for it -/
example : fit (α := Rat) (ε := String) (1/100) (fun _ _ => .ok ([2, 2], [[1, 0], [0, 1]])) 2 false .c 2
    [[1, 1], [-1, -1], [1, -1], [-1, 1]]
    = .ok ⟨[[1, 0], [0, 1]], [2, 2], [0, 0], 4⟩ := by
  -- `Model` has no `DecidableEq`, and `Rat` arithmetic is irreducible for a plain `rfl`
  with_unfolding_all rfl

example : center (α := Rat) [[1, 1], [-1, -1], [1, -1], [-1, 1]]
      (colMeanL .c 2 [[1, 1], [-1, -1], [1, -1], [-1, 1]])
    = [[1, 1], [-1, -1], [1, -1], [-1, 1]] := by
  decide +kernel

example : let X : Matrix (Fin 4) (Fin 2) Rat := toM [[1, 1], [-1, -1], [1, -1], [-1, 1]] 4 2
    (Xᵀ * X) * (toM (α := Rat) [[1, 0], [0, 1]] 2 2)ᵀ
      = (toM (α := Rat) [[1, 0], [0, 1]] 2 2)ᵀ
        * diagonal fun i : Fin 2 => ([2, 2] : List Rat).getD i 0 * ([2, 2] : List Rat).getD i 0 := by
  decide +kernel

/-- the whitening assumption `sqrt(n-1)² = n-1` is satisfiable in the carrier of the examples
(`n = 2`; over `ℝ` it holds for every `n ≥ 1`) -/
example : Transc.sqrt (((2 : Nat) : Rat) - 1) * Transc.sqrt (((2 : Nat) : Rat) - 1)
    = ((2 : Nat) : Rat) - 1 := by
  decide +kernel

/-- **calling forms**: `Transformer::transform(dataset)` projects the records and moves targets and
weights unchanged; `Predict::predict(dataset)` keeps the records and returns the same projection as
targets — both are `predict` (`transform`) of the records, so every theorem above applies to them. -/
theorem calling_forms_are_transform {α τ ω : Type} [Field α] (m : Model α) (ds : Dataset α τ ω)
    (noW : ω) :
    (transformDataset m ds).records = transform m ds.records ∧
    (transformDataset m ds).targets = ds.targets ∧ (transformDataset m ds).weights = ds.weights ∧
    (predictDataset m ds noW).targets = transform m ds.records ∧
    (predictDataset m ds noW).records = ds.records :=
  ⟨rfl, rfl, rfl, rfl, rfl⟩

example : (transformDataset (⟨[[1, 0]], [2], [0, 0], 2⟩ : Model Rat)
    (⟨[[3, 4]], [7], [2]⟩ : Dataset Rat (List Nat) (List Nat))).targets = [7] := rfl

end LinfaSpec.Props.C18
