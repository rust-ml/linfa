import LinfaSpec.Proofs.Wire
import LinfaSpec.Proofs.Serde

/-!
# C19 — serialised models deserialise to behaviourally identical values

Two parts.  (1) The wire format is lossless: `LinfaSpec.Wire` models the MessagePack subset that
`rmp-serde` emits for linfa's serde types (`Model/Wire.lean`: `Val`, `encode`, fuelled `decode`,
`decodeAll`), and for **every** well-formed value (`Val.wf`: integers in the 64-bit range, lengths below
2³² — exactly what the format can carry), of any nesting depth and size, decoding what was encoded gives
the value back, bit for bit, wherever it sits in a byte stream.  (2) The derive glue (`section Glue`):
what `#[derive(Serialize, Deserialize)]` puts into the format for a schema entry and reads back.

What the restored Rust value *does* is not a statement about these models; it is checked on every run by
the correspondence (`wire` op: real `rmp-serde` bytes are decoded, re-encoded and rendered by this very
model) and by the round-trip oracle of the harness.
-/
namespace LinfaSpec.Props.C19
open LinfaSpec.Wire

/-- big-endian integer fields are lossless: `k` bytes carry every `n < 256^k` -/
theorem beNat_beBytes_roundtrip (k n : Nat) (h : n < 256 ^ k) :
    beNat (beBytes k n) = n ∧ (beBytes k n).length = k :=
  ⟨beNat_beBytes k n h, length_beBytes k n⟩

example : beNat (beBytes 4 305419896) = 305419896 ∧ (beBytes 4 305419896).length = 4 :=
  beNat_beBytes_roundtrip 4 305419896 (by decide)

/-- **every f64 bit pattern survives** (NaN payloads, signed zeros, subnormals, infinities), with any
trailing bytes and any positive fuel -/
theorem f64_bits_roundtrip (b : UInt64) (rest : Bytes) (fuel : Nat) :
    decode (fuel + 1) (encode (.f64 b) ++ rest) = some (.f64 b, rest) := by
  simp only [encode]; exact dec_f64 b rest fuel

example : decode 1 (encode (.f64 0x7ff8000000000001) ++ [0xc0]) = some (.f64 0x7ff8000000000001, [0xc0]) :=
  f64_bits_roundtrip _ _ 0

/-- every f32 bit pattern survives -/
theorem f32_bits_roundtrip (b : UInt32) (rest : Bytes) (fuel : Nat) :
    decode (fuel + 1) (encode (.f32 b) ++ rest) = some (.f32 b, rest) := by
  simp only [encode]; exact dec_f32 b rest fuel

example : decode 3 (encode (.f32 0x80000000) ++ []) = some (.f32 0x80000000, []) :=
  f32_bits_roundtrip _ _ 2

/-- **round trip, strengthened form** (Appendix A.6): for every well-formed value `v`, every
continuation `rest` of the byte stream and every fuel at least the nesting depth of `v`, the decoder
reads exactly the bytes of `v`, returns `v` and leaves `rest` untouched. -/
theorem decode_encode (v : Val) (rest : Bytes) (fuel : Nat) (hw : v.wf = true) (hd : v.depth ≤ fuel) :
    decode fuel (encode v ++ rest) = some (v, rest) :=
  dec_enc v rest fuel hw hd

example : decode 2 (encode (.arr [.uint 300, .nint 40, .str [0x61]]) ++ [0xc3]) =
    some (.arr [.uint 300, .nint 40, .str [0x61]], [0xc3]) :=
  decode_encode _ _ 2 (by decide) (by decide)

/-- the same for a sequence of values (struct fields, array elements) -/
theorem decode_encode_list (xs : List Val) (rest : Bytes) (fuel : Nat) (hw : wfList xs = true)
    (hd : depthList xs ≤ fuel) :
    listOf (decode fuel) xs.length (encodeList xs ++ rest) = some (xs, rest) :=
  dec_encList xs rest fuel hw hd

example : listOf (decode 1) 2 (encodeList [.bool true, .nil] ++ []) = some ([.bool true, .nil], []) :=
  decode_encode_list [.bool true, .nil] [] 1 (by decide) (by decide)

/-- and for key/value sequences (maps, structs in the named layout) -/
theorem decode_encode_pairs (kvs : List (Val × Val)) (rest : Bytes) (fuel : Nat) (hw : wfPairs kvs = true)
    (hd : depthPairs kvs ≤ fuel) :
    pairsOf (decode fuel) kvs.length (encodePairs kvs ++ rest) = some (kvs, rest) :=
  dec_encPairs kvs rest fuel hw hd

example : pairsOf (decode 1) 1 (encodePairs [(.str [0x6b], .uint 7)] ++ []) = some ([(.str [0x6b], .uint 7)], []) :=
  decode_encode_pairs [(.str [0x6b], .uint 7)] [] 1 (by decide) (by decide)

/-- the nesting depth of a value never exceeds the number of its bytes, so the fuel `decodeAll`
uses (the message length) is always enough; every encoding is non-empty -/
theorem depth_le_length (v : Val) : v.depth ≤ (encode v).length ∧ 0 < (encode v).length :=
  ⟨depth_le v, encode_length_pos v⟩

example : (Val.arr [.arr [.nil]]).depth ≤ (encode (.arr [.arr [.nil]])).length := (depth_le_length _).1

/-- **the format is lossless**: decoding a complete message written by `encode` returns the value -/
theorem decodeAll_encode (v : Val) (hw : v.wf = true) : decodeAll (encode v) = some v := by
  have h := dec_enc v [] (encode v).length hw (depth_le v)
  simp only [List.append_nil] at h
  simp [decodeAll, h]

example : decodeAll (encode (.map [(.str [0x77], .arr [.f64 0x3ff0000000000000, .f32 0x7fc00000, .nint 0])])) =
    some (.map [(.str [0x77], .arr [.f64 0x3ff0000000000000, .f32 0x7fc00000, .nint 0])]) :=
  decodeAll_encode _ (by decide)

/-- `encode` is injective on well-formed values: two values with the same bytes are the same value
(no two learned states share a serialised form) -/
theorem encode_injective (v w : Val) (hv : v.wf = true) (hw : w.wf = true) (h : encode v = encode w) :
    v = w := by
  have h1 := decodeAll_encode v hv
  have h2 := decodeAll_encode w hw
  rw [h] at h1
  exact Option.some.inj (h1.symm.trans h2)

example : encode (.uint 255) ≠ encode (.nint 0) := by decide

/-- `encode` is prefix-free: the bytes of a value determine where the value ends, so consecutive
fields cannot be confused — if two streams start with encodings and agree, the values and the
remainders agree. -/
theorem encode_prefix_free (v w : Val) (r s : Bytes) (hv : v.wf = true) (hw : w.wf = true)
    (h : encode v ++ r = encode w ++ s) : v = w ∧ r = s := by
  have h1 := decode_encode v r (max v.depth w.depth) hv (Nat.le_max_left _ _)
  have h2 := decode_encode w s (max v.depth w.depth) hw (Nat.le_max_right _ _)
  rw [h, h2] at h1
  have := Option.some.inj h1
  exact ⟨(congrArg Prod.fst this).symm, (congrArg Prod.snd this).symm⟩

example : encode (.uint 1) ++ [0x02] ≠ encode (.uint 1) ++ [0x03] := by decide

/-! ## The derive glue: what a struct / enum of the schema table puts on the wire and gets back

`LinfaSpec.Serde` (`Model/Serde.lean`) models `#[derive(Serialize, Deserialize)]` for a schema entry of the
table generated from the Rust sources: the non-skipped fields travel positionally or by name, skipped
fields come back as their default, enum variants travel by declaration index in index-based formats.
The theorems hold for **every** schema (`List FieldInfo` / `List VariantInfo`) and **every** field
values; `Props/GenC19.lean` instantiates their hypotheses on the table generated today. -/
section Glue
open LinfaSpec.Serde

/-- **positional layout, end to end through the wire**: the bytes of a struct written positionally
decode and deserialise to the original with every skipped field reset to its default -/
theorem struct_compact_roundtrip (dflt : FieldInfo → Val) (fs : List FieldInfo) (vs : List Val)
    (hl : fs.length = vs.length) (hw : (structVal false fs vs).wf = true) :
    (decodeAll (encode (structVal false fs vs))).bind (deStruct dflt fs) = some (restore dflt fs vs) := by
  rw [decodeAll_encode _ hw]
  simp [structVal, deStruct, deFieldsSeq_serFields dflt fs vs hl]

/-- **named layout, end to end through the wire**, for schemas whose live field names are distinct -/
theorem struct_named_roundtrip (dflt : FieldInfo → Val) (fs : List FieldInfo) (vs : List Val)
    (hl : fs.length = vs.length) (hn : nodupStrings (liveKeys fs) = true)
    (hw : (structVal true fs vs).wf = true) :
    (decodeAll (encode (structVal true fs vs))).bind (deStruct dflt fs) = some (restore dflt fs vs) := by
  rw [decodeAll_encode _ hw]
  simp [structVal, deStruct_serNamed dflt fs vs hl hn]

-- OPTICS `Sample` with `core_distance` skipped (the seeded change `C19-optics-sample-core-distance-skipped`),
-- not the row of the generated table
private def exFs : List FieldInfo := [⟨"index", false, ""⟩, ⟨"core_distance", true, "skip"⟩, ⟨"reachability_distance", false, ""⟩]
private def exVs : List Val := [.uint 3, .f64 0x4000000000000000, .nil]

example : (decodeAll (encode (structVal false exFs exVs))).bind (deStruct (fun _ => .nil) exFs) =
    some [.uint 3, .nil, .nil] :=
  struct_compact_roundtrip _ exFs exVs rfl (by decide)

example : (decodeAll (encode (structVal true exFs exVs))).bind (deStruct (fun _ => .nil) exFs) =
    some [.uint 3, .nil, .nil] :=
  struct_named_roundtrip _ exFs exVs rfl (by rw [nodupStrings_liveKeys]; decide +kernel) (by decide +kernel)

/-- **the round trip is the identity exactly when every skipped field already held its default** — a
`serde(skip)` on a field that carries learned state (OPTICS `core_distance` in the seeded change
`C19-optics-sample-core-distance-skipped`) is a loss for every value whose field is not the default, in
every format -/
theorem roundtrip_identity_iff (dflt : FieldInfo → Val) (fs : List FieldInfo) (vs : List Val)
    (hl : fs.length = vs.length) : restore dflt fs vs = vs ↔ SkippedAtDefault dflt fs vs := by
  induction fs, vs, hl using fields_vals_induction with
  | nil => simp [restore, SkippedAtDefault]
  | cons f fs v vs _ ih =>
    rw [restore, SkippedAtDefault, List.cons.injEq, ih]; cases f.skip <;> simp [eq_comm]

example : restore (fun _ => .nil) exFs exVs ≠ exVs := by
  rw [Ne, roundtrip_identity_iff _ exFs exVs rfl]
  intro h; exact absurd (h.2.1 rfl) (by simp)

/-- a schema without skipped fields restores every value unchanged -/
theorem no_skip_roundtrip_identity (dflt : FieldInfo → Val) (fs : List FieldInfo) (vs : List Val)
    (hl : fs.length = vs.length) (hs : fs.all (fun f => !f.skip) = true) : restore dflt fs vs = vs := by
  rw [roundtrip_identity_iff dflt fs vs hl]
  induction fs, vs, hl using fields_vals_induction with
  | nil => trivial
  | cons f fs v vs _ ih =>
    rw [List.all_cons, Bool.and_eq_true, Bool.not_eq_true'] at hs
    exact ⟨fun h => absurd h (by simp [hs.1]), ih hs.2⟩

example : restore (fun _ => .nil) [⟨"a", false, ""⟩, ⟨"b", false, ""⟩] [.uint 1, .bool true] = [.uint 1, .bool true] :=
  no_skip_roundtrip_identity _ _ _ rfl (by decide)

/-- **a field left out of a positional message cannot be read back**: if fewer elements arrive than
there are non-skipped fields (`skip_serializing_if` without a matching `default`, compact
MessagePack), deserialisation fails — the restored parameter set does not exist -/
theorem compact_restore_fails_when_field_omitted (dflt : FieldInfo → Val) (fs : List FieldInfo) (xs : List Val)
    (h : xs.length < (liveFields fs).length) : deStruct dflt fs (.arr xs) = none := by
  simp [deStruct, deFieldsSeq_short dflt fs xs h]

example : deStruct (fun _ => .nil) exFs (.arr [.uint 3]) = none :=
  compact_restore_fails_when_field_omitted _ exFs [.uint 3] (by decide)

/-- the wire value of a struct has the top-level shape the driver checks real bytes against -/
theorem struct_shape (named : Bool) (fs : List FieldInfo) (vs : List Val) (hl : fs.length = vs.length) :
    bodyMatches named fs (structVal named fs vs) = true := by
  cases named
  · simp [structVal, bodyMatches, serFields_length fs vs hl]
  · have := serNamed_keys fs vs hl
    simp only [structVal, bodyMatches, if_true, Bool.true_and]
    rw [this]; simp [liveKeys, keyOf]

example : bodyMatches true exFs (structVal true exFs exVs) = true := struct_shape true exFs exVs rfl

/-- bridging lemma to the check the driver's `wire` op applies (`shapeMatches` on the table entry): for every
table entry of kind `struct` the model's own serialiser output passes it -/
theorem struct_shape_matches (named : Bool) (t : TypeInfo) (vs : List Val) (hk : t.kind = "struct")
    (hl : t.fields.length = vs.length) : shapeMatches named t (structVal named t.fields vs) = true := by
  have h : shapeMatches named t (structVal named t.fields vs) =
      bodyMatches named t.fields (structVal named t.fields vs) := by
    unfold shapeMatches; rw [hk]; rfl
  rw [h]; exact struct_shape named t.fields vs hl

example : shapeMatches false ⟨"x::Sample", "struct", "", exFs, []⟩ (structVal false exFs exVs) = true :=
  struct_shape_matches false _ exVs rfl rfl

/-! ### what derive(Deserialize) does with messages the serialiser did not write

The driver's `destruct` op runs `deStruct` on real `rmp-serde` bytes whose top-level entries the harness
reordered, duplicated, extended or truncated, against the real `rmp_serde::from_slice`. -/

/-- **entry order is irrelevant in the named layout**: two messages with distinct keys and the same set of
entries deserialise to the same fields (or fail alike) -/
theorem named_layout_order_irrelevant (dflt : FieldInfo → Val) (fs : List FieldInfo) (kvs kvs' : List (Val × Val))
    (h : nodupStrings (keysOf kvs) = true) (h' : nodupStrings (keysOf kvs') = true)
    (hm : ∀ p, p ∈ kvs' ↔ p ∈ kvs) :
    deStruct dflt fs (.map kvs') = deStruct dflt fs (.map kvs) := by
  have e : nodupStrings (knownKeys fs kvs) = true := nodupStrings_filter _ _ h
  have e' : nodupStrings (knownKeys fs kvs') = true := nodupStrings_filter _ _ h'
  rw [deStruct, deStruct, e, e', if_pos rfl, if_pos rfl]
  exact deFieldsMap_congr dflt kvs kvs' fs fun f _ => lookupKey_congr _ kvs kvs' h' hm

example : deStruct (fun _ => .nil) exFs (.map [(strVal "reachability_distance", .nil), (strVal "index", .uint 3)]) =
    deStruct (fun _ => .nil) exFs (.map [(strVal "index", .uint 3), (strVal "reachability_distance", .nil)]) :=
  named_layout_order_irrelevant _ exFs _ _ (by decide +kernel) (by decide +kernel) (by
    intro p; simp only [List.mem_cons, List.not_mem_nil, or_false]; exact or_comm)

/-- hence the named round trip survives **any reordering** of the entries the serialiser wrote -/
theorem struct_named_roundtrip_any_order (dflt : FieldInfo → Val) (fs : List FieldInfo) (vs : List Val)
    (kvs' : List (Val × Val)) (hl : fs.length = vs.length) (hn : nodupStrings (liveKeys fs) = true)
    (h' : nodupStrings (keysOf kvs') = true) (hm : ∀ p, p ∈ kvs' ↔ p ∈ serNamed fs vs) :
    deStruct dflt fs (.map kvs') = some (restore dflt fs vs) := by
  rw [named_layout_order_irrelevant dflt fs (serNamed fs vs) kvs' (by
    have := serNamed_keys fs vs hl; simp only [keysOf]; rw [this]; exact hn) h' hm]
  exact deStruct_serNamed dflt fs vs hl hn

example : deStruct (fun _ => .nil) exFs (.map (serNamed exFs exVs).reverse) = some [.uint 3, .nil, .nil] :=
  struct_named_roundtrip_any_order _ exFs exVs _ rfl (by rw [nodupStrings_liveKeys]; decide +kernel)
    (by decide +kernel) (by
    intro p; exact List.mem_reverse)

/-- **an appended entry under a key that names no live field is ignored** (unknown field, name of a skipped field) -/
theorem unknown_key_ignored (dflt : FieldInfo → Val) (fs : List FieldInfo) (kvs : List (Val × Val))
    (k x : Val) (hk : (liveKeys fs).contains (render k) = false) :
    deStruct dflt fs (.map (kvs ++ [(k, x)])) = deStruct dflt fs (.map kvs) := by
  have hk' : render k ∉ liveKeys fs := by simpa using hk
  have hkk : knownKeys fs (kvs ++ [(k, x)]) = knownKeys fs kvs := by
    simp [knownKeys, List.filter_append, List.filter, hk']
  rw [deStruct, deStruct, hkk, deFieldsMap_congr dflt kvs _ fs fun f hf =>
    lookupKey_append_ne _ k x (beq_eq_false_iff_ne.mpr fun e => hk' (e ▸ List.mem_map_of_mem hf)) kvs]

example : deStruct (fun _ => .nil) exFs (.map (serNamed exFs exVs ++ [(strVal "core_distance", .uint 9)])) =
    deStruct (fun _ => .nil) exFs (.map (serNamed exFs exVs)) :=
  unknown_key_ignored _ exFs _ _ _ (by decide +kernel)

/-- **an appended entry that repeats a live field's key is rejected** ("duplicate field") -/
theorem duplicate_key_rejected (dflt : FieldInfo → Val) (fs : List FieldInfo) (kvs : List (Val × Val))
    (k x : Val) (hk : (liveKeys fs).contains (render k) = true) (hd : render k ∈ keysOf kvs) :
    deStruct dflt fs (.map (kvs ++ [(k, x)])) = none := by
  have hk' : render k ∈ liveKeys fs := by simpa using hk
  have hkk : knownKeys fs (kvs ++ [(k, x)]) = knownKeys fs kvs ++ [render k] := by
    simp [knownKeys, List.filter_append, List.filter, hk']
  have hmem : render k ∈ knownKeys fs kvs := by
    simp only [knownKeys, List.mem_filter]; exact ⟨hd, hk⟩
  simp [deStruct, hkk, nodupStrings_append_mem _ _ hmem]

example : deStruct (fun _ => .nil) exFs (.map (serNamed exFs exVs ++ [(strVal "index", .uint 9)])) = none :=
  duplicate_key_rejected _ exFs _ _ _ (by decide +kernel) (by decide +kernel)

/-- **an absent required field makes the struct unreadable** ("missing field") -/
theorem missing_required_field_fails (dflt : FieldInfo → Val) (fs : List FieldInfo) (kvs : List (Val × Val))
    (f : FieldInfo) (hf : f ∈ fs) (hs : f.skip = false) (ho : isOptional f = false)
    (hl : lookupKey (keyOf f) kvs = none) (hd : nodupStrings (knownKeys fs kvs) = true) :
    deStruct dflt fs (.map kvs) = none := by
  simp only [deStruct, hd, if_true]
  exact deFieldsMap_missing_required dflt kvs f hs ho hl fs hf

example : deStruct (fun _ => .nil) exFs (.map [(strVal "index", .uint 3)]) = none :=
  missing_required_field_fails _ exFs _ ⟨"reachability_distance", false, ""⟩ (by simp [exFs]) rfl (by decide +kernel)
    (by decide +kernel) (by decide +kernel)

/-- **an absent `Option` field reads as `None`** (serde's `missing_field` rule; the translator marks
`Option<…>` fields with the pseudo-flag `option`) -/
theorem missing_optional_field_reads_none (dflt : FieldInfo → Val) (kvs : List (Val × Val)) (f : FieldInfo)
    (hs : f.skip = false) (ho : isOptional f = true) (hl : lookupKey (keyOf f) kvs = none) :
    fieldFromMap dflt kvs f = some .nil := by
  simp [fieldFromMap, hs, ho, hl]

example : (deStruct (fun _ => .nil) [⟨"index", false, ""⟩, ⟨"max_depth", false, "option"⟩]
    (.map [(strVal "index", .uint 3)])).map (fun vs => vs.map render) = some ["u3", "N"] := by decide +kernel

-- abridged `linfa::Error` (variants and payloads left out): the skipped `NdShape` last, as in the sources, and in second place
private def errNow : List VariantInfo :=
  [⟨"Parameters", "newtype", false, []⟩, ⟨"NotEnoughSamples", "unit", false, []⟩, ⟨"MismatchedShapes", "tuple", false, []⟩, ⟨"NdShape", "newtype", true, []⟩]
private def errOld : List VariantInfo :=
  [⟨"Parameters", "newtype", false, []⟩, ⟨"NdShape", "newtype", true, []⟩, ⟨"NotEnoughSamples", "unit", false, []⟩, ⟨"MismatchedShapes", "tuple", false, []⟩]

/-- **index-based enum tags round-trip when no skipped variant precedes a live one**: the declaration
index written by derive(Serialize) selects the same variant among the non-skipped ones -/
theorem variant_index_roundtrip (name : String) (ws : List VariantInfo) (k : Nat)
    (hl : skippedLast ws = true) (h : serIndex name ws = some k) : deVariant ws k = some name :=
  deVariant_serIndex name ws k hl h

example : deVariant errNow 2 = some "MismatchedShapes" :=
  variant_index_roundtrip "MismatchedShapes" errNow 2 (by decide) (by decide)

/-- **index-based enum tags fail otherwise**: a skipped variant declared in front of live ones (distinct names)
makes every later variant read back as a different one (or as no variant) — the defect found in `linfa::Error` -/
theorem variant_index_shifted_by_leading_skip (name : String) (w : VariantInfo) (ws : List VariantInfo) (k : Nat)
    (hs : w.skip = true) (hn : (w.name == name) = false) (hd : nodupStrings (liveNames ws) = true)
    (h : serIndex name ws = some k) :
    (serIndex name (w :: ws)).bind (deVariant (w :: ws)) ≠ some name := by
  have hser : serIndex name (w :: ws) = some (k + 1) := by simp [serIndex, hn, h]
  have hde : deVariant (w :: ws) (k + 1) = deVariant ws (k + 1) := by simp [deVariant, hs]
  rw [hser, Option.bind_some, hde]
  exact deVariant_beyond_ne name ws k (k + 1) hd h (Nat.lt_succ_self k)

example : (serIndex "NotEnoughSamples" errOld).bind (deVariant errOld) = some "MismatchedShapes" := by decide
example : (serIndex "MismatchedShapes" (errOld.drop 1)).bind (deVariant (errOld.drop 1)) ≠ some "MismatchedShapes" :=
  variant_index_shifted_by_leading_skip "MismatchedShapes" _ _ 1 rfl (by decide) (by decide) (by decide)

/-- **a skipped variant cannot be written at all**: derive(Serialize) refuses it ("the enum variant … cannot be
serialized"), wherever it is declared; `GenC19.error_ndshape_not_serialisable` is the instance in today's table -/
theorem skipped_variant_not_serialisable (w : VariantInfo) (pre post : List VariantInfo) (hs : w.skip = true)
    (hn : ∀ u ∈ pre, (u.name == w.name) = false) : serIndex w.name (pre ++ w :: post) = none :=
  serIndex_skipped w post hs pre hn

example : serIndex "NdShape" errNow = none :=
  skipped_variant_not_serialisable ⟨"NdShape", "newtype", true, []⟩ (errNow.take 3) [] rfl (by decide)

end Glue

end LinfaSpec.Props.C19
