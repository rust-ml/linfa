import LinfaSpec.Proofs.DeterminismOrder
import Mathlib.Data.List.Perm.Basic
import Mathlib.Data.List.Lex

/-!
Facts for C20, text vocabularies.  The raw vocabulary of `CountVectorizer`, seen through
(word, document frequency), is the word count of the concatenated per-document sets, whatever their
iteration orders.  The `max_features` selection is a top-k by a key whose tie-break (the word) is a
total order on what is observable of an entry, so it depends neither on the iteration order of the
vocabulary map nor on the insertion indexes.
-/
namespace LinfaSpec.Determinism
open List

/-! ### the raw vocabulary is a word count -/

section Raw
variable {κ : Type} [DecidableEq κ]

/-- `vocabStep` seen through `wordDf`: a word counter on (word, count) pairs -/
def pStep (p : List (κ × Nat)) (w : κ) : List (κ × Nat) :=
  if p.any (fun e => e.1 = w) then p.map (fun e => if e.1 = w then (e.1, e.2 + 1) else e)
  else p ++ [(w, 1)]

/-- `p` lists the distinct words of `ws`, in some order, each with its number of occurrences -/
def CountInv (p : List (κ × Nat)) (ws : List κ) : Prop :=
  ∃ keys : List κ, keys.Nodup ∧ (∀ x, x ∈ keys ↔ x ∈ ws) ∧ p = keys.map fun x => (x, ws.count x)

theorem count_snoc (ws : List κ) (w x : κ) :
    (ws ++ [w]).count x = ws.count x + if x = w then 1 else 0 := by
  rw [List.count_append, List.count_singleton]
  exact congrArg _ (if_congr (beq_iff_eq.trans eq_comm) rfl rfl)

theorem pStep_inv {p : List (κ × Nat)} {ws : List κ} (h : CountInv p ws) (w : κ) :
    CountInv (pStep p w) (ws ++ [w]) := by
  obtain ⟨keys, hnd, hmem, rfl⟩ := h
  have hany : (keys.map fun x => (x, ws.count x)).any (fun e => decide (e.1 = w)) = true ↔ w ∈ keys := by
    rw [List.any_map, List.any_eq_true]
    exact ⟨fun ⟨x, hx, h⟩ => of_decide_eq_true h ▸ hx, fun h => ⟨w, h, decide_eq_true rfl⟩⟩
  by_cases hw : w ∈ keys
  · -- a known word: same keys, the count of `w` goes up by one
    rw [pStep, if_pos (hany.mpr hw), List.map_map]
    refine ⟨keys, hnd, fun x => ?_, List.map_congr_left fun x _ => ?_⟩
    · rw [hmem, List.mem_append, List.mem_singleton]
      exact ⟨Or.inl, fun h => h.elim id fun h : x = w => h ▸ (hmem w).mp hw⟩
    · show (if x = w then (x, ws.count x + 1) else (x, ws.count x)) = (x, (ws ++ [w]).count x)
      rw [count_snoc]
      split <;> rfl
  · -- a new word: one more key, all other counts unchanged
    rw [pStep, if_neg (mt hany.mp hw)]
    refine ⟨keys ++ [w], ?_, fun x => ?_, ?_⟩
    · exact (List.perm_append_singleton w keys).nodup_iff.mpr (List.nodup_cons.mpr ⟨hw, hnd⟩)
    · rw [List.mem_append, List.mem_append, hmem]
    · rw [List.map_append, List.map_singleton, count_snoc, if_pos rfl,
        List.count_eq_zero.mpr (mt (hmem w).mpr hw)]
      refine congrArg (· ++ _) (List.map_congr_left fun x hx => ?_)
      rw [count_snoc, if_neg (fun h : x = w => hw (h ▸ hx)), Nat.add_zero]

theorem foldl_pStep_inv (ws : List κ) : CountInv (ws.foldl pStep []) ws := by
  have h : ∀ (l : List κ) {p ws}, CountInv p ws → CountInv (l.foldl pStep p) (ws ++ l) := by
    intro l
    induction l with
    | nil => intro p ws h; rwa [List.append_nil]
    | cons w l ih => intro p ws h; rw [List.append_cons]; exact ih (pStep_inv h w)
  exact List.nil_append ws ▸ h ws ⟨[], .nil, fun _ => .rfl, rfl⟩

theorem foldl_pStep_perm {ws₁ ws₂ : List κ} (p : ws₁ ~ ws₂) :
    ws₁.foldl pStep [] ~ ws₂.foldl pStep [] := by
  obtain ⟨k₁, hnd₁, hm₁, e₁⟩ := foldl_pStep_inv ws₁
  obtain ⟨k₂, hnd₂, hm₂, e₂⟩ := foldl_pStep_inv ws₂
  rw [e₁, e₂, funext fun x => congrArg (Prod.mk x) (p.count_eq x)]
  exact ((List.perm_ext_iff_of_nodup hnd₁ hnd₂).mpr fun x => by rw [hm₁, hm₂, p.mem_iff]).map _

theorem vocabStep_wordDf (v : List (κ × Nat × Nat)) (w : κ) :
    (vocabStep v w).map wordDf = pStep (v.map wordDf) w := by
  unfold vocabStep pStep
  rw [List.any_map, apply_ite (List.map wordDf), List.map_map, List.map_map, List.map_append]
  refine if_congr Iff.rfl (List.map_congr_left fun e _ => ?_) rfl
  exact apply_ite wordDf _ _ _

/-- the raw vocabulary, seen through `wordDf`, is the word count of the concatenated document sets -/
theorem buildVocabulary_wordDf (docs : List (List κ)) :
    (buildVocabulary docs).map wordDf = docs.flatten.foldl pStep [] := by
  rw [List.foldl_flatten]
  exact (List.foldl_hom (List.map wordDf) fun v _ =>
    List.foldl_hom (List.map wordDf) fun v w => (vocabStep_wordDf v w).symm).symm

/-- the frequency window and the stop words look at `wordDf` only -/
theorem dfFilter_wordDf (minAbs maxAbs : Nat) (stop : List κ) (v : List (κ × Nat × Nat)) :
    (dfFilter minAbs maxAbs stop v).map wordDf =
      (v.map wordDf).filter fun p => decide (minAbs ≤ p.2) && decide (p.2 ≤ maxAbs) && !(stop.contains p.1) := by
  unfold dfFilter
  rw [List.filter_map]
  rfl

end Raw

section Cap
variable {κ : Type}

/-- the sort key `(Reverse(freq), Reverse(word), x)` as an element of a lexicographic order -/
def capKey (e : κ × Nat × Nat) : Lex (Natᵒᵈ × Lex (κᵒᵈ × Nat)) :=
  toLex (OrderDual.toDual e.2.2, toLex (OrderDual.toDual e.1, e.2.1))

theorem capKey_injective : Function.Injective (capKey (κ := κ)) :=
  fun _ _ h => Prod.ext (congrArg (·.2.1) h) (Prod.ext (congrArg (·.2.2) h) (congrArg (·.1) h))

/-- the order the selection induces on the observable part `(word, document frequency)` -/
def pairKey (p : κ × Nat) : Lex (Natᵒᵈ × κᵒᵈ) := toLex (OrderDual.toDual p.2, OrderDual.toDual p.1)

theorem pairKey_injective : Function.Injective (pairKey (κ := κ)) :=
  fun _ _ h => Prod.ext (congrArg (·.2) h) (congrArg (·.1) h)

variable [LinearOrder κ]

theorem capLe_iff (a b : κ × Nat × Nat) : capLe a b = true ↔ capKey a ≤ capKey b := by
  unfold capLe capKey
  rw [Prod.Lex.toLex_le_toLex, Prod.Lex.toLex_le_toLex]
  simp only [Bool.or_eq_true, Bool.and_eq_true, decide_eq_true_eq, Bool.not_eq_eq_eq_not,
    Bool.not_true, decide_eq_false_iff_not, OrderDual.toDual_lt_toDual, EmbeddingLike.apply_eq_iff_eq]
  -- under `¬ b.1 < a.1`, `¬ a.1 < b.1` says `a.1 = b.1`
  rw [not_lt, le_iff_lt_or_eq, or_and_right, ← or_assoc, or_iff_left_of_imp And.left, eq_comm (a := b.1)]

theorem capKey_le_pairKey {a b : κ × Nat × Nat} (h : capKey a ≤ capKey b) :
    pairKey (wordDf a) ≤ pairKey (wordDf b) := by
  unfold capKey at h
  unfold pairKey wordDf
  rw [Prod.Lex.toLex_le_toLex] at h ⊢
  refine h.imp_right (And.imp_right fun h2 => ?_)
  rw [Prod.Lex.toLex_le_toLex] at h2
  exact h2.elim le_of_lt fun h2 => le_of_eq h2.1

/-- the sorted vocabulary, seen through `wordDf`, is sorted for `pairKey` -/
theorem sorted_wordDf (m : List (κ × Nat × Nat)) :
    ((m.mergeSort capLe).map wordDf).Pairwise fun p q => pairKey p ≤ pairKey q :=
  List.pairwise_map.mpr ((pairwise_mergeSort_of_key capLe_iff m).imp capKey_le_pairKey)

/-- **the selection depends on the (word, frequency) multiset only** -/
theorem sort_wordDf_perm {m₁ m₂ : List (κ × Nat × Nat)} (p : m₁.map wordDf ~ m₂.map wordDf) :
    (m₁.mergeSort capLe).map wordDf = (m₂.mergeSort capLe).map wordDf :=
  ((((List.mergeSort_perm m₁ capLe).map wordDf).trans p).trans
      ((List.mergeSort_perm m₂ capLe).map wordDf).symm).eq_of_pairwise
    (fun _ _ _ _ hab hba => pairKey_injective (le_antisymm hab hba)) (sorted_wordDf m₁) (sorted_wordDf m₂)

end Cap

/-- The driver runs the vocabulary model at `κ = List Nat` with core Lean's instances.  Core and
Mathlib decide `=` and `<` on lists by different procedures (exchanged here); the relation `<`
itself, `List.lt`, is Mathlib's order on lists by unfolding, which the statement relies on. -/
theorem fitVocabulary_listNat :
    @fitVocabulary (List Nat) instDecidableEqList List.instLT List.decidableLT =
      @fitVocabulary (List Nat) (fun a b => LinearOrder.toDecidableEq a b) _ LinearOrder.toDecidableLT := by
  rw [Subsingleton.elim instDecidableEqList fun a b : List Nat => LinearOrder.toDecidableEq a b,
    Subsingleton.elim List.decidableLT (LinearOrder.toDecidableLT (α := List Nat))]

end LinfaSpec.Determinism
