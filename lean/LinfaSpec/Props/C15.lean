import LinfaSpec.Proofs.IncrementalGnb
import LinfaSpec.Proofs.IncrementalMnb
import LinfaSpec.Proofs.IncrementalKm
import LinfaSpec.Proofs.IncrementalFtrl
import LinfaSpec.Proofs.IncrementalReals

/-!
# C15 — incremental fitting replays to batch fitting / its recurrence

Theorems about `LinfaSpec.Incremental` (the model of `fit_with` of Gaussian / multinomial naive
Bayes, mini-batch k-means and FTRL), over every ordered field (real-number semantics of the very
definitions the driver runs on `Float`).  A *history* is a list of batches; a class that is absent
from a batch contributes the empty list, so class-incomplete batches are covered by every
statement.
-/
namespace LinfaSpec.Props.C15
open LinfaSpec LinfaSpec.Incremental

set_option linter.unusedSectionVars false

section Field
variable {α : Type} [Field α] [LinearOrder α] [IsStrictOrderedRing α]

/-! ## the state after a history is a function of the history alone -/

theorem gnb_state_is_fold (vs : α) (p : Nat) (hist : List (Batch α)) (b : Batch α) :
    gnbRun vs p (hist ++ [b]) = gnbStep vs p (gnbRun vs p hist) b := by
  simp [gnbRun, List.foldl_append]

theorem mnb_state_is_fold [Transc α] (a : α) (p : Nat) (hist : List (Batch α)) (b : Batch α) :
    mnbRun a p (hist ++ [b]) = mnbStep a p (mnbRun a p hist) b := by
  simp [mnbRun, List.foldl_append]

theorem ftrl_state_is_fold [Transc α] (m : α) (r32 : α → α) (hp : FtrlHp α) (p : Nat) (st : FState α)
    (hist : List (List (List α) × List Bool)) (b : List (List α) × List Bool) :
    ftrlRun m r32 hp p st (hist ++ [b]) = ftrlStep m r32 hp p (ftrlRun m r32 hp p st hist) b := by
  simp [ftrlRun, List.foldl_append]

/-- mini-batch k-means: the trace of a history extends the trace of its prefix; each entry is
`kmStep` of the previous state -/
theorem km_state_is_fold [Transc α] (tol : α) (st : KState α) (b : List (List α))
    (rest : List (List (List α))) :
    kmRun tol st (b :: rest) = kmStep tol st b :: kmRun tol (kmStep tol st b).1 rest := by
  simp [kmRun]

/-! ## Gaussian naive Bayes -/

/-- **pooled update = statistics of the concatenation.**  `update_mean_variance` applied to the
statistics `(n, mean, variance)` of the values `xs` seen so far and a new batch `ys` returns the
mean and the (population) variance of `xs ++ ys`.  No hypothesis: `ys = []` (class absent from the
batch) and `xs = []` (class first seen) are the two early returns of the code. -/
theorem gnb_merge_replay (xs ys : List α) :
    gnbMerge xs.length (meanL xs) (varL xs) ys = (meanL (xs ++ ys), varL (xs ++ ys)) :=
  gnbMerge_spec xs ys

example : gnbMerge 2 (meanL [1, 3]) (varL [1, 3]) ([5, 7, 9] : List Rat) = (5, 8) := by
  decide +kernel

/-- **mean replay**: after any history of batches (any number, any sizes, empty contributions
allowed) the stored mean of a class/feature is the mean of all values fed so far, and the stored
count is their number. -/
theorem gnb_mean_replay (hist : List (List α)) :
    (hist.foldl gnbColStep (0, 0, 0)).1 = hist.flatten.length ∧
    (hist.foldl gnbColStep (0, 0, 0)).2.1 = meanL hist.flatten := by
  rw [gnbColStep_history]; exact ⟨rfl, rfl⟩

/-- **variance replay, `var_smoothing = 0`**: after any history the pooled variance is the
population variance of all values fed so far. -/
theorem gnb_var_replay_partial (hist : List (List α)) :
    (hist.foldl gnbColStep (0, 0, 0)).2.2 = varL hist.flatten := by
  rw [gnbColStep_history]

example : ([[1, 3], [], [5, 7, 9]] : List (List Rat)).foldl gnbColStep (0, 0, 0) = (5, 5, 8) := by
  decide +kernel

/-- the same on all feature columns at once, for the function `fit_with` calls: a class whose
stored statistics are those of the rows `r1` and which receives the rows `r2` ends with the
statistics of `r1 ++ r2` -/
theorem gnb_class_update_replay (p : Nat) (pr : α) (r1 r2 : List (List α)) :
    gnbUpdateClass ⟨r1.length, pr, (columns p r1).map meanL, (columns p r1).map varL⟩ (columns p r2) =
      ((columns p (r1 ++ r2)).map meanL, (columns p (r1 ++ r2)).map varL) := by
  by_cases h : r1 = []
  · subst h; exact gnbUpdateClass_fresh _ rfl _
  · refine gnbUpdateClass_columns p pr r1 r2 h meanL varL meanL varL fun j => ?_
    rw [← column_length j r1, gnbMerge_spec, column_append]

example : gnbUpdateClass ⟨1, 0, (columns 2 [[1, 2]]).map meanL, (columns 2 [[1, 2]]).map varL⟩
    (columns 2 ([[3, 6]] : List (List Rat))) = ([2, 4], [1, 4]) := by decide +kernel

/-- batches `[0,2]` then `[0,4]` of one class, one feature (used by the example below) -/
def smoothingWitness' : List (Batch Rat) := [[([0], 0), ([2], 0)], [([0], 0), ([4], 0)]]

/-- **Gaussian NB replay through the whole model state, every `var_smoothing`** — the exact law of
the code that exists.  After any history every class holds the count and per-feature means of its
rows in the concatenated data, and per-feature variances
`population variance + Σ_b epsilon_b · n_{c,b} / n_c`: the smoothing term is the mean of the
per-batch epsilons weighted by the number of rows of the class in each batch (not the epsilon of the
whole data, which is what the property asks for — see `gnb_var_replay_fails_with_smoothing`). -/
theorem gnb_replay_any_smoothing (vs : α) (p : Nat) (hist : List (Batch α)) (c : Nat) :
    (lookup c (gnbRun vs p hist)).map gProj = gnbStatsSm vs p hist c :=
  foldl_history (gnbStep vs p) [] (fun past st => ∀ c, (lookup c st).map gProj = gnbStatsSm vs p past c)
    (fun _ => rfl) (fun past st b H => gnbStep_invariant_sm vs p st past b H) hist c

example : (lookup 0 (gnbRun (1 / 2 : Rat) 1 smoothingWitness')).map gProj = some (4, [3 / 2], [11 / 4 + (1 / 2 * 2 + 2 * 2) / 4]) := by
  decide +kernel

/-- **Gaussian NB replay through the whole model state, `var_smoothing = 0`.**  After feeding any
list of batches (any number, any sizes, any class missing from any batch, classes appearing late)
the `HashMap` holds, for every class, exactly the number of its rows, the per-feature means and the
per-feature population variances of its rows in the concatenated data — the textbook estimates —
and holds no entry for a class that never occurred. -/
theorem gnb_replay_zero_smoothing (p : Nat) (hist : List (Batch α)) (c : Nat) :
    (lookup c (gnbRun 0 p hist)).map gProj = gnbStats p hist.flatten c := by
  rw [gnb_replay_any_smoothing, gnbStatsSm_zero]

/-- hence batch-by-batch fitting and one fit on the whole data give the same class statistics -/
theorem gnb_incremental_eq_batch (p : Nat) (hist : List (Batch α)) (c : Nat) :
    (lookup c (gnbRun 0 p hist)).map gProj = (lookup c (gnbRun 0 p [hist.flatten])).map gProj := by
  rw [gnb_replay_zero_smoothing, gnb_replay_zero_smoothing, List.flatten_singleton]

example : (lookup 7 (gnbRun (0 : Rat) 2 [[([1, 2], 7), ([0, 0], 3)], [([3, 6], 7)]])).map gProj =
    some (2, [2, 4], [1, 4]) := by decide +kernel
example : (lookup 7 (gnbRun (0 : Rat) 2 [[([1, 2], 7), ([0, 0], 3), ([3, 6], 7)]])).map gProj =
    some (2, [2, 4], [1, 4]) := by decide +kernel

/-- the prior written by one `fit_with` call is the class count over the sum of the stored counts
(any state, any smoothing) -/
theorem gnb_prior_of_stored_counts (vs : α) (p : Nat) (st : GState α) (b : Batch α) (c : Nat)
    (i : GInfo α) (h : lookup c (gnbStep vs p st b) = some i) :
    i.prior = (i.count : α) /
      (((gnbStep vs p st b).map fun ci => ci.2.count).foldl (fun (a b : Nat) => a + b) 0 : Nat) :=
  gnbTotal_eq_foldl (gnbStep vs p st b) ▸ gnbStep_prior vs p st b c i h

/-- **the `HashMap` invariant**: after any history the association list has no duplicate key, so
`lookup` sees every stored entry (any smoothing) -/
theorem gnb_keys_unique (vs : α) (p : Nat) (hist : List (Batch α)) :
    (keys (gnbRun vs p hist)).Nodup :=
  foldl_history (gnbStep vs p) [] (fun _ st => (keys st).Nodup) List.nodup_nil
    (fun _ st b h => gnbStep_keys_nodup vs p st b h) hist

/-- **the stored counts add up to the number of rows fed** (any history, any smoothing) -/
theorem gnb_counts_sum (vs : α) (p : Nat) (hist : List (Batch α)) :
    ((gnbRun vs p hist).map fun ci => ci.2.count).foldl (fun (a b : Nat) => a + b) 0 =
      hist.flatten.length := by
  rw [← gnbTotal_eq_foldl]; exact gnbRun_total vs p hist

/-- **counts and priors are the class frequencies of the concatenated data**, for every history
(any number of batches, class-incomplete batches, late classes) and every `var_smoothing`: a stored
class holds the number of its rows, and its prior is that number over the number of all rows fed. -/
theorem gnb_counts_priors (vs : α) (p : Nat) (hist : List (Batch α)) (c : Nat) (i : GInfo α)
    (h : lookup c (gnbRun vs p hist) = some i) :
    i.count = (rowsOf c hist.flatten).length ∧
    i.prior = ((rowsOf c hist.flatten).length : α) / (hist.flatten.length : α) := by
  have hs := gnb_replay_any_smoothing vs p hist c
  rw [h, gnbStatsSm] at hs
  have hcount : i.count = (rowsOf c hist.flatten).length := by
    split at hs
    · exact nomatch hs
    · exact congrArg Prod.fst (Option.some.inj hs)
  exact ⟨hcount, hcount ▸ gnbRun_prior vs p hist c i h⟩

example : (lookup 7 (gnbRun (1 / 2 : Rat) 1 [[([1], 7), ([0], 3)], [([3], 7)]])).map (fun i => (i.count, i.prior)) =
    some (2, 2 / 3) := by decide +kernel

/-- **a single fit is the textbook estimate for every `var_smoothing`**: class frequencies'
numerator, per-class means, per-class variance + `var_smoothing · max_j Var(column j of all rows)` -/
theorem gnb_single_fit_is_textbook (vs : α) (p : Nat) (d : Batch α) (c : Nat)
    (hc : rowsOf c d ≠ []) :
    (lookup c (gnbRun vs p [d])).map gProj = some (gProj (gnbTextbook vs p d c)) := by
  rw [gnb_replay_any_smoothing, gnbStatsSm_uniform vs p [d] c (gnbEps vs p d)
    (by rwa [List.flatten_singleton]) (fun b hb => by rw [List.mem_singleton.mp hb]),
    List.flatten_singleton]
  rfl

/-- **the textbook model the driver answers `gnb_batch` requests with is the single fit**: for every
class, the record of `gnbTextbookState` (frequency, means, variances + `var_smoothing · max_j Var_j`)
has the statistics `fit` stores — so a disagreement on `gnb_batch` means a single `fit` is no longer the
textbook estimate -/
theorem gnb_textbook_state_is_single_fit (vs : α) (p : Nat) (d : Batch α) (c : Nat) :
    (lookup c (gnbTextbookState vs p d)).map gProj = (lookup c (gnbRun vs p [d])).map gProj := by
  rw [gnbTextbookState, lookup_map_mk]
  by_cases hc : rowsOf c d = []
  · rw [if_neg fun h => (mem_labelsOf c d).mp h hc, gnb_replay_any_smoothing, gnbStatsSm,
      List.flatten_singleton, if_pos hc]
    rfl
  · rw [if_pos ((mem_labelsOf c d).mpr hc), gnb_single_fit_is_textbook vs p d c hc]; rfl

example : (lookup 7 (gnbTextbookState (1 / 2 : Rat) 1 [([1], 7), ([0], 3), ([3], 7)])).map gProj =
    some (2, [2], [1 + 1 / 2 * (14 / 9)]) := by decide +kernel

/-- **incremental = batch = textbook whenever the batches share the epsilon of the whole data**
(in particular for `var_smoothing = 0`, and for data whose dominating column has the same variance
in every batch): every class, every history, class-incomplete batches included. -/
theorem gnb_incremental_eq_batch_of_uniform_eps (vs : α) (p : Nat) (hist : List (Batch α)) (c : Nat)
    (hc : rowsOf c hist.flatten ≠ [])
    (he : ∀ b ∈ hist, gnbEps vs p b = gnbEps vs p hist.flatten) :
    (lookup c (gnbRun vs p hist)).map gProj = some (gProj (gnbTextbook vs p hist.flatten c)) ∧
    (lookup c (gnbRun vs p hist)).map gProj = (lookup c (gnbRun vs p [hist.flatten])).map gProj := by
  have h1 : (lookup c (gnbRun vs p hist)).map gProj = some (gProj (gnbTextbook vs p hist.flatten c)) := by
    rw [gnb_replay_any_smoothing, gnbStatsSm_uniform vs p hist c _ hc he]; rfl
  exact ⟨h1, by rw [h1, gnb_single_fit_is_textbook vs p hist.flatten c hc]⟩

/-- the hypothesis is satisfiable with `var_smoothing > 0` and a class-incomplete batch -/
example : ∀ b ∈ ([[([4, 0], 3), ([0, 1], 3)], [([4, 1], 7), ([0, 1], 7)]] : List (Batch Rat)),
    gnbEps (1 / 2) 2 b = gnbEps (1 / 2) 2 [([4, 0], 3), ([0, 1], 3), ([4, 1], 7), ([0, 1], 7)] := by
  decide +kernel

/-- a history with one dominating, balanced column: both batches have epsilon `1/2 · 4`, class 3 is
absent from the second batch -/
example : (lookup 3 (gnbRun (1 / 2 : Rat) 2 [[([4, 0], 3), ([0, 1], 3)], [([4, 1], 7), ([0, 1], 7)]])).map gProj =
    some (gProj (gnbTextbook (1 / 2 : Rat) 2 [([4, 0], 3), ([0, 1], 3), ([4, 1], 7), ([0, 1], 7)] 3)) := by
  decide +kernel

/-- the history used by the counter-example: one class, one feature, batches `[0,2]` then `[0,4]` -/
def smoothingWitness : List (Batch Rat) := [[([0], 0), ([2], 0)], [([0], 0), ([4], 0)]]

/-- **the variance replay fails with smoothing**: with `var_smoothing = 1/2` the model fed batch by
batch stores variance `4`, a single fit on the same four rows — and the textbook estimate — `33/8`.
(`epsilon` is taken from the current batch only.)  Replayed on the real code: known finding
`C15-gnb-smoothing-incremental-variance`. -/
theorem gnb_var_replay_fails_with_smoothing :
    (lookup 0 (gnbRun (1 / 2 : Rat) 1 smoothingWitness)).map (·.sigma) = some [4] ∧
    (lookup 0 (gnbRun (1 / 2 : Rat) 1 [smoothingWitness.flatten])).map (·.sigma) = some [33 / 8] ∧
    (gnbTextbook (1 / 2 : Rat) 1 smoothingWitness.flatten 0).sigma = [33 / 8] := by
  decide +kernel

/-- counts and priors of the same history are right (the defect is confined to sigma) -/
example : (lookup 0 (gnbRun (1 / 2 : Rat) 1 smoothingWitness)).map (fun i => (i.count, i.prior, i.theta))
    = some (4, 1, [3 / 2]) := by decide +kernel

/-! ## class bookkeeping of one `fit_with` call (any state, any smoothing) -/

/-- **a batch introduces a new class**: a class that is not stored yet and has at least one row in the
batch is stored with the number of its rows in this batch, their column means and their column
variances plus the epsilon of this batch (`entry().or_insert(default)` + the `count == 0` early
return of `update_mean_variance`), whatever else the state holds -/
theorem gnb_new_class_bookkeeping (vs : α) (p : Nat) (st : GState α) (b : Batch α) (c : Nat)
    (hnone : lookup c st = none) (hb : rowsOf c b ≠ []) :
    (lookup c (gnbStep vs p st b)).map gProj =
      some ((rowsOf c b).length, (columns p (rowsOf c b)).map meanL,
        (columns p (rowsOf c b)).map fun xs => varL xs + gnbEps vs p b) :=
  gnbStep_new_class vs p st b c hnone hb

/-- class 9 appears for the first time in the second batch -/
example : lookup 9 (gnbRun (1 / 2 : Rat) 1 [[([1], 7), ([3], 7)]]) = none ∧
    rowsOf 9 ([([2], 9), ([4], 9), ([6], 7)] : Batch Rat) ≠ [] ∧
    (lookup 9 (gnbStep (1 / 2 : Rat) 1 (gnbRun (1 / 2 : Rat) 1 [[([1], 7), ([3], 7)]])
      [([2], 9), ([4], 9), ([6], 7)])).map gProj = some (2, [3], [1 + 1 / 2 * (8 / 3)]) := by
  decide +kernel

/-- **a class the batch lacks is left alone**: count, means and variances are unchanged by a
`fit_with` call whose batch has no row of the class (epsilon is subtracted and added back), and a
class that is neither stored nor in the batch is not created -/
theorem gnb_absent_class_unchanged (vs : α) (p : Nat) (st : GState α) (b : Batch α) (c : Nat)
    (hb : rowsOf c b = []) :
    (lookup c (gnbStep vs p st b)).map gProj = (lookup c st).map gProj :=
  gnbStep_absent_class vs p st b c hb

example : rowsOf 7 ([([2], 9), ([4], 9)] : Batch Rat) = [] ∧
    (lookup 7 (gnbStep (1 / 2 : Rat) 1 (gnbRun (1 / 2 : Rat) 1 [[([1], 7), ([3], 7)]])
      [([2], 9), ([4], 9)])).map gProj = some (2, [2], [1 + 1 / 2]) := by decide +kernel

/-- **the priors are renormalised over all stored classes**: after a call every stored class — also
one the batch lacks — has prior `count / (sum of the counts stored before + rows of the batch)` -/
theorem gnb_prior_after_step (vs : α) (p : Nat) (st : GState α) (b : Batch α) (c : Nat) (i : GInfo α)
    (h : lookup c (gnbStep vs p st b) = some i) :
    i.prior = (i.count : α) / ((gnbTotal st + b.length : Nat) : α) :=
  gnbStep_total vs p st b ▸ gnbStep_prior vs p st b c i h

example : (lookup 7 (gnbStep (1 / 2 : Rat) 1 (gnbRun (1 / 2 : Rat) 1 [[([1], 7), ([3], 7)]])
      [([2], 9), ([4], 9)])).map (·.prior) = some (2 / 4) := by decide +kernel

/-- **the stored classes are exactly the classes seen so far** (any history, any smoothing) -/
theorem gnb_stored_classes_are_classes_seen (vs : α) (p : Nat) (hist : List (Batch α)) (c : Nat) :
    (lookup c (gnbRun vs p hist)).isSome = true ↔ rowsOf c hist.flatten ≠ [] := by
  have h := congrArg Option.isSome (gnb_replay_any_smoothing vs p hist c)
  rw [Option.isSome_map] at h
  rw [h, gnbStatsSm]
  split_ifs with hc
  · simp [hc]
  · simp [hc]

example : (lookup 9 (gnbRun (1 / 2 : Rat) 1 [[([1], 7)], [([2], 9)]])).isSome = true ∧
    (lookup 8 (gnbRun (1 / 2 : Rat) 1 [[([1], 7)], [([2], 9)]])).isSome = false := by decide +kernel

/-- stand-in transcendental functions over `Rat`, only for the examples below -/
instance : Transc Rat := ⟨fun x => x, fun x => x, fun x => x⟩

/-! ## multinomial naive Bayes -/

/-- **additive counts, log-frequencies a function of the counts**: a class holding the feature
counts of the rows `r1` that receives the non-empty block `r2` ends with the feature counts of
`r1 ++ r2`, and its log-frequencies are `mnbLogProb` of those counts — exactly what a single fit on
`r1 ++ r2` computes (`mnbTextbook`).  `r1 = []` is the first appearance of the class. -/
theorem mnb_replay [Transc α] (a pr : α) (lp : List α) (p : Nat) (r1 r2 : List (List α))
    (h2 : r2 ≠ []) :
    mnbUpdateClass a ⟨r1.length, pr, (columns p r1).map sumS, lp⟩ (columns p r2) r2.length =
      (mnbLogProb a ((columns p (r1 ++ r2)).map sumS), (columns p (r1 ++ r2)).map sumS) :=
  mnbUpdateClass_replay a pr lp p r1 r2 h2

/-- with no row of the class in the batch (`nrows = 0`) `update_feature_log_prob` returns the stored
log-frequencies and counts -/
theorem mnb_absent_class [Transc α] (a : α) (info : MInfo α) (cols : List (List α)) :
    mnbUpdateClass a info cols 0 = (info.flogp, info.fcount) := by
  simp [mnbUpdateClass]

/-- **multinomial NB replay through the whole model state**: after feeding any list of batches (any
number, any sizes, classes missing from batches, classes appearing late) every class holds exactly
the number of its rows, the per-feature sums of its rows in the concatenated data and the additively
smoothed log-frequencies of those sums — the textbook estimate; classes never seen are absent. -/
theorem mnb_replay_whole_state [Transc α] (a : α) (p : Nat) (hist : List (Batch α)) (c : Nat) :
    (lookup c (mnbRun a p hist)).map mProj = mnbStats a p hist.flatten c :=
  foldl_history (mnbStep a p) [] (fun past st => ∀ c, (lookup c st).map mProj = mnbStats a p past.flatten c)
    (fun _ => rfl)
    (fun past st b H c => by
      rw [List.flatten_append, List.flatten_singleton]; exact mnbStep_invariant a p st _ b H c) hist c

example : (lookup 7 (mnbRun (1 : Rat) 2 [[([1, 2], 7), ([0, 1], 3)], [([3, 0], 7)]])).map mProj =
    some (2, [4, 2], mnbLogProb 1 [4, 2]) := by decide +kernel

/-- hence batch-by-batch fitting and one fit on the whole data give the same class statistics -/
theorem mnb_incremental_eq_batch [Transc α] (a : α) (p : Nat) (hist : List (Batch α)) (c : Nat) :
    (lookup c (mnbRun a p hist)).map mProj = (lookup c (mnbRun a p [hist.flatten])).map mProj := by
  rw [mnb_replay_whole_state, mnb_replay_whole_state, List.flatten_singleton]

/-- the textbook record of a class is what the whole-state replay produces -/
theorem mnb_stats_is_textbook [Transc α] (a : α) (p : Nat) (d : Batch α) (c : Nat)
    (hc : rowsOf c d ≠ []) : mnbStats a p d c = some (mProj (mnbTextbook a p d c)) := by
  simp [mnbStats, hc, mProj, mnbTextbook]

/-- **multinomial counts and priors are the class frequencies of the concatenated data** -/
theorem mnb_counts_priors [Transc α] (a : α) (p : Nat) (hist : List (Batch α)) (c : Nat)
    (i : MInfo α) (h : lookup c (mnbRun a p hist) = some i) :
    i.count = (rowsOf c hist.flatten).length ∧
    i.prior = ((rowsOf c hist.flatten).length : α) / (hist.flatten.length : α) := by
  have hs := mnb_replay_whole_state a p hist c
  rw [h, mnbStats] at hs
  have hcount : i.count = (rowsOf c hist.flatten).length := by
    split at hs
    · exact nomatch hs
    · exact congrArg Prod.fst (Option.some.inj hs)
  exact ⟨hcount, hcount ▸ mnbRun_prior a p hist c i h⟩

example : (lookup 7 (mnbRun (1 : Rat) 2 [[([1, 2], 7), ([0, 1], 3)], [([3, 0], 7)]])).map (fun i => (i.count, i.prior)) =
    some (2, 2 / 3) := by decide +kernel

/-- **multinomial: a batch introduces a new class** — stored with the number of its rows in this
batch, their feature sums and the smoothed log-frequencies of those sums -/
theorem mnb_new_class_bookkeeping [Transc α] (a : α) (p : Nat) (st : MState α) (b : Batch α) (c : Nat)
    (hnone : lookup c st = none) (hb : rowsOf c b ≠ []) :
    (lookup c (mnbStep a p st b)).map mProj =
      some ((rowsOf c b).length, (columns p (rowsOf c b)).map sumS,
        mnbLogProb a ((columns p (rowsOf c b)).map sumS)) := by
  have := mnbStep_present_class a p st b c [] [] (by rw [hnone]; rfl) hb
  rwa [List.length_nil, Nat.zero_add, List.nil_append] at this

/-- **multinomial: a class the batch lacks keeps its count, feature counts and log-frequencies** -/
theorem mnb_absent_class_unchanged [Transc α] (a : α) (p : Nat) (st : MState α) (b : Batch α) (c : Nat)
    (hb : rowsOf c b = []) :
    (lookup c (mnbStep a p st b)).map mProj = (lookup c st).map mProj :=
  mnbStep_absent_class a p st b c hb

example : lookup 3 (mnbRun (1 : Rat) 2 [[([1, 2], 7)]]) = none ∧
    (lookup 3 (mnbStep (1 : Rat) 2 (mnbRun (1 : Rat) 2 [[([1, 2], 7)]]) [([0, 1], 3), ([2, 1], 3)])).map mProj =
      some (2, [2, 2], mnbLogProb 1 [2, 2]) ∧
    (lookup 7 (mnbStep (1 : Rat) 2 (mnbRun (1 : Rat) 2 [[([1, 2], 7)]]) [([0, 1], 3), ([2, 1], 3)])).map mProj =
      some (1, [1, 2], mnbLogProb 1 [1, 2]) := by decide +kernel

/-! ## prediction -/

/-- **the predicted class maximises the joint log-likelihood** (any score function, any state) -/
theorem nb_predict_is_argmax_posterior {ι : Type} (jll : ι → List α → α) (st : List (Nat × ι))
    (x : List α) (c : Nat) (h : nbPredict jll st x = some c) :
    ∃ info, (c, info) ∈ st ∧ ∀ ci ∈ st, jll ci.2 x ≤ jll info x := by
  unfold nbPredict at h
  cases hb : argmaxScore (st.map fun ci => (ci.1, jll ci.2 x)) with
  | none => simp [hb] at h
  | some b =>
    simp only [hb, Option.map_some, Option.some.injEq] at h
    obtain ⟨hm, hmax⟩ := argmaxScore_spec _ b hb
    obtain ⟨ci, hci, hbe⟩ := List.mem_map.mp hm
    refine ⟨ci.2, ?_, ?_⟩
    · have : ci.1 = c := by rw [← h, ← hbe]
      rw [← this]; exact hci
    · intro cj hcj
      have := hmax (cj.1, jll cj.2 x) (List.mem_map.mpr ⟨cj, hcj, rfl⟩)
      rw [← hbe] at this
      exact this

example : nbPredict (fun (i : Rat) (x : List Rat) => i * x.headD 0) [(3, 1), (5, 4), (9, 2)] [2] = some 5 := by
  decide +kernel

/-! ### naive Bayes: the incremental MODEL is the batch model, hence the same predictions where untied -/

/-- two Gaussian models over the same data whose class statistics agree are the same records, priors included -/
theorem gnb_model_eq_of_stats_eq (vs : α) (p : Nat) (h1 h2 : List (Batch α))
    (hf : h1.flatten = h2.flatten) (c : Nat)
    (hproj : (lookup c (gnbRun vs p h1)).map gProj = (lookup c (gnbRun vs p h2)).map gProj) :
    lookup c (gnbRun vs p h1) = lookup c (gnbRun vs p h2) := by
  refine option_eq_of_map_eq gProj _ _ hproj fun i j e1 e2 hij => ?_
  -- the priors are count / rows fed, and both are the same on the two sides
  have a := gnbRun_prior vs p h1 c i e1
  have b := gnbRun_prior vs p h2 c j e2
  obtain ⟨ic, ip, it, is⟩ := i
  obtain ⟨jc, jp, jt, js⟩ := j
  obtain ⟨rfl, rfl, rfl⟩ : ic = jc ∧ it = jt ∧ is = js := by simpa [gProj] using hij
  rw [hf] at a
  exact congrArg (GInfo.mk ic · it is) (a.trans b.symm)

/-- **Gaussian NB, `var_smoothing = 0`: batch-by-batch fitting yields the same MODEL as one fit on the
whole data** — every class record (count, prior, means, variances) is the same, class-incomplete batches
included; a class neither model has seen is in neither -/
theorem gnb_incremental_model_eq_batch_model (p : Nat) (hist : List (Batch α)) (c : Nat) :
    lookup c (gnbRun (0 : α) p hist) = lookup c (gnbRun 0 p [hist.flatten]) :=
  gnb_model_eq_of_stats_eq 0 p hist [hist.flatten] (by simp) c (gnb_incremental_eq_batch p hist c)

/-- the same for every `var_smoothing` when the batches share the epsilon of the whole data -/
theorem gnb_incremental_model_eq_batch_model_of_uniform_eps (vs : α) (p : Nat) (hist : List (Batch α))
    (c : Nat) (he : ∀ b ∈ hist, gnbEps vs p b = gnbEps vs p hist.flatten) :
    lookup c (gnbRun vs p hist) = lookup c (gnbRun vs p [hist.flatten]) := by
  apply gnb_model_eq_of_stats_eq vs p hist [hist.flatten] (by simp) c
  by_cases hc : rowsOf c hist.flatten = []
  · rw [gnb_replay_any_smoothing, gnb_replay_any_smoothing]
    simp [gnbStatsSm, hc]
  · exact (gnb_incremental_eq_batch_of_uniform_eps vs p hist c hc he).2

example : (lookup 7 (gnbRun (0 : Rat) 2 [[([1, 2], 7), ([0, 0], 3)], [([3, 6], 7)]])).map
      (fun i => (i.count, i.prior, i.theta, i.sigma)) =
    (lookup 7 (gnbRun (0 : Rat) 2 [[([1, 2], 7), ([0, 0], 3), ([3, 6], 7)]])).map
      (fun i => (i.count, i.prior, i.theta, i.sigma)) := by decide +kernel

/-- **multinomial NB: batch-by-batch fitting yields the same MODEL as one fit on the whole data** -/
theorem mnb_incremental_model_eq_batch_model [Transc α] (a : α) (p : Nat) (hist : List (Batch α)) (c : Nat) :
    lookup c (mnbRun a p hist) = lookup c (mnbRun a p [hist.flatten]) := by
  refine option_eq_of_map_eq mProj _ _ (mnb_incremental_eq_batch a p hist c) fun i j e1 e2 hij => ?_
  have a2 := mnbRun_prior a p hist c i e1
  have b2 := mnbRun_prior a p [hist.flatten] c j e2
  obtain ⟨ic, ip, it, is⟩ := i
  obtain ⟨jc, jp, jt, js⟩ := j
  obtain ⟨rfl, rfl, rfl⟩ : ic = jc ∧ it = jt ∧ is = js := by simpa [mProj] using hij
  rw [List.flatten_singleton] at b2
  exact congrArg (MInfo.mk ic · it is) (a2.trans b2.symm)

/-- **a prediction moves to any model with the same records**: if two models hold the same record for
every class (e.g. the incremental and the batch model above), the class the first one predicts is stored
in the second and maximises the SECOND model's joint log-likelihood (whatever the storage order) -/
theorem nb_predict_maximises_equal_model {ι : Type} (jll : ι → List α → α) (st1 st2 : List (Nat × ι))
    (x : List α) (hk : (keys st1).Nodup) (heq : ∀ c, lookup c st1 = lookup c st2) (c : Nat)
    (h : nbPredict jll st1 x = some c) :
    ∃ info, lookup c st2 = some info ∧
      ∀ c' info', lookup c' st2 = some info' → jll info' x ≤ jll info x := by
  obtain ⟨info, hmem, hmax⟩ := nb_predict_is_argmax_posterior jll st1 x c h
  refine ⟨info, ?_, ?_⟩
  · rw [← heq]; exact lookup_of_mem_nodup c info st1 hk hmem
  · intro c' info' h'
    rw [← heq] at h'
    exact hmax (c', info') (mem_of_lookup c' info' st1 h')

/-- **hence the same predictions wherever the posterior is not tied**: two models with the same records
predict the same class at every query at which no two stored classes have equal joint log-likelihood -/
theorem nb_predictions_agree_where_untied {ι : Type} (jll : ι → List α → α) (st1 st2 : List (Nat × ι))
    (x : List α) (hk1 : (keys st1).Nodup) (hk2 : (keys st2).Nodup)
    (heq : ∀ c, lookup c st1 = lookup c st2) (c c' : Nat)
    (h1 : nbPredict jll st1 x = some c) (h2 : nbPredict jll st2 x = some c')
    (huntied : ∀ c₁ i₁ c₂ i₂, lookup c₁ st2 = some i₁ → lookup c₂ st2 = some i₂ → c₁ ≠ c₂ →
      jll i₁ x ≠ jll i₂ x) : c = c' := by
  obtain ⟨i, hi, himax⟩ := nb_predict_maximises_equal_model jll st1 st2 x hk1 heq c h1
  obtain ⟨i', hmem', hmax'⟩ := nb_predict_is_argmax_posterior jll st2 x c' h2
  have hi' := lookup_of_mem_nodup c' i' st2 hk2 hmem'
  by_contra hne
  have a := himax c' i' hi'
  have b := hmax' (c, i) (mem_of_lookup c i st2 hi)
  exact huntied c i c' i' hi hi' hne (le_antisymm b a)

/-- **Gaussian NB (`var_smoothing = 0`): the incremental model predicts what the single fit predicts
wherever the batch posterior is not tied** — the statement's "hence the same predictions", for the score
function `gnbJll` the driver runs -/
theorem gnb_incremental_predicts_as_batch [Transc α] (twoPi half : α) (p : Nat) (hist : List (Batch α))
    (x : List α) (c c' : Nat)
    (h1 : nbPredict (gnbJll twoPi half) (gnbRun 0 p hist) x = some c)
    (h2 : nbPredict (gnbJll twoPi half) (gnbRun 0 p [hist.flatten]) x = some c')
    (huntied : ∀ c₁ i₁ c₂ i₂, lookup c₁ (gnbRun (0 : α) p [hist.flatten]) = some i₁ →
      lookup c₂ (gnbRun (0 : α) p [hist.flatten]) = some i₂ → c₁ ≠ c₂ →
      gnbJll twoPi half i₁ x ≠ gnbJll twoPi half i₂ x) : c = c' :=
  nb_predictions_agree_where_untied _ _ _ x (gnb_keys_unique 0 p hist) (gnb_keys_unique 0 p [hist.flatten])
    (gnb_incremental_model_eq_batch_model p hist) c c' h1 h2 huntied

/-- **multinomial NB: the incremental model predicts what the single fit predicts wherever untied** -/
theorem mnb_incremental_predicts_as_batch [Transc α] (a : α) (p : Nat) (hist : List (Batch α))
    (x : List α) (c c' : Nat)
    (h1 : nbPredict mnbJll (mnbRun a p hist) x = some c)
    (h2 : nbPredict mnbJll (mnbRun a p [hist.flatten]) x = some c')
    (huntied : ∀ c₁ i₁ c₂ i₂, lookup c₁ (mnbRun a p [hist.flatten]) = some i₁ →
      lookup c₂ (mnbRun a p [hist.flatten]) = some i₂ → c₁ ≠ c₂ → mnbJll i₁ x ≠ mnbJll i₂ x) : c = c' :=
  nb_predictions_agree_where_untied _ _ _ x (mnbRun_keys_nodup a p hist) (mnbRun_keys_nodup a p [hist.flatten])
    (mnb_incremental_model_eq_batch_model a p hist) c c' h1 h2 huntied

/-- two batches vs one fit, a query at which the two classes score differently: same prediction -/
example : nbPredict mnbJll (mnbRun (1 : Rat) 2 [[([1, 2], 7), ([0, 1], 3)], [([3, 0], 7)]]) [2, 0] =
    nbPredict mnbJll (mnbRun (1 : Rat) 2 [[([1, 2], 7), ([0, 1], 3), ([3, 0], 7)]]) [2, 0] := by
  decide +kernel

/-- the "not tied" hypothesis is satisfiable: at that query the two stored classes score differently -/
example : ((mnbRun (1 : Rat) 2 [[([1, 2], 7), ([0, 1], 3), ([3, 0], 7)]]).map fun ci => mnbJll ci.2 [2, 0]).Nodup ∧
    (keys (mnbRun (1 : Rat) 2 [[([1, 2], 7), ([0, 1], 3)], [([3, 0], 7)]])).Nodup := by decide +kernel

/-! ## mini-batch k-means -/

/-- one observation moves only its own cluster: count `+1`, centroid by `(x - c) / count` -/
theorem km_add_point (st : KState α) (x : List α) (c : Nat) (hc : c < st.counts.length)
    (hc' : c < st.centroids.length) :
    (kmAddPoint st x c).counts[c]? = some (st.counts.getD c 0 + 1) ∧
    (kmAddPoint st x c).centroids[c]? = some (List.zipWith
      (fun ci xi => ci + (xi - ci) / (st.counts.getD c 0 + 1)) (st.centroids.getD c []) x) ∧
    ∀ d, d ≠ c → (kmAddPoint st x c).counts[d]? = st.counts[d]? ∧
      (kmAddPoint st x c).centroids[d]? = st.centroids[d]? := by
  refine ⟨?_, ?_, ?_⟩
  · simp [kmAddPoint, hc]
  · simp [kmAddPoint, hc']
  · intro d hd
    simp [kmAddPoint, Ne.symm hd]

/-- **running mean with cumulative counts**: a centroid coordinate with cumulative count `n` that
absorbs the values `xs` ends with count `n + |xs|` and value `(c·n + Σ xs) / (n + |xs|)` -/
theorem minibatch_recurrence (xs : List α) (c : α) (n : Nat) :
    (xs.foldl kmTrack (c, n)).2 = n + xs.length ∧
    (xs.foldl kmTrack (c, n)).1 * ((n + xs.length : Nat) : α) = c * (n : α) + sumS xs :=
  kmTrack_invariant xs c n

/-- from count 0 the centroid is the mean of everything ever assigned (the initial centroid is forgotten) -/
theorem minibatch_running_mean (xs : List α) (c0 : α) (h : xs ≠ []) :
    xs.foldl kmTrack (c0, 0) = (meanL xs, xs.length) := by
  obtain ⟨h1, h2⟩ := kmTrack_invariant xs c0 0
  have hl : (xs.length : α) ≠ 0 := Nat.cast_ne_zero.mpr (mt List.eq_nil_of_length_eq_zero h)
  rw [Nat.zero_add] at h1 h2
  rw [Nat.cast_zero, mul_zero, zero_add] at h2
  exact Prod.ext (eq_div_of_mul_eq hl h2) h1

example : ([2, 4, 9] : List Rat).foldl kmTrack (100, 0) = (5, 3) := by decide +kernel

/-- **whole-batch lifting of the running mean.**  After `compute_centroids_incremental` on a batch
(`obs` with memberships `mem`), coordinate `j` of centroid `c` is the documented recurrence
`count += 1; x̄ += (x − x̄)/count` run over the `j`-th coordinates of exactly the observations assigned
to `c`, in batch order, started from the old coordinate with the old cumulative count `n`; the new
cumulative count is `n` plus their number; equivalently new·(n + m) = old·n + Σ absorbed.
Hypotheses = the shape invariants of the real arrays (cluster index in range, rows at least as long
as the centroid) and that the stored count is a natural number. -/
theorem km_batch_running_mean (c j : Nat) (st : KState α) (obs : List (List α)) (mem : List Nat)
    (n : Nat) (hc : c < st.centroids.length) (hc' : c < st.counts.length)
    (hn : st.counts.getD c 0 = (n : α)) (hj : j < (st.centroids.getD c []).length)
    (hlen : ∀ xm ∈ obs.zip mem, (st.centroids.getD c []).length ≤ xm.1.length) :
    (((kmIncr st obs mem).centroids.getD c []).getD j 0 =
        ((coordSeq c j (obs.zip mem)).foldl kmTrack ((st.centroids.getD c []).getD j 0, n)).1) ∧
    (kmIncr st obs mem).counts.getD c 0 = ((n + (coordSeq c j (obs.zip mem)).length : Nat) : α) ∧
    ((kmIncr st obs mem).centroids.getD c []).getD j 0 *
        ((n + (coordSeq c j (obs.zip mem)).length : Nat) : α) =
      (st.centroids.getD c []).getD j 0 * (n : α) + sumS (coordSeq c j (obs.zip mem)) := by
  obtain ⟨h1, h2⟩ := kmIncr_cluster c j (obs.zip mem) st n hc hc' hn hj hlen
  exact ⟨h1, h2, h1 ▸ (kmTrack_invariant (coordSeq c j (obs.zip mem)) _ n).2⟩

/-- two clusters in one dimension, counts 2 and 0, a batch of three points assigned 1, 0, 1 -/
example : (kmIncr (⟨[[4], [10]], [2, 0]⟩ : KState Rat) [[2], [7], [6]] [1, 0, 1]).centroids = [[5], [4]] ∧
    (kmIncr (⟨[[4], [10]], [2, 0]⟩ : KState Rat) [[2], [7], [6]] [1, 0, 1]).counts = [3, 2] ∧
    coordSeq 1 0 ([[2], [7], [6]].zip [1, 0, 1] : List (List Rat × Nat)) = [2, 6] := by decide +kernel

/-- **any metric: the assignment is to a nearest centroid** — the distance `closest_centroid` returns
is at most the (r)distance to every centroid (L2, L1, L-infinity) -/
theorem km_assigns_nearest (m : Metric) (cs : List (List α)) (x : List α) (c : List α) (hc : c ∈ cs) :
    (closestBy m cs x).2 ≤ rdistBy m c x := by
  obtain ⟨_, _, _, h⟩ := closestBy_spec m cs x (List.ne_nil_of_mem hc)
  exact h c hc

example : ([1, 2] : List Rat) ∈ [[0, 0], [1, 2]] ∧
    (closestBy .l1 [[0, 0], [1, 2]] ([1, 1] : List Rat)) = (1, 1) := by decide +kernel

/-- **the index `closest_centroid` returns denotes a nearest centroid**: it is in range, the centroid at
that index is at the returned (r)distance, and no centroid is nearer — so the cluster a point is assigned
to (`kmAssignBy`, the first component) is a minimiser, not only the returned distance a minimum -/
theorem km_assigned_centroid_is_nearest (m : Metric) (cs : List (List α)) (x : List α) (h : cs ≠ []) :
    ∃ c, cs[(closestBy m cs x).1]? = some c ∧ rdistBy m c x = (closestBy m cs x).2 ∧
      ∀ c' ∈ cs, rdistBy m c x ≤ rdistBy m c' x := by
  obtain ⟨c, h1, h2, h3⟩ := closestBy_spec m cs x h
  exact ⟨c, h1, h2, h2 ▸ h3⟩

example : ([[0, 0], [1, 2], [1, 0]] : List (List Rat)) ≠ [] ∧
    closestBy .linf [[0, 0], [1, 2], [1, 0]] ([1, 1] : List Rat) = (0, 1) := by decide +kernel

/-- **converged is reported truthfully for every metric**: `Ok` iff the metric's distance between the
old and the new centroid matrix is below the tolerance -/
theorem converged_iff_dist_lt_tol_any_metric [Transc α] (m : Metric) (tol : α) (st : KState α)
    (obs : List (List α)) :
    (kmStepBy m tol st obs).2.1 = true ↔
      distBy m st.centroids.flatten (kmStepBy m tol st obs).1.centroids.flatten < tol := by
  simp [kmStepBy]

/-- **converged is reported truthfully**: `Ok` iff the Frobenius shift of the centroids is below the tolerance -/
theorem converged_iff_shift_lt_tol [Transc α] (tol : α) (st : KState α) (obs : List (List α)) :
    (kmStep tol st obs).2 = true ↔
      Transc.sqrt (kmShiftSq st.centroids (kmStep tol st obs).1.centroids) < tol := by
  simp [kmStep]

/-- the L2 instance of the metric-generic step is `kmStep` (so the theorems above apply to it) -/
theorem km_l2_instance [Transc α] (tol : α) (st : KState α) (obs : List (List α)) :
    ((kmStepBy .l2 tol st obs).1, (kmStepBy .l2 tol st obs).2.1) = kmStep tol st obs := rfl

/-- **the L2 trace of the step the driver runs is the trace of `kmStep`** over a whole history (states and
verdicts) -/
theorem km_l2_trace_is_kmRun [Transc α] (tol : α) (st : KState α) (hist : List (List (List α))) :
    (kmRunBy .l2 tol st hist).map (fun r => (r.1, r.2.1)) = kmRun tol st hist := by
  induction hist generalizing st with
  | nil => rfl
  | cons b rest ih => exact congrArg (kmStep tol st b :: ·) (ih _)

example : ((kmRunBy .l2 (1 : Rat) ⟨[[0]], [0]⟩ [[[1]], [[5 / 3]]]).map (fun r => (r.1.counts, r.2.1))) =
    (kmRun (1 : Rat) ⟨[[0]], [0]⟩ [[[1]], [[5 / 3]]]).map (fun r => (r.1.counts, r.2)) := by decide +kernel

/-- **the `n_runs` selection of `fit_with(None, ..)` keeps an initialisation of lowest inertia** -/
theorem km_init_picks_lowest_inertia {β : Type} (l : List (β × α)) (b : β × α)
    (h : pickInit l = some b) : b ∈ l ∧ ∀ y ∈ l, b.2 ≤ y.2 := by
  cases l with
  | nil => exact nomatch h
  | cons x rest =>
    obtain rfl := Option.some.inj h
    exact foldl_select_spec (fun best y : β × α => if best.2 < y.2 then best else y)
      (fun y => y.2) (fun a c => by
      by_cases hlt : a.2 < c.2
      · exact Or.inl ⟨if_pos hlt, hlt.le⟩
      · exact Or.inr ⟨if_neg hlt, not_lt.mp hlt⟩) rest x

example : pickInit ([("a", 3), ("b", 1), ("c", 2), ("d", 1)] : List (String × Rat)) = some ("d", 1) := by
  decide +kernel

/-- **`fit_with(None, ..)` with `n_runs` initialisation runs continues a candidate of lowest cost**: the
trace the driver answers the `km_initfit` request with (through `kmFitInitHistory`, i.e. through
`pickInit`) is the mini-batch trace started, with `cluster_count = 0`, from one of the candidates, and
that candidate's cost on the first batch is at most every candidate's; with at least one candidate there
is a trace -/
theorem km_init_fit_continues_lowest_cost_candidate [Transc α] (m : Metric) (tol : α)
    (cands : List (List (List α))) (first : List (List α)) (rest : List (List (List α))) :
    (cands ≠ [] → (kmFitInitHistory m tol cands (first :: rest)).isSome = true) ∧
    ∀ tr, kmFitInitHistory m tol cands (first :: rest) = some tr →
      ∃ c ∈ cands, (∀ c' ∈ cands, kmInitCost m first c ≤ kmInitCost m first c') ∧
        tr = kmRunBy m tol (kmFresh c) (first :: rest) := by
  refine ⟨fun hc => ?_, fun tr h => ?_⟩
  · obtain ⟨c, cs, rfl⟩ := List.exists_cons_of_ne_nil hc
    rfl
  · simp only [kmFitInitHistory] at h
    cases hp : pickInit (cands.map fun c => (c, kmInitCost m first c)) with
    | none => simp [hp] at h
    | some best =>
      simp only [hp, Option.some.injEq] at h
      obtain ⟨hmem, hmin⟩ := km_init_picks_lowest_inertia _ best hp
      obtain ⟨c, hc, rfl⟩ := List.mem_map.mp hmem
      refine ⟨c, hc, fun c' hc' => hmin (c', _) (List.mem_map.mpr ⟨c', hc', rfl⟩), ?_⟩
      rw [← h, kmFitHistory_eq_run]; rfl

/-- three candidates with costs 4, 1, 1 on the first batch `[[1], [3]]`: the last of the cheapest is kept -/
example : (kmFitInitHistory .l1 (1 / 2 : Rat) [[[0]], [[2]], [[3]]] [[[1], [3]]]).map
    (fun tr => tr.map (·.1.centroids)) = some [[[2]]] ∧
    ([[[0]], [[2]], [[3]]] : List (List (List Rat))).map (kmInitCost .l1 [[1], [3]]) = [4, 2, 2] := by
  decide +kernel

/-! ### whole histories: function of the history, truthful report after every batch, counts -/

/-- **the trace is a function of the history alone**: entry `i` of the trace of ANY history is one
`fit_with` step applied to the state reached by the first `i` batches (`kmStateAfter` = the fold of
the step over them) — nothing else enters -/
theorem km_trace_entry [Transc α] (m : Metric) (tol : α) (st : KState α)
    (pre : List (List (List α))) (b : List (List α)) (post : List (List (List α))) :
    (kmRunBy m tol st (pre ++ b :: post))[pre.length]? =
      some (kmStepBy m tol (kmStateAfter m tol st pre) b) := by
  rw [kmRunBy_append, List.getElem?_append_right (kmRunBy_length m tol pre st).le,
    kmRunBy_length, Nat.sub_self]
  rfl

/-- **converged / not-converged is reported truthfully after every batch of every history, for every
metric**: the flag of batch `i` is `true` exactly when the metric's `distance` between the centroid
matrix before the batch and the one after it is below the tolerance — the report is
`distance(old, new) < tolerance`, not a comparison in reduced-distance space -/
theorem km_converged_truthful_every_batch [Transc α] (m : Metric) (tol : α) (st : KState α)
    (pre : List (List (List α))) (b : List (List α)) (post : List (List (List α))) :
    ∃ r, (kmRunBy m tol st (pre ++ b :: post))[pre.length]? = some r ∧
      (r.2.1 = true ↔
        distBy m (kmStateAfter m tol st pre).centroids.flatten r.1.centroids.flatten < tol) :=
  ⟨_, km_trace_entry m tol st pre b post, converged_iff_dist_lt_tol_any_metric m tol _ b⟩

/-- two batches, L1: the first moves the centroid by 1 (not below 1/2), the second by 1/3 (below) -/
example : (kmRunBy .l1 (1 / 2 : Rat) ⟨[[0]], [0]⟩ [[[1]], [[5 / 3]]]).map (·.2.1) = [false, true] := by
  decide +kernel

/-- **L2: the report in reduced-distance form.**  For a square root that is one (non-negative and
squaring back on non-negative arguments) and a non-negative tolerance, `Ok` iff the SQUARED shift is
below the SQUARED tolerance (`rdistance(old, new) < dist_to_rdist(tolerance)`). -/
theorem km_converged_l2_iff_sq_shift_lt_sq_tol [Transc α]
    (hs : ∀ x : α, 0 ≤ x → 0 ≤ Transc.sqrt x ∧ Transc.sqrt x * Transc.sqrt x = x)
    (tol : α) (ht : 0 ≤ tol) (st : KState α) (obs : List (List α)) :
    (kmStepBy .l2 tol st obs).2.1 = true ↔
      rdistBy .l2 st.centroids.flatten (kmStepBy .l2 tol st obs).1.centroids.flatten < tol * tol := by
  obtain ⟨hr, hsq⟩ := hs _ (sqDist_nonneg st.centroids.flatten (kmStepBy .l2 tol st obs).1.centroids.flatten)
  rw [converged_iff_dist_lt_tol_any_metric]
  show Transc.sqrt _ < tol ↔ sqDist _ _ < tol * tol
  rw [mul_self_lt_mul_self_iff hr ht, hsq]

/-- the hypothesis on the square root holds for the real square root -/
example : ∀ x : ℝ, 0 ≤ x → 0 ≤ Real.sqrt x ∧ Real.sqrt x * Real.sqrt x = x :=
  fun x hx => ⟨Real.sqrt_nonneg x, Real.mul_self_sqrt hx⟩

/-- **for L1 (and every metric whose reduced distance is the distance itself) comparing the reduced
distance with the squared tolerance is a DIFFERENT report**: with tolerance 1/2 a shift of 1/3 is
converged (1/3 < 1/2) although 1/3 ≥ 1/4; with tolerance 2 a shift of 3 is not converged although
3 < 4.  (This is the seeded change `C15-minibatch-convergence-rdistance`.) -/
theorem km_converged_l1_is_not_rdist_lt_sq_tol :
    ((kmStepBy .l1 (1 / 2 : Rat) ⟨[[0]], [0]⟩ [[1 / 3]]).2.1 = true ∧
      ¬ rdistBy .l1 ([[0]] : List (List Rat)).flatten
          (kmStepBy .l1 (1 / 2 : Rat) ⟨[[0]], [0]⟩ [[1 / 3]]).1.centroids.flatten < 1 / 2 * (1 / 2)) ∧
    ((kmStepBy .l1 (2 : Rat) ⟨[[0]], [0]⟩ [[3]]).2.1 = false ∧
      rdistBy .l1 ([[0]] : List (List Rat)).flatten
          (kmStepBy .l1 (2 : Rat) ⟨[[0]], [0]⟩ [[3]]).1.centroids.flatten < 2 * 2) := by
  decide +kernel

/-- **inertia is the minimum over all assignments**: the sum `dists.sum()` behind `inertia` is at most
the total reduced distance of ANY assignment of the batch's rows to centroids of the model -/
theorem km_inertia_le_any_assignment (m : Metric) (cs : List (List α)) (obs : List (List α))
    (a : List α → List α) (ha : ∀ x ∈ obs, a x ∈ cs) :
    sumS (obs.map fun x => (closestBy m cs x).2) ≤ sumS (obs.map fun x => rdistBy m (a x) x) :=
  sumS_le_sumS_map obs _ _ fun x hx => km_assigns_nearest m cs x (a x) (ha x hx)

example : kmInertiaBy .l1 [[0], [10]] ([[1], [9], [4]] : List (List Rat)) = 2 := by decide +kernel

/-- **the cumulative counts add up**: after any history the per-cluster counts sum to what they
summed to before plus the number of rows fed (every row is counted in exactly one cluster, nothing is
ever reset); guards = at least one centroid, one count per centroid (`Array1::zeros(n_clusters)`) -/
theorem km_counts_add_up [Transc α] (m : Metric) (tol : α) (st : KState α)
    (hist : List (List (List α))) (hne : st.centroids ≠ [])
    (hk : st.counts.length = st.centroids.length) :
    sumS (kmStateAfter m tol st hist).counts = sumS st.counts + (hist.flatten.length : α) := by
  refine (foldl_history (fun s b => (kmStepBy m tol s b).1) st
    (fun past s => s.centroids.length = st.centroids.length ∧ s.counts.length = st.counts.length ∧
      sumS s.counts = sumS st.counts + (past.flatten.length : α))
    ⟨rfl, rfl, by rw [List.flatten_nil, List.length_nil, Nat.cast_zero, add_zero]⟩ ?_ hist).2.2
  intro past s b ⟨h1, h2, h3⟩
  obtain ⟨g1, g2, g3⟩ := kmStepBy_total m tol s b
    (fun e => hne (List.eq_nil_of_length_eq_zero (by rw [← h1, e]; rfl))) (by rw [h1, h2, hk])
  refine ⟨g1.trans h1, g2.trans h2, ?_⟩
  rw [g3, h3, List.flatten_append, List.length_append, List.flatten_singleton, Nat.cast_add, add_assoc]

example : (kmStateAfter .linf (1 : Rat) ⟨[[0], [10]], [0, 0]⟩ [[[1], [9]], [[2]], [[8], [7], [1]]]).counts = [3, 3] := by
  decide +kernel

/-! ## FTRL-proximal -/

/-- **per-coordinate recurrence**: `z' = z + g - σ·w`, `n' = n + g²` -/
theorem ftrl_recurrence [Transc α] (hp : FtrlHp α) (st : FState α) (g : List α) (j : Nat)
    (z n gj : α) (hz : st.z[j]? = some z) (hn : st.n[j]? = some n) (hg : g[j]? = some gj) :
    (ftrlUpdate hp st g).z[j]? = some (z + gj - ftrlSigma hp n gj * ftrlWeight hp z n) ∧
    (ftrlUpdate hp st g).n[j]? = some (n + gj * gj) :=
  ftrlUpdate_getElem? hp st g j z n gj hz hn hg

theorem ftrl_n_monotone [Transc α] (hp : FtrlHp α) (z n g : α) : n ≤ (ftrlCoord hp z n g).2 :=
  le_add_of_nonneg_right (mul_self_nonneg g)

/-- **a weight is exactly zero wherever `|z| ≤ l1`** (no hypothesis at all) -/
theorem ftrl_zero_of_le [Transc α] (hp : FtrlHp α) (z n : α) (h : |z| ≤ hp.l1) :
    ftrlWeight hp z n = 0 := by
  rw [ftrlWeight_eq, if_pos h]

/-- the same for the weight vector of any state (in particular the state after any history,
`ftrlRun`): coordinate `j` of `get_weights` is exactly zero wherever `|z_j| ≤ l1` -/
theorem ftrl_weights_zero_wherever_le [Transc α] (hp : FtrlHp α) (st : FState α) (j : Nat) (z n : α)
    (hz : st.z[j]? = some z) (hn : st.n[j]? = some n) (h : |z| ≤ hp.l1) :
    (ftrlWeights hp st)[j]? = some 0 := by
  rw [ftrlWeights, List.getElem?_zipWith, hz, hn]
  exact congrArg some (ftrl_zero_of_le hp z n h)

/-- and only there, as soon as the denominator `(√n + β)/α + l2` of the closed form is non-zero -/
theorem ftrl_zero_iff [Transc α] (hp : FtrlHp α) (z n : α)
    (hden : (Transc.sqrt n + hp.beta) / hp.alpha + hp.l2 ≠ 0) :
    ftrlWeight hp z n = 0 ↔ |z| ≤ hp.l1 := by
  refine ⟨fun hw => ?_, ftrl_zero_of_le hp z n⟩
  by_contra h
  rw [ftrlWeight_eq, if_neg h, div_eq_zero_iff, or_iff_left hden] at hw
  -- the numerator `±l1 − z` vanishes only for `|z| = l1`
  apply h
  by_cases hz : z < 0
  · rw [if_pos hz] at hw; rw [abs_of_neg hz]; linarith only [hw]
  · rw [if_neg hz] at hw; rw [abs_of_nonneg (not_lt.mp hz)]; linarith only [hw]

/-- **when the closed form's denominator is positive**: `alpha > 0`, `beta ≥ 0`, `l2 ≥ 0`, a non-negative
square root, and `√n + beta > 0` or `l2 > 0`.  `FtrlParams::check` guarantees only `alpha ≥ 0`,
`beta ≥ 0`, `0 ≤ l1, l2 ≤ 1`: `alpha > 0` and "`beta`, `l2`, `n` not all zero" are ASSUMPTIONS of
`ftrl_zero_iff` and `ftrl_weight_is_proximal_minimiser` (see `ftrl_zero_iff_needs_denominator`) -/
theorem ftrl_denominator_pos [Transc α] (hp : FtrlHp α) (n : α) (ha : 0 < hp.alpha) (hb : 0 ≤ hp.beta)
    (hl : 0 ≤ hp.l2) (hs : 0 ≤ Transc.sqrt n) (hne : 0 < Transc.sqrt n + hp.beta ∨ 0 < hp.l2) :
    0 < (Transc.sqrt n + hp.beta) / hp.alpha + hp.l2 := by
  rcases hne with h | h
  · exact add_pos_of_pos_of_nonneg (div_pos h ha) hl
  · exact add_pos_of_nonneg_of_pos (div_nonneg (add_nonneg hs hb) ha.le) h

example : (0 : Rat) < (⟨1 / 200, 0, 1 / 2, 1 / 2⟩ : FtrlHp Rat).alpha ∧
    ((0 : Rat) < Transc.sqrt 0 + (⟨1 / 200, 0, 1 / 2, 1 / 2⟩ : FtrlHp Rat).beta ∨
      (0 : Rat) < (⟨1 / 200, 0, 1 / 2, 1 / 2⟩ : FtrlHp Rat).l2) := by decide +kernel

/-- **the denominator hypothesis cannot be dropped**: `beta = l2 = 0` passes `FtrlParams::check`, and on a
fresh model (`n = 0`) the closed form divides by zero.  In field arithmetic (`x / 0 = 0`) the weight of
`z = 1/2 > l1 = 1/4` is then 0, so "zero only where |z| ≤ l1" fails; in IEEE arithmetic the same weight
is −∞ (reproduced on the real code, oracle-only op `#ftrl_degenerate`).  "Zero wherever |z| ≤ l1"
(`ftrl_zero_of_le`) needs no hypothesis and holds there too. -/
theorem ftrl_zero_iff_needs_denominator :
    ftrlWeight (⟨1, 0, 1 / 4, 0⟩ : FtrlHp Rat) (1 / 2) 0 = 0 ∧ ¬ |(1 / 2 : Rat)| ≤ (⟨1, 0, 1 / 4, 0⟩ : FtrlHp Rat).l1 ∧
    (Transc.sqrt (0 : Rat) + (⟨1, 0, 1 / 4, 0⟩ : FtrlHp Rat).beta) / (⟨1, 0, 1 / 4, 0⟩ : FtrlHp Rat).alpha +
      (⟨1, 0, 1 / 4, 0⟩ : FtrlHp Rat).l2 = 0 := by
  refine ⟨by decide +kernel, ?_, by decide +kernel⟩
  rw [abs_of_pos (by norm_num)]; norm_num

/-- **the weight is the FTRL-proximal minimiser**: for `l1 ≥ 0` and a positive quadratic coefficient
`d = (√n + β)/α + l2`, `get_weights` returns, per coordinate, a minimiser over ALL `w` of the
documented objective `z·w + l1·|w| + ½·d·w²` (soft threshold at `l1`, hence the exact zeros) -/
theorem ftrl_weight_is_proximal_minimiser [Transc α] (hp : FtrlHp α) (z n : α) (hl1 : 0 ≤ hp.l1)
    (hd : 0 < (Transc.sqrt n + hp.beta) / hp.alpha + hp.l2) (w : α) :
    ftrlObjective hp z n (ftrlWeight hp z n) ≤ ftrlObjective hp z n w := by
  rw [ftrlWeight_eq]
  unfold ftrlObjective
  generalize (Transc.sqrt n + hp.beta) / hp.alpha + hp.l2 = d at hd ⊢
  by_cases h : |z| ≤ hp.l1
  · -- dead zone: `z·w + l1·|w| ≥ (l1 − |z|)·|w| ≥ 0`
    simp only [if_pos h, mul_zero, abs_zero, add_zero]
    have h1 : -(z * w) ≤ hp.l1 * |w| :=
      calc -(z * w) ≤ |z * w| := neg_le_abs _
        _ = |z| * |w| := abs_mul z w
        _ ≤ hp.l1 * |w| := mul_le_mul_of_nonneg_right h (abs_nonneg w)
    exact add_nonneg (neg_le_iff_add_nonneg'.mp h1) (mul_nonneg (half_pos hd).le (mul_self_nonneg w))
  · -- outside it the weight lies on the side opposite to `z`
    rw [if_neg h]
    by_cases hz : z < 0
    · rw [if_pos hz]
      rw [abs_of_neg hz] at h
      have hpos : 0 < (-1 * hp.l1 - z) / d := div_pos (by linarith only [h]) hd
      exact prox_le z hp.l1 d (-1) _ w hl1 hd (div_mul_cancel₀ _ hd.ne')
        (by rw [abs_of_pos hpos]; ring) (by linarith only [le_abs_self w])
    · rw [if_neg hz]
      rw [abs_of_nonneg (not_lt.mp hz)] at h
      have hneg : (1 * hp.l1 - z) / d < 0 := div_neg_of_neg_of_pos (by linarith only [h]) hd
      exact prox_le z hp.l1 d 1 _ w hl1 hd (div_mul_cancel₀ _ hd.ne')
        (by rw [abs_of_neg hneg]; ring) (by linarith only [neg_abs_le w])

/-- hyper-parameters α = β = 1, l1 = 1/2, l2 = 1, `n = 4` (`sqrt` the stand-in identity): `d = 6 > 0`;
the weight of `z = 3/2` is `-1/6` with objective `-1/12`, below the objective at `0` and at `-1/3` -/
example : (0 : Rat) ≤ (⟨1, 1, 1 / 2, 1⟩ : FtrlHp Rat).l1 ∧
    (0 : Rat) < (Transc.sqrt 4 + (⟨1, 1, 1 / 2, 1⟩ : FtrlHp Rat).beta) / (⟨1, 1, 1 / 2, 1⟩ : FtrlHp Rat).alpha + (⟨1, 1, 1 / 2, 1⟩ : FtrlHp Rat).l2 ∧
    ftrlObjective (⟨1, 1, 1 / 2, 1⟩ : FtrlHp Rat) (3 / 2) 4 (ftrlWeight ⟨1, 1, 1 / 2, 1⟩ (3 / 2) 4) = -1 / 12 ∧
    ftrlObjective (⟨1, 1, 1 / 2, 1⟩ : FtrlHp Rat) (3 / 2) 4 0 = 0 ∧
    ftrlObjective (⟨1, 1, 1 / 2, 1⟩ : FtrlHp Rat) (3 / 2) 4 (-1 / 3) = 0 := by decide +kernel

set_option linter.unusedVariables false in
/-- **the sigmoid is clamped**: beyond `±max_abs` the predicted probability no longer depends on the logit -/
theorem ftrl_sigmoid_clamped [Transc α] (m v : α) (hm : 0 ≤ m) :
    (m ≤ v → sigmoid m v = sigmoid m m) ∧ (v ≤ -m → sigmoid m v = sigmoid m (-m)) :=
  ⟨fun hv => sigmoid_congr m v m (by rw [min_eq_right hv, min_self]),
    fun hv => sigmoid_congr m v (-m)
      (by rw [max_eq_right (min_le_of_left_le hv), max_eq_right (min_le_left _ _)])⟩

example : (0 : Rat) ≤ 35 ∧ sigmoid (35 : Rat) 100 = sigmoid 35 35 ∧ sigmoid (35 : Rat) (-100) = sigmoid 35 (-35) := by
  decide +kernel

example : ftrlWeight (⟨1, 1, 1 / 2, 1⟩ : FtrlHp Rat) (-1 / 2) 4 = 0 := by decide +kernel
example : ftrlWeight (⟨1, 1, 1 / 2, 1⟩ : FtrlHp Rat) (3 / 2) 4 ≠ 0 := by decide +kernel
example : ftrlWeights (⟨1, 1, 1 / 2, 1⟩ : FtrlHp Rat) ⟨[-1 / 2, 3 / 2, 1 / 4], [4, 4, 0]⟩ = [0, -1 / 6, 0] := by decide +kernel

/-! ### the accumulators `z` and `n` over whole histories -/

/-- **a history of `fit_with` calls is a sequence of `update_params` calls**, one gradient vector of
length `p` per batch (the gradients are whatever `calculate_gradient` produced; the theorems below
hold for every such sequence) -/
theorem ftrl_history_is_update_sequence [Transc α] (m : α) (r32 : α → α) (hp : FtrlHp α) (p : Nat)
    (st : FState α) (hist : List (List (List α) × List Bool)) :
    ∃ gs : List (List α), gs.length = hist.length ∧ (∀ g ∈ gs, g.length = p) ∧
      ftrlRun m r32 hp p st hist = gs.foldl (ftrlUpdate hp) st :=
  have h := ftrlRun_eq_fold_gradSeq m r32 hp p hist st
  ⟨_, h.2.1, h.2.2, h.1⟩

/-- **the gradients of a history, written out**: a history of `fit_with` calls is the fold of
`update_params` over the gradient vectors `ftrlGradSeq` — one per batch, computed by
`calculate_gradient` from the probabilities the state BEFORE the batch predicts — and component `j` of
such a vector is `Σ_i (p_i − y_i)·x_ij` (`diff.dot(x)`) -/
theorem ftrl_history_gradients_explicit [Transc α] (m : α) (r32 : α → α) (hp : FtrlHp α) (p : Nat)
    (st : FState α) (hist : List (List (List α) × List Bool)) :
    ftrlRun m r32 hp p st hist = (ftrlGradSeq m r32 hp p st hist).foldl (ftrlUpdate hp) st ∧
    (ftrlGradSeq m r32 hp p st hist).length = hist.length ∧
    ∀ (probs : List α) (xs : List (List α)) (ys : List Bool) (j : Nat), j < p →
      (ftrlGradient p probs xs ys)[j]? =
        some (dotS (List.zipWith (fun pr (y : Bool) => pr - (if y then 1 else 0)) probs ys) (column j xs)) :=
  ⟨(ftrlRun_eq_fold_gradSeq m r32 hp p hist st).1, (ftrlRun_eq_fold_gradSeq m r32 hp p hist st).2.1,
    fun probs xs ys j hj => ftrlGradient_getElem? p probs xs ys j hj⟩

example : ftrlGradient 2 ([1 / 2, 1 / 4] : List Rat) [[1, 0], [2, 4]] [true, false] = [0, 1] := by
  decide +kernel

/-- **the coordinates are independent accumulators**: coordinate `j` of `(z, n)` after any sequence of
updates is the one-coordinate recurrence run over the `j`-th gradient components -/
theorem ftrl_coordinates_independent [Transc α] (hp : FtrlHp α) (gs : List (List α)) (j : Nat)
    (st : FState α) (z n : α) (hz : st.z[j]? = some z) (hn : st.n[j]? = some n)
    (hg : ∀ g ∈ gs, j < g.length) :
    (gs.foldl (ftrlUpdate hp) st).z[j]? =
        some (ftrlCoordRun hp (z, n) (gs.map fun g => g.getD j 0)).1 ∧
    (gs.foldl (ftrlUpdate hp) st).n[j]? =
        some (ftrlCoordRun hp (z, n) (gs.map fun g => g.getD j 0)).2 := by
  induction gs generalizing st z n with
  | nil => exact ⟨hz, hn⟩
  | cons g rest ih =>
    have hgj : g[j]? = some (g.getD j 0) := by
      rw [List.getD_eq_getElem?_getD, List.getElem?_eq_getElem (hg g List.mem_cons_self)]; rfl
    obtain ⟨h1, h2⟩ := ftrlUpdate_getElem? hp st g j z n _ hz hn hgj
    exact ih _ _ _ h1 h2 fun g' hg' => hg g' (List.mem_cons_of_mem _ hg')

/-- **`n` accumulates the squared gradients**: after any sequence `n = n₀ + Σ_t g_t²`, so it never
decreases over a history -/
theorem ftrl_n_accumulates [Transc α] (hp : FtrlHp α) (gs : List α) (z n : α) :
    (ftrlCoordRun hp (z, n) gs).2 = n + sumS (gs.map fun g => g * g) ∧
    n ≤ (ftrlCoordRun hp (z, n) gs).2 := by
  have key : (ftrlCoordRun hp (z, n) gs).2 = n + sumS (gs.map fun g => g * g) := by
    induction gs generalizing z n with
    | nil => exact (add_zero n).symm
    | cons g rest ih =>
      rw [List.map_cons, sumS_cons, ← add_assoc]
      exact ih (ftrlCoord hp z n g).1 (n + g * g)
  refine ⟨key, key ▸ le_add_of_nonneg_right (sumS_nonneg _ fun x hx => ?_)⟩
  obtain ⟨g, _, rfl⟩ := List.mem_map.mp hx
  exact mul_self_nonneg g

/-- **the learning-rate increments telescope**: `Σ_t σ_t = (√n_T − √n₀)/α` — the per-coordinate
learning-rate schedule `1/η_t = √n_t/α` of FTRL-proximal (for any function `sqrt`) -/
theorem ftrl_sigma_telescopes [Transc α] (hp : FtrlHp α) (gs : List α) (n : α) :
    sumS (ftrlSigmaSeq hp n gs) =
      (Transc.sqrt (n + sumS (gs.map fun g => g * g)) - Transc.sqrt n) / hp.alpha := by
  induction gs generalizing n with
  | nil => simp [ftrlSigmaSeq, sumS_nil]
  | cons g rest ih =>
    simp only [ftrlSigmaSeq, sumS_cons, List.map_cons, ih, ftrlSigma, add_assoc]
    ring

/-- **`z` accumulates the gradients minus the corrections**: `z = z₀ + Σ_t g_t − Σ_t σ_t·w_t`, `w_t`
the proximal weight of the state before update `t` -/
theorem ftrl_z_accumulates [Transc α] (hp : FtrlHp α) (gs : List α) (z n : α) :
    (ftrlCoordRun hp (z, n) gs).1 = z + sumS gs - sumS (ftrlCorrSeq hp z n gs) := by
  induction gs generalizing z n with
  | nil => simp [ftrlCoordRun, ftrlCorrSeq, sumS_nil]
  | cons g rest ih =>
    refine (ih (ftrlCoord hp z n g).1 (n + g * g)).trans ?_
    simp only [ftrlCorrSeq, sumS_cons, ftrlCoord]
    ring

/-- **`n` after a whole history of `fit_with` calls**: there is one gradient vector per batch such that
coordinate `j` of `n` is its start value plus the sum of the squared `j`-th gradient components, and
it is at least the start value -/
theorem ftrl_n_after_history [Transc α] (m : α) (r32 : α → α) (hp : FtrlHp α) (p : Nat)
    (st : FState α) (hist : List (List (List α) × List Bool)) (j : Nat) (z n : α) (hj : j < p)
    (hz : st.z[j]? = some z) (hn : st.n[j]? = some n) :
    ∃ gs : List (List α), gs.length = hist.length ∧
      (ftrlRun m r32 hp p st hist).n[j]? =
        some (n + sumS (gs.map fun g => g.getD j 0 * g.getD j 0)) ∧
      ∀ n', (ftrlRun m r32 hp p st hist).n[j]? = some n' → n ≤ n' := by
  obtain ⟨heq, hlen, hall⟩ := ftrlRun_eq_fold_gradSeq m r32 hp p hist st
  have hc := (ftrl_coordinates_independent hp _ j st z n hz hn (fun g hg => (hall g hg).symm ▸ hj)).2
  rw [← heq] at hc
  obtain ⟨hacc, hmono⟩ := ftrl_n_accumulates hp ((ftrlGradSeq m r32 hp p st hist).map fun g => g.getD j 0) z n
  refine ⟨_, hlen, ?_, fun n' h' => ?_⟩
  · rw [hc, hacc, List.map_map]; rfl
  · rw [hc] at h'
    exact Option.some.inj h' ▸ hmono

/-- three updates of one coordinate from `(z, n) = (1/4, 0)` with gradients `1, -2, 2`
(hyper-parameters α = β = 1, l1 = 1/2, l2 = 1; `sqrt` is the stand-in identity): `n = 0 + 1 + 4 + 4` -/
example : (ftrlCoordRun (⟨1, 1, 1 / 2, 1⟩ : FtrlHp Rat) (1 / 4, 0) [1, -2, 2]).2 = 9 ∧
    sumS (ftrlSigmaSeq (⟨1, 1, 1 / 2, 1⟩ : FtrlHp Rat) 0 [1, -2, 2]) = 9 ∧
    (ftrlCoordRun (⟨1, 1, 1 / 2, 1⟩ : FtrlHp Rat) (1 / 4, 0) [1, -2, 2]).1 =
      1 / 4 + (1 - 2 + 2) - sumS (ftrlCorrSeq (⟨1, 1, 1 / 2, 1⟩ : FtrlHp Rat) (1 / 4) 0 [1, -2, 2]) := by
  decide +kernel

example : ((([[1, 0], [-2, 1]] : List (List Rat)).foldl (ftrlUpdate ⟨1, 1, 1 / 2, 1⟩) ⟨[1 / 4, 2], [0, 1]⟩).n) = [5, 2] := by
  decide +kernel

/-! ## the glue around the steps: `Option` model in, guards, the caller's loop -/

/-- **naive Bayes, the caller's loop** `model = params.fit_with(model, &batch)?`: when every batch
passes the guard of the code (Gaussian: at least one feature column and at least one row — otherwise
`max()` errors; multinomial: no error path, guard constantly true) the loop returns one model per
batch and its last model is the step folded over the history from the incoming model (`None` = empty
map), i.e. `gnbRun` / `mnbRun` -/
theorem nb_fit_history_is_run {σ : Type} (step : σ → Batch α → σ) (e : σ) (guard : Batch α → Bool)
    (hist : List (Batch α)) (hg : ∀ b ∈ hist, guard b = true) (model : Option σ) :
    ∃ sts, nbFitHistory step e guard model hist = some sts ∧ sts.length = hist.length ∧
      sts.getLastD (model.getD e) = hist.foldl step (model.getD e) := by
  induction hist generalizing model with
  | nil => exact ⟨[], rfl, rfl, rfl⟩
  | cons b rest ih =>
    obtain ⟨sts, h1, h2, h3⟩ := ih (fun b' hb' => hg b' (List.mem_cons_of_mem _ hb'))
      (some (step (model.getD e) b))
    refine ⟨step (model.getD e) b :: sts, ?_, congrArg (· + 1) h2, (List.getLastD_cons ..).trans h3⟩
    simp only [nbFitHistory, nbFitWith, hg b List.mem_cons_self, if_true, h1, Option.map_some]

/-- **multinomial `fit_with` never errors**, and an empty batch leaves every class as it was -/
theorem mnb_fit_never_errors [Transc α] (a : α) (p : Nat) (hist : List (Batch α))
    (model : Option (MState α)) :
    (∃ sts, nbFitHistory (mnbStep a p) [] (fun _ => true) model hist = some sts ∧
      sts.length = hist.length) ∧
    ∀ (st : MState α) (c : Nat), (lookup c (mnbStep a p st [])).map mProj = (lookup c st).map mProj := by
  obtain ⟨sts, h1, h2, _⟩ := nb_fit_history_is_run (mnbStep a p) [] (fun _ => true) hist (fun _ _ => rfl) model
  exact ⟨⟨sts, h1, h2⟩, fun st c => mnbStep_absent_class a p st [] c rfl⟩

/-- **… and a batch that fails the guard turns the whole loop into the error** -/
theorem nb_fit_history_guard {σ : Type} (step : σ → Batch α → σ) (e : σ) (guard : Batch α → Bool)
    (hist : List (Batch α)) (hg : ∃ b ∈ hist, guard b = false) (model : Option σ) :
    nbFitHistory step e guard model hist = none := by
  induction hist generalizing model with
  | nil => obtain ⟨b, hb, _⟩ := hg; exact nomatch hb
  | cons b rest ih =>
    obtain ⟨b', hb', hf⟩ := hg
    by_cases hb : guard b = true
    · have hb'' : b' ∈ rest := (List.mem_cons.mp hb').resolve_left fun e => by
        rw [e, hb] at hf; exact nomatch hf
      simp only [nbFitHistory, nbFitWith, hb, if_true, ih ⟨b', hb'', hf⟩, Option.map_none]
    · simp [nbFitHistory, nbFitWith, hb]

example : (nbFitHistory (gnbStep (0 : Rat) 1) [] (nbGuard 1) none [[([1], 7)], [([2], 9)]]).map (·.length) = some 2 ∧
    (nbFitHistory (gnbStep (0 : Rat) 1) [] (nbGuard 1) none [[([1], 7)], []]).isNone = true ∧
    (nbFitHistory (mnbStep (1 : Rat) 1) [] (fun _ => true) none [[([1], 7)], []]).map (·.length) = some 2 ∧
    (∀ b ∈ ([[([1], 7)], [([2], 9)]] : List (Batch Rat)), nbGuard 1 b = true) := by decide +kernel

/-- **k-means, the caller's loop** (`Ok(m) | Err(NotConverged(m)) => Some(m)`) is the trace from the
incoming model; `None` is the precomputed centroids with `cluster_count = 0`, and the initial
centroids of the parameters play no role once a model exists -/
theorem km_fit_history_is_run [Transc α] (m : Metric) (tol : α) (c0 : List (List α))
    (hist : List (List (List α))) (model : Option (KState α)) :
    kmFitHistory m tol c0 model hist = kmRunBy m tol (model.getD (kmFresh c0)) hist ∧
    ∀ (c0' : List (List α)) (s : KState α),
      kmFitHistory m tol c0 (some s) hist = kmFitHistory m tol c0' (some s) hist := by
  refine ⟨kmFitHistory_eq_run m tol c0 hist model, ?_⟩
  intro c0' s
  rw [kmFitHistory_eq_run, kmFitHistory_eq_run]; rfl

example : (kmFitHistory .l1 (1 / 2 : Rat) [[0]] none [[[1]], [[5 / 3]]]).map (·.2.1) = [false, true] := by
  decide +kernel

/-- **FTRL, the caller's loop**: one model per batch, the last one is the step folded over the
history from the incoming model; `None` is `Ftrl::new` (the drawn `z`, `n = 0`) -/
theorem ftrl_fit_history_is_run [Transc α] (m : α) (r32 : α → α) (hp : FtrlHp α) (z0 : List α)
    (hist : List (List (List α) × List Bool)) (model : Option (FState α)) :
    (ftrlFitHistory m r32 hp z0 model hist).length = hist.length ∧
    (ftrlFitHistory m r32 hp z0 model hist).getLastD (model.getD (ftrlFresh z0)) =
      ftrlRun m r32 hp z0.length (model.getD (ftrlFresh z0)) hist := by
  induction hist generalizing model with
  | nil => exact ⟨rfl, rfl⟩
  | cons b rest ih =>
    obtain ⟨h1, h2⟩ := ih (some (ftrlFitWith m r32 hp z0 model b))
    exact ⟨congrArg (· + 1) h1, (List.getLastD_cons ..).trans h2⟩

example : ((ftrlFitHistory (35 : Rat) id ⟨1, 1, 1 / 2, 1⟩ [1 / 4, 3 / 4] none
    [([[1, 0]], [true]), ([[0, 1], [1, 1]], [false, true])]).map (·.n.length)) = [2, 2] := by decide +kernel

/-- **the hyper-parameters of the carried model are the ones used**: a history of `fit_with` calls whose
parameters carry possibly different hyper-parameters per call produces exactly the models of the
caller's loop run entirely with the hyper-parameters of the FIRST call (copied into the model by
`Ftrl::new`); from an incoming model it is the loop with the model's own — the parameters' values play
no role once a model exists -/
theorem ftrl_fit_uses_carried_hyperparameters [Transc α] (max35 : α) (r32 : α → α) (z0 : List α) :
    (∀ (hp1 : FtrlHp α) (b : List (List α) × List Bool)
        (rest : List (FtrlHp α × (List (List α) × List Bool))),
      ftrlFitHistoryM max35 r32 z0 none ((hp1, b) :: rest) =
        (ftrlFitHistory max35 r32 hp1 z0 none (b :: rest.map (·.2))).map (fun s => ⟨hp1, s⟩)) ∧
    ∀ (m0 : FModel α) (hist : List (FtrlHp α × (List (List α) × List Bool))),
      ftrlFitHistoryM max35 r32 z0 (some m0) hist =
        (ftrlFitHistory max35 r32 m0.hp z0 (some m0.st) (hist.map (·.2))).map (fun s => ⟨m0.hp, s⟩) :=
  ⟨fun hp1 b rest => by
      simp only [ftrlFitHistoryM, ftrlFitHistory, List.map_cons, ftrlFitWithM, ftrlFitWith,
        Option.getD_none]
      rw [ftrlFitHistoryM_some],
    fun m0 hist => ftrlFitHistoryM_some max35 r32 z0 hist m0⟩

example : ((ftrlFitHistoryM (35 : Rat) id [1 / 4, 3 / 4] none
      [(⟨1, 1, 1 / 2, 1⟩, ([[1, 0]], [true])), (⟨2, 0, 0, 0⟩, ([[0, 1], [1, 1]], [false, true]))]).map (·.st.n)) =
    (ftrlFitHistory (35 : Rat) id ⟨1, 1, 1 / 2, 1⟩ [1 / 4, 3 / 4] none
      [([[1, 0]], [true]), ([[0, 1], [1, 1]], [false, true])]).map (·.n) := by decide +kernel

end Field

/-! ## over the reals: the scores are logarithms of probabilities -/

section Reals
attribute [local instance] LinfaSpec.Incremental.transcReal

/-- **additively smoothed feature frequencies**: with the real `ln`, the exponential of the stored
log-frequency of feature `j` is `(N_j + α) / Σ_k (N_k + α)` whenever the smoothed counts are positive
(`α > 0`, or `α = 0` and every feature seen) — the textbook estimate -/
theorem mnb_log_prob_is_log_of_smoothed_frequency (a : ℝ) (fc : List ℝ)
    (hpos : ∀ x ∈ fc, 0 < x + a) (j : Nat) (x : ℝ) (hj : fc[j]? = some x) :
    ((mnbLogProb a fc).map Real.exp)[j]? =
      some ((x + a) / sumS (fc.map (· + a))) := by
  have hx : x ∈ fc := List.mem_of_getElem? hj
  have hsum : 0 < sumS (fc.map (· + a)) := by
    rw [sumS_eq_sum]
    refine List.sum_pos _ (fun y hy => ?_) (fun hnil => List.ne_nil_of_mem hx (List.map_eq_nil_iff.mp hnil))
    obtain ⟨v, hv, rfl⟩ := List.mem_map.mp hy
    exact hpos v hv
  simp only [mnbLogProb, List.map_map, List.getElem?_map, hj, Option.map_some, Function.comp,
    Option.some.injEq]
  show Real.exp (Real.log (x + a) - Real.log (sumS (fc.map (· + a)))) = _
  rw [Real.exp_sub, Real.exp_log (hpos x hx), Real.exp_log hsum]

example : (∀ x ∈ ([4, 2, 0] : List ℝ), 0 < x + 1) ∧ ([4, 2, 0] : List ℝ)[1]? = some 2 := by
  constructor
  · intro x hx; simp at hx; rcases hx with rfl | rfl | rfl <;> norm_num
  · rfl

/-- **the Gaussian score is the log of the posterior's numerator**: `joint_log_likelihood` of a class with
prior `π`, means `θ_j` and variances `σ_j` at the query `x` is `ln π + Σ_j ln N(x_j; θ_j, σ_j)`, and for
`σ > 0` the exponential of such a term is the normal density `1/√(2πσ) · exp(−(x−θ)²/(2σ))` (`twoPi` is the
constant the code writes `2π`; only its positivity matters here) — so the arg-max of
`nb_predict_is_argmax_posterior` with `jll = gnbJll` maximises prior × likelihood -/
theorem gnb_jll_is_log_posterior (twoPi : ℝ) (l : List (ℝ × ℝ × ℝ)) (cnt : Nat) (prior : ℝ) :
    gnbJll twoPi (1 / 2) ⟨cnt, prior, l.map (·.2.1), l.map (·.2.2)⟩ (l.map (·.1)) =
      Real.log prior + sumS (l.map fun t => gaussLogPdf twoPi t.1 t.2.1 t.2.2) ∧
    ∀ x θ σ : ℝ, 0 < twoPi → 0 < σ →
      Real.exp (gaussLogPdf twoPi x θ σ) =
        1 / Real.sqrt (twoPi * σ) * Real.exp (-((x - θ) * (x - θ)) / (2 * σ)) :=
  ⟨gnbJll_eq twoPi l cnt prior, fun x θ σ hp hs => exp_gaussLogPdf twoPi x θ σ hp hs⟩

example : (0 : ℝ) < 6 ∧ (0 : ℝ) < 2 := by constructor <;> norm_num
end Reals

end LinfaSpec.Props.C15
