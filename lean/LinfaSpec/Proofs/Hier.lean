import LinfaSpec.Model.Hier
import Mathlib.Order.Basic
import Mathlib.Data.List.Basic

/-! The merge replay of `ValidHierarchicalCluster::transform`: what one merge does to the clusters, what every
successful replay preserves, the labels written by `assign`, and single linkage under a distance threshold. -/
namespace LinfaSpec.Hier
open LinfaSpec

/-- all samples held by the clusters, in list order -/
def members (cl : Clusters) : List Nat := (cl.map (·.2)).flatten

/-- the cluster ids (keys of the hash map) -/
def keys (cl : Clusters) : List Nat := cl.map (·.1)

/-- the merge replay without a stopping criterion (specification function) -/
def mergeAll {α : Type} : List (Step α) → Clusters → Nat → Option Clusters
  | [], cl, _ => some cl
  | s :: rest, cl, ct =>
    match removeKey s.c1 cl with
    | none => none
    | some (a, cl1) =>
      match removeKey s.c2 cl1 with
      | none => none
      | some (b, cl2) => mergeAll rest ((ct, a ++ b) :: cl2) (ct + 1)

/-- the dendrogram contract of `kodama::linkage` (validated by the harness on every dendrogram it
reads): every step merges two different live cluster ids, the merged cluster gets the next id -/
inductive DendroOK {α : Type} : List (Step α) → List Nat → Nat → Prop
  | nil (live : List Nat) (ct : Nat) : DendroOK [] live ct
  | cons (s : Step α) (rest : List (Step α)) (live : List Nat) (ct : Nat) :
      s.c1 ∈ live → s.c2 ∈ live.erase s.c1 →
      DendroOK rest (ct :: (live.erase s.c1).erase s.c2) (ct + 1) → DendroOK (s :: rest) live ct

/-- two samples lie in the same cluster -/
def SameCl (cl : Clusters) (i j : Nat) : Prop := ∃ e ∈ cl, i ∈ e.2 ∧ j ∈ e.2

/-- connectedness in the graph on the samples `0..n-1` whose edges are the pairs with `D i j < d` -/
inductive Conn {α : Type} [LT α] (D : Nat → Nat → α) (d : α) (n : Nat) : Nat → Nat → Prop
  | refl (i : Nat) : Conn D d n i i
  | edge (i j : Nat) : i < n → j < n → D i j < d → Conn D d n i j
  | symm {i j : Nat} : Conn D d n i j → Conn D d n j i
  | trans {i j k : Nat} : Conn D d n i j → Conn D d n j k → Conn D d n i k

/-- the single-linkage contract of `kodama::linkage` on the distance matrix `D` (validated by the harness on
every single-linkage dendrogram, `#linkage`): every step merges two live clusters, its dissimilarity is the
least distance between a member of the one and a member of the other, and the dendrogram is complete (one
cluster is left at the end) -/
inductive SLOK {α : Type} [LE α] (D : Nat → Nat → α) : List (Step α) → Clusters → Nat → Prop
  | nil (cl : Clusters) (ct : Nat) : cl.length ≤ 1 → SLOK D [] cl ct
  | cons (s : Step α) (rest : List (Step α)) (cl : Clusters) (ct : Nat) (a : List Nat) (cl1 : Clusters)
      (b : List Nat) (cl2 : Clusters) :
      removeKey s.c1 cl = some (a, cl1) → removeKey s.c2 cl1 = some (b, cl2) →
      (∃ i ∈ a, ∃ j ∈ b, D i j = s.dis) → (∀ i ∈ a, ∀ j ∈ b, s.dis ≤ D i j) →
      SLOK D rest ((ct, a ++ b) :: cl2) (ct + 1) → SLOK D (s :: rest) cl ct

theorem members_cons (e : Nat × List Nat) (cl : Clusters) : members (e :: cl) = e.2 ++ members cl := rfl

theorem mem_members {cl : Clusters} {p : Nat} : p ∈ members cl ↔ ∃ e ∈ cl, p ∈ e.2 := by
  simp only [members, List.mem_flatten, List.mem_map, exists_exists_and_eq_and]

theorem mem_members_getElem {cl : Clusters} {j : Nat} (hj : j < cl.length) {p : Nat} (hp : p ∈ cl[j].2) :
    p ∈ members cl :=
  mem_members.mpr ⟨_, List.getElem_mem hj, hp⟩

theorem members_init (n : Nat) : members (initClusters n) = List.range n := by
  rw [members, initClusters, List.map_map, ← List.flatMap_def]
  exact List.flatMap_singleton' _

theorem mem_init {n : Nat} {e : Nat × List Nat} (he : e ∈ initClusters n) : e.2 = [e.1] := by
  obtain ⟨x, _, rfl⟩ := List.mem_map.mp he
  rfl

theorem length_init (n : Nat) : (initClusters n).length = n := by
  rw [initClusters, List.length_map, List.length_range]

theorem keys_init (n : Nat) : keys (initClusters n) = List.range n := by
  simp [keys, initClusters, Function.comp_def]

theorem recorded_self {α : Type} (close : α → α → Bool) (q : List α) (steps : List (Step α)) (n : Nat)
    (hc : ∀ x ∈ q, close x x = true) : recorded close q steps q n = steps := by
  have : (q.zip q).all (fun e => close e.1 e.2) = true := by
    simpa [List.zip_eq_zipWith, List.zipWith_self] using hc
  simp [recorded, this]

theorem removeKey_some {k : Nat} {cl : Clusters} {ids : List Nat} {cl' : Clusters}
    (h : removeKey k cl = some (ids, cl')) :
    cl.Perm ((k, ids) :: cl') ∧ keys cl' = (keys cl).erase k := by
  induction cl generalizing cl' with
  | nil => cases h
  | cons e rest ih =>
    obtain ⟨k', ids'⟩ := e
    rw [removeKey] at h
    by_cases hk : k' = k
    · obtain ⟨rfl, rfl⟩ := Prod.mk.inj (Option.some.inj ((if_pos hk).symm.trans h))
      exact ⟨hk ▸ .refl _, by simp [keys, hk]⟩
    · rw [if_neg hk] at h
      cases hr : removeKey k rest with
      | none => rw [hr] at h; cases h
      | some p =>
        rw [hr] at h
        obtain ⟨rfl, rfl⟩ := Prod.mk.inj (Option.some.inj h)
        obtain ⟨hp, hkeys⟩ := ih hr
        exact ⟨(hp.cons _).trans (.swap _ _ _), by simpa [keys, hk] using hkeys⟩

theorem removeKey_of_mem {k : Nat} {cl : Clusters} (h : k ∈ keys cl) : ∃ ids cl', removeKey k cl = some (ids, cl') := by
  induction cl with
  | nil => cases h
  | cons e rest ih =>
    rw [removeKey]
    split
    · exact ⟨_, _, rfl⟩
    · obtain ⟨ids, cl', hr⟩ := ih ((List.mem_cons.mp h).resolve_left (Ne.symm ‹_›))
      exact ⟨ids, _, by rw [hr]⟩

theorem merge_perm {k1 k2 : Nat} {cl cl1 cl2 : Clusters} {a b : List Nat}
    (h1 : removeKey k1 cl = some (a, cl1)) (h2 : removeKey k2 cl1 = some (b, cl2)) :
    cl.Perm ((k1, a) :: (k2, b) :: cl2) :=
  (removeKey_some h1).1.trans ((removeKey_some h2).1.cons _)

theorem members_merge {k1 k2 ct : Nat} {cl cl2 : Clusters} {a b : List Nat}
    (hp : cl.Perm ((k1, a) :: (k2, b) :: cl2)) : (members ((ct, a ++ b) :: cl2)).Perm (members cl) := by
  simpa [members] using (hp.map (·.2)).flatten.symm

section
variable {α : Type} [LE α] [DecidableLE α]

theorem replayGo_cons_some {crit : Crit α} {s : Step α} {rest : List (Step α)} {cl cl' : Clusters} {ct : Nat}
    (h : replayGo crit (s :: rest) cl ct = some cl') :
    (shouldStop crit cl.length s = true ∧ cl' = cl) ∨
    (shouldStop crit cl.length s = false ∧ ∃ a b cl2, cl.Perm ((s.c1, a) :: (s.c2, b) :: cl2) ∧
      replayGo crit rest ((ct, a ++ b) :: cl2) (ct + 1) = some cl') := by
  rw [replayGo] at h
  by_cases hs : shouldStop crit cl.length s = true
  · exact .inl ⟨hs, (Option.some.inj ((if_pos hs).symm.trans h)).symm⟩
  · rw [if_neg hs] at h
    cases h1 : removeKey s.c1 cl with
    | none => rw [h1] at h; cases h
    | some p1 =>
      obtain ⟨a, cl1⟩ := p1
      cases h2 : removeKey s.c2 cl1 with
      | none => simp only [h1, h2] at h; cases h
      | some p2 =>
        obtain ⟨b, cl2⟩ := p2
        simp only [h1, h2] at h
        exact .inr ⟨Bool.eq_false_iff.mpr hs, a, b, cl2, merge_perm h1 h2, h⟩

theorem replayGo_invariant (I : Clusters → Prop)
    (hI : ∀ cl k1 a k2 b cl2 ct, cl.Perm ((k1, a) :: (k2, b) :: cl2) → I cl → I ((ct, a ++ b) :: cl2))
    {crit : Crit α} {steps : List (Step α)} {cl cl' : Clusters} {ct : Nat}
    (h : replayGo crit steps cl ct = some cl') (h0 : I cl) : I cl' := by
  induction steps generalizing cl ct with
  | nil => obtain rfl := Option.some.inj h; exact h0
  | cons s rest ih =>
    obtain ⟨_, rfl⟩ | ⟨_, a, b, cl2, hp, h'⟩ := replayGo_cons_some h
    · exact h0
    · exact ih h' (hI _ _ _ _ _ _ _ hp h0)

theorem replayGo_members {crit : Crit α} {steps : List (Step α)} {cl cl' : Clusters} {ct : Nat}
    (h : replayGo crit steps cl ct = some cl') : (members cl').Perm (members cl) :=
  replayGo_invariant (fun x => (members x).Perm (members cl))
    (fun _ _ _ _ _ _ _ hp hi => (members_merge hp).trans hi) h (.refl _)

theorem replayGo_nonempty {crit : Crit α} {steps : List (Step α)} {cl cl' : Clusters} {ct : Nat}
    (h : replayGo crit steps cl ct = some cl') (hne : ∀ e ∈ cl, e.2 ≠ []) : ∀ e ∈ cl', e.2 ≠ [] := by
  refine replayGo_invariant (fun x => ∀ e ∈ x, e.2 ≠ []) ?_ h hne
  intro cl k1 a k2 b cl2 ct hp hcl e he
  obtain rfl | he := List.mem_cons.mp he
  · simpa using fun ha : a = [] => absurd ha (hcl (k1, a) (hp.mem_iff.mpr (by simp)))
  · exact hcl e (hp.mem_iff.mpr (by simp [he]))

theorem replayGo_num_of_le {c : Nat} (steps : List (Step α)) {cl : Clusters} (ct : Nat) (h : cl.length ≤ c) :
    replayGo (Crit.num c : Crit α) steps cl ct = some cl := by
  cases steps with
  | nil => rfl
  | cons s rest => rw [replayGo, shouldStop, if_pos (decide_eq_true h)]

theorem replayGo_num_length {c : Nat} {steps : List (Step α)} {cl cl' : Clusters} {ct : Nat}
    (h : replayGo (Crit.num c : Crit α) steps cl ct = some cl') (hc : c ≤ cl.length) :
    cl'.length = max c (cl.length - steps.length) := by
  induction steps generalizing cl ct with
  | nil => obtain rfl := Option.some.inj h; exact (Nat.max_eq_right hc).symm
  | cons s rest ih =>
    obtain ⟨hs, rfl⟩ | ⟨hs, a, b, cl2, hp, h'⟩ := replayGo_cons_some h
    · rw [Nat.le_antisymm (of_decide_eq_true hs) hc]
      exact (Nat.max_eq_left (Nat.sub_le _ _)).symm
    · have hs : ¬ cl.length ≤ c := of_decide_eq_false hs
      have hl : cl.length = cl2.length + 1 + 1 := hp.length_eq
      -- one cluster fewer, one step fewer
      have hc' : c ≤ cl2.length + 1 := Nat.le_of_lt_succ (hl.symm ▸ Nat.lt_of_not_le hs : c < cl2.length + 1 + 1)
      rw [ih h' hc', hl, List.length_cons, List.length_cons, Nat.add_sub_add_right]

theorem replayGo_defined (crit : Crit α) {steps : List (Step α)} {cl : Clusters} {ct : Nat}
    (h : DendroOK steps (keys cl) ct) : (replayGo crit steps cl ct).isSome := by
  induction steps generalizing cl ct with
  | nil => rfl
  | cons s rest ih =>
    obtain _ | ⟨_, _, _, _, h1, h2, h3⟩ := h
    obtain ⟨a, cl1, e1⟩ := removeKey_of_mem h1
    obtain ⟨b, cl2, e2⟩ := removeKey_of_mem (cl := cl1) (by rw [(removeKey_some e1).2]; exact h2)
    simp only [replayGo, e1, e2]
    split
    · rfl
    · exact ih (by rw [← (removeKey_some e1).2, ← (removeKey_some e2).2] at h3; exact h3)

end

section
variable {α : Type} [LinearOrder α]

theorem replayGo_dist_prefix (d : α) (steps : List (Step α)) (cl : Clusters) (ct : Nat) :
    replayGo (Crit.dist d) steps cl ct = mergeAll (steps.takeWhile fun s => decide (s.dis < d)) cl ct := by
  induction steps generalizing cl ct with
  | nil => rfl
  | cons s rest ih =>
    rw [replayGo, List.takeWhile_cons]
    by_cases hs : s.dis < d
    · simp only [shouldStop, not_le.mpr hs, hs, decide_false, decide_true, Bool.false_eq_true, if_false, if_true,
        mergeAll, ih]
      rfl
    · simp [shouldStop, not_lt.mp hs, hs, mergeAll]

/-- if no merge below `d` follows a merge at or above `d` (weaker than non-decreasing: rounding noise among
the dissimilarities is allowed as long as it does not cross the threshold), the maximal below-threshold prefix
is the set of all below-threshold merges -/
theorem takeWhile_eq_filter_of_closed (d : α) (steps : List (Step α))
    (hm : ∀ pre s post, steps = pre ++ s :: post → d ≤ s.dis → ∀ t ∈ post, d ≤ t.dis) :
    (steps.takeWhile fun s => decide (s.dis < d)) = steps.filter fun s => decide (s.dis < d) := by
  induction steps with
  | nil => rfl
  | cons s rest ih =>
    by_cases hs : s.dis < d
    · simp [hs, ih fun pre s' post he => hm (s :: pre) s' post (by rw [he]; rfl)]
    · have : rest.filter (fun s => decide (s.dis < d)) = [] :=
        List.filter_eq_nil_iff.mpr fun b hb => by simpa using hm [] s rest rfl (not_lt.mp hs) b hb
      simp [hs, this]

theorem takeWhile_eq_filter_of_sorted (d : α) (steps : List (Step α))
    (hm : steps.Pairwise fun a b => a.dis ≤ b.dis) :
    (steps.takeWhile fun s => decide (s.dis < d)) = steps.filter fun s => decide (s.dis < d) := by
  refine takeWhile_eq_filter_of_closed d steps fun pre s post he hs t ht => ?_
  rw [he, List.pairwise_append, List.pairwise_cons] at hm
  exact hs.trans (hm.2.1.1 t ht)

end

/-- inner loop `for id in ids { tmp[id] = v }` -/
def paint (t : List Nat) (ids : List Nat) (v : Nat) : List Nat := ids.foldl (fun t id => t.set id v) t

theorem paint_length (t ids : List Nat) (v : Nat) : (paint t ids v).length = t.length := by
  unfold paint
  induction ids generalizing t with
  | nil => rfl
  | cons x xs ih => simp [List.foldl_cons, ih]

theorem paint_get (t ids : List Nat) (v p : Nat) :
    (paint t ids v)[p]? = if p ∈ ids ∧ p < t.length then some v else t[p]? := by
  unfold paint
  induction ids generalizing t with
  | nil => simp
  | cons x xs ih =>
    rw [List.foldl_cons, ih, List.length_set, List.getElem?_set]
    simp only [List.mem_cons]
    by_cases hx : x = p
    · subst hx
      by_cases hl : x < t.length <;> simp [hl]
    · simp [hx, Ne.symm hx]

/-- `assign n cl` is `assignFrom 0 cl (List.replicate n 0)`: the outer loop from label `k` on -/
def assignFrom (k : Nat) (cl : Clusters) (tmp : List Nat) : List Nat :=
  (cl.zipIdx k).foldl (fun tmp e => e.1.2.foldl (fun t id => t.set id e.2) tmp) tmp

theorem assignFrom_cons (k : Nat) (e : Nat × List Nat) (cl : Clusters) (tmp : List Nat) :
    assignFrom k (e :: cl) tmp = assignFrom (k + 1) cl (paint tmp e.2 k) := by
  simp [assignFrom, List.zipIdx_cons, paint]

theorem assignFrom_length (k : Nat) (cl : Clusters) (tmp : List Nat) :
    (assignFrom k cl tmp).length = tmp.length := by
  induction cl generalizing k tmp with
  | nil => rfl
  | cons e rest ih => rw [assignFrom_cons, ih, paint_length]

theorem assignFrom_not_mem (k : Nat) (cl : Clusters) (tmp : List Nat) (p : Nat) (h : p ∉ members cl) :
    (assignFrom k cl tmp)[p]? = tmp[p]? := by
  induction cl generalizing k tmp with
  | nil => rfl
  | cons e rest ih =>
    rw [members_cons, List.mem_append, not_or] at h
    rw [assignFrom_cons, ih _ _ h.2, paint_get, if_neg fun hh => h.1 hh.1]

theorem assignFrom_mem (k : Nat) (cl : Clusters) (tmp : List Nat) (hn : (members cl).Nodup)
    (j : Nat) (hj : j < cl.length) (p : Nat) (hp : p ∈ cl[j].2) (hl : p < tmp.length) :
    (assignFrom k cl tmp)[p]? = some (k + j) := by
  induction cl generalizing k tmp j with
  | nil => cases hj
  | cons e rest ih =>
    rw [members_cons, List.nodup_append] at hn
    rw [assignFrom_cons]
    cases j with
    | zero =>
      rw [assignFrom_not_mem _ _ _ _ fun hm => hn.2.2 p hp p hm rfl, paint_get, if_pos ⟨hp, hl⟩]
      rfl
    | succ j' =>
      rw [ih (k + 1) _ hn.2.1 j' (Nat.lt_of_succ_lt_succ hj) hp (by rwa [paint_length]), Nat.add_assoc,
        Nat.add_comm 1]

theorem assign_length (n : Nat) (cl : Clusters) : (assign n cl).length = n :=
  (assignFrom_length 0 cl _).trans List.length_replicate

theorem assign_mem {n : Nat} {cl : Clusters} (hn : (members cl).Nodup) {j : Nat} (hj : j < cl.length) {p : Nat}
    (hp : p ∈ cl[j].2) (hl : p < n) : (assign n cl)[p]? = some j :=
  (assignFrom_mem 0 cl _ hn j hj p hp (by rwa [List.length_replicate])).trans (by rw [Nat.zero_add])

theorem sameCl_perm {a b : Clusters} (h : a.Perm b) (i j : Nat) : SameCl a i j ↔ SameCl b i j := by
  simp only [SameCl, h.mem_iff]

theorem sameCl_cons (e : Nat × List Nat) (cl : Clusters) (i j : Nat) :
    SameCl (e :: cl) i j ↔ (i ∈ e.2 ∧ j ∈ e.2) ∨ SameCl cl i j := by
  simp only [SameCl, List.mem_cons, exists_eq_or_imp]

theorem sameCl_trans {cl : Clusters} (hn : (members cl).Nodup) {i j k : Nat}
    (h1 : SameCl cl i j) (h2 : SameCl cl j k) : SameCl cl i k := by
  induction cl with
  | nil => obtain ⟨e, he, _⟩ := h1; cases he
  | cons e rest ih =>
    rw [members_cons, List.nodup_append] at hn
    rw [sameCl_cons] at h1 h2 ⊢
    -- `j` cannot lie both in `e` and in a cluster of `rest`
    obtain ⟨hi, hj⟩ | h1 := h1 <;> obtain ⟨hj', hk⟩ | h2 := h2
    · exact .inl ⟨hi, hk⟩
    · obtain ⟨e2, he2, hj2, _⟩ := h2
      exact absurd rfl (hn.2.2 j hj j (mem_members.mpr ⟨e2, he2, hj2⟩))
    · obtain ⟨e1, he1, _, hj1⟩ := h1
      exact absurd rfl (hn.2.2 j hj' j (mem_members.mpr ⟨e1, he1, hj1⟩))
    · exact .inr (ih hn.2.1 h1 h2)

theorem sameCl_of_merge {k1 k2 ct : Nat} {cl cl2 : Clusters} {a b : List Nat}
    (hp : cl.Perm ((k1, a) :: (k2, b) :: cl2)) {i j : Nat} (h : SameCl ((ct, a ++ b) :: cl2) i j) :
    SameCl cl i j ∨ (i ∈ a ∧ j ∈ b) ∨ (i ∈ b ∧ j ∈ a) := by
  rw [sameCl_perm hp, sameCl_cons, sameCl_cons]
  rw [sameCl_cons, List.mem_append, List.mem_append] at h
  obtain ⟨hi | hi, hj | hj⟩ | h := h
  · exact .inl (.inl ⟨hi, hj⟩)
  · exact .inr (.inl ⟨hi, hj⟩)
  · exact .inr (.inr ⟨hi, hj⟩)
  · exact .inl (.inr (.inl ⟨hi, hj⟩))
  · exact .inl (.inr (.inr h))

theorem Conn.mono {α β : Type} [LT α] [LT β] {D : Nat → Nat → α} {d : α} {D' : Nat → Nat → β} {d' : β} {n : Nat}
    (h : ∀ a b, D a b < d → D' a b < d') {i j : Nat} (hc : Conn D d n i j) : Conn D' d' n i j := by
  induction hc with
  | refl a => exact .refl a
  | edge a b ha hb hlt => exact .edge a b ha hb (h a b hlt)
  | symm _ ih => exact .symm ih
  | trans _ _ ih1 ih2 => exact .trans ih1 ih2

theorem conn_congr {α β : Type} [LT α] [LT β] (D : Nat → Nat → α) (d : α) (D' : Nat → Nat → β) (d' : β) (n : Nat)
    (h : ∀ a b, D a b < d ↔ D' a b < d') (i j : Nat) : Conn D d n i j ↔ Conn D' d' n i j :=
  ⟨Conn.mono fun a b => (h a b).mp, Conn.mono fun a b => (h a b).mpr⟩

section
variable {α : Type} [LinearOrder α]

theorem slok_sep {D : Nat → Nat → α} (hsym : ∀ i j, D i j = D j i) {d : α}
    {steps : List (Step α)} {cl : Clusters} {ct : Nat} (hc : SLOK D steps cl ct)
    (hge : ∀ s ∈ steps, d ≤ s.dis) (i j : Nat) (hi : i ∈ members cl) (hj : j ∈ members cl)
    (hne : ¬ SameCl cl i j) : d ≤ D i j := by
  induction hc with
  | nil cl ct hl =>
    exfalso; apply hne
    obtain ⟨e1, he1, hi1⟩ := mem_members.mp hi
    obtain ⟨e2, he2, hj2⟩ := mem_members.mp hj
    obtain _ | ⟨e, _ | _⟩ := cl
    · cases he1
    · obtain rfl := List.mem_singleton.mp he1
      obtain rfl := List.mem_singleton.mp he2
      exact ⟨_, he1, hi1, hj2⟩
    · exact absurd (Nat.le_of_succ_le_succ hl) (Nat.not_succ_le_zero _)
  | cons s rest cl ct a cl1 b cl2 h1 h2 hex hall _ ih =>
    have hs : d ≤ s.dis := hge s List.mem_cons_self
    have hp := merge_perm h1 h2
    by_cases hsame : SameCl ((ct, a ++ b) :: cl2) i j
    · obtain h | h | h := sameCl_of_merge hp hsame
      · exact absurd h hne
      · exact hs.trans (hall i h.1 j h.2)
      · exact hsym i j ▸ hs.trans (hall j h.2 i h.1)
    · exact ih (fun s' hs' => hge s' (List.mem_cons_of_mem _ hs'))
        ((members_merge hp).mem_iff.mpr hi) ((members_merge hp).mem_iff.mpr hj) hsame

/-- the threshold replay of a single-linkage dendrogram with non-decreasing dissimilarities: samples of one cluster stay
connected in the below-threshold graph (a merge below `d` is witnessed by an edge), and at the end different clusters are at
least `d` apart (the merges not performed are all at or above `d`) -/
theorem replayGo_single {D : Nat → Nat → α} (hsym : ∀ i j, D i j = D j i) {d : α} {n : Nat}
    {steps : List (Step α)} {cl : Clusters} {ct : Nat} (hc : SLOK D steps cl ct)
    (hm : steps.Pairwise fun x y => x.dis ≤ y.dis)
    (hlt : ∀ p ∈ members cl, p < n) (hconn : ∀ i j, SameCl cl i j → Conn D d n i j)
    {cl' : Clusters} (h : replayGo (Crit.dist d) steps cl ct = some cl') :
    (∀ i j, SameCl cl' i j → Conn D d n i j) ∧
    (∀ i j, i ∈ members cl' → j ∈ members cl' → ¬ SameCl cl' i j → d ≤ D i j) := by
  induction hc generalizing cl' with
  | nil cl ct hl =>
    obtain rfl := Option.some.inj h
    exact ⟨hconn, slok_sep hsym (.nil cl ct hl) nofun⟩
  | cons s rest cl ct a cl1 b cl2 h1 h2 hex hall hrest ih =>
    rw [List.pairwise_cons] at hm
    simp only [replayGo, shouldStop, h1, h2] at h
    by_cases hs : d ≤ s.dis
    · obtain rfl := Option.some.inj ((if_pos (decide_eq_true hs)).symm.trans h)
      exact ⟨hconn, slok_sep hsym (.cons s rest cl ct a cl1 b cl2 h1 h2 hex hall hrest)
        (List.forall_mem_cons.mpr ⟨hs, fun s' hs' => hs.trans (hm.1 s' hs')⟩)⟩
    · rw [if_neg (by simpa using hs)] at h
      have hp := merge_perm h1 h2
      have ha : (s.c1, a) ∈ cl := hp.mem_iff.mpr (.head _)
      have hb : (s.c2, b) ∈ cl := hp.mem_iff.mpr (.tail _ (.head _))
      obtain ⟨i0, hi0, j0, hj0, hd⟩ := hex
      have hedge : Conn D d n i0 j0 :=
        .edge i0 j0 (hlt i0 (mem_members.mpr ⟨_, ha, hi0⟩)) (hlt j0 (mem_members.mpr ⟨_, hb, hj0⟩))
          (hd ▸ not_le.mp hs)
      refine ih hm.2 (fun p hpm => hlt p ((members_merge hp).mem_iff.mp hpm)) (fun i j hij => ?_) h
      obtain h | h | h := sameCl_of_merge hp hij
      · exact hconn i j h
      · exact ((hconn i i0 ⟨_, ha, h.1, hi0⟩).trans hedge).trans (hconn j0 j ⟨_, hb, hj0, h.2⟩)
      · exact ((hconn i j0 ⟨_, hb, h.1, hj0⟩).trans hedge.symm).trans (hconn i0 j ⟨_, ha, hi0, h.2⟩)

end

end LinfaSpec.Hier
