import LinfaSpec.Gen.Vectors
import LinfaSpec.Model.Metrics
import Mathlib.Algebra.Order.Field.Basic
import Mathlib.Tactic.Linarith

/-!
# C05 — obligations about the regression metrics GENERATED from the Rust source

`LinfaSpec.Gen.Vectors.Reg` / `RegMulti` are regenerated from `src/metrics_regression.rs` on every
check by `tools/vec2lean.py` (the default methods of `SingleTargetRegression` and
`MultiTargetRegression`, read as list programs).  The theorems below state that the generated text
IS the hand-written model the C05 theorems are about (`Metrics.maxError`, `meanAbsError`, … in
`Model/Metrics.lean`), so `Props/C05.lean` speaks about what the source says now; a change of a
formula, of the receiver / argument roles or of the per-column pairing breaks one of them.
-/
-- every generated definition takes the whole instance list of `Gen/Vectors.lean`, the ties use part of it
set_option linter.unusedSectionVars false
namespace LinfaSpec.Props.GenC05
open LinfaSpec LinfaSpec.Metrics LinfaSpec.Gen.Vectors

section generic
variable {α : Type} [Add α] [Sub α] [Mul α] [Div α] [Neg α] [LT α] [DecidableLT α] [LE α] [DecidableLE α]
  [DecidableEq α] [OfNat α 0] [OfNat α 1] [OfNat α 2] [NatCast α] [OfScientific α] [Transc α]

/-- the translator's reading of `mean()` is the model's -/
theorem vmean_is_model (l : List α) : vmean l = meanS l := rfl

/-- the translator's reading of `sort_by(partial_cmp)` is the model's -/
theorem vsort_is_model (l : List α) : vsort l = sortAsc l := by
  unfold vsort sortAsc
  have h : ∀ (x : α) (l : List α), vinsert x l = insertAsc x l := by
    intro x l; induction l with
    | nil => rfl
    | cons y ys ih => simp [vinsert, insertAsc, ih]
  induction l with
  | nil => rfl
  | cons x xs ih => simp [List.foldr, ih, h]

/-- `mean_absolute_error` in the source is `Metrics.meanAbsError` (self = first argument) -/
theorem mean_absolute_error_is_model (a b : List α) : Reg.mean_absolute_error a b = meanAbsError a b := rfl

theorem mean_squared_error_is_model (a b : List α) : Reg.mean_squared_error a b = meanSqError a b := rfl

theorem mean_squared_log_error_is_model (a b : List α) :
    Reg.mean_squared_log_error a b = meanSqLogError a b := rfl

/-- MAPE divides by the RECEIVER (`self`), as the model says -/
theorem mean_absolute_percentage_error_is_model (a b : List α) :
    Reg.mean_absolute_percentage_error a b = mape a b := rfl

/-- `r2` with the literal `1e-10` of the source as the model's `tiny` -/
theorem r2_is_model (a b : List α) : Reg.r2 a b = r2 (1e-10 : α) a b := by
  unfold Reg.r2 Metrics.r2
  show ((meanS b).bind _) = _
  cases meanS b <;> rfl

/-- `explained_variance` as coded (the open finding C05-explained-variance-mean-error is about this text) -/
theorem explained_variance_is_model (a b : List α) :
    Reg.explained_variance a b = explainedVariance (1e-10 : α) a b := by
  unfold Reg.explained_variance Metrics.explainedVariance
  show ((meanS b).bind _) = _
  cases meanS b with
  | none => rfl
  | some m =>
    show ((meanS (subL a b)).bind _) = _
    cases meanS (subL a b) <;> rfl

/-- multi-target forms apply the single-target metric column by column, receiver column first, and
return the first error -/
theorem multi_is_columnwise (ninf : α) (a b : List (List α)) :
    RegMulti.max_error ninf a b = (List.zip a b).mapM (fun p => Reg.max_error ninf p.1 p.2) ∧
    RegMulti.mean_absolute_error a b = (List.zip a b).mapM (fun p => Reg.mean_absolute_error p.1 p.2) ∧
    RegMulti.mean_squared_error a b = (List.zip a b).mapM (fun p => Reg.mean_squared_error p.1 p.2) ∧
    RegMulti.mean_squared_log_error a b = (List.zip a b).mapM (fun p => Reg.mean_squared_log_error p.1 p.2) ∧
    RegMulti.median_absolute_error a b = (List.zip a b).mapM (fun p => Reg.median_absolute_error p.1 p.2) ∧
    RegMulti.mean_absolute_percentage_error a b = (List.zip a b).mapM (fun p => Reg.mean_absolute_percentage_error p.1 p.2) ∧
    RegMulti.r2 a b = (List.zip a b).mapM (fun p => Reg.r2 p.1 p.2) ∧
    RegMulti.explained_variance a b = (List.zip a b).mapM (fun p => Reg.explained_variance p.1 p.2) := by
  have key : ∀ {β : Type} (f : List α × List α → Option β),
      List.mapM id ((List.zip a b).map f) = (List.zip a b).mapM f := fun f => by
    rw [List.mapM_map]; rfl
  exact ⟨key _, key _, key _, key _, key _, key _, key _, key _⟩

end generic

section field
variable {α : Type} [Field α] [LinearOrder α] [IsStrictOrderedRing α] [Transc α]

theorem median_aux (s : List α) :
    (if decide (s.length % 2 = 0) = true then
        (s[s.length / 2 - 1]?).bind fun x1 => (s[s.length / 2]?).bind fun x2 => some ((x1 + x2) / (((2 : Nat)) : α))
      else (s[s.length / 2]?).bind fun x3 => some x3) =
    (if s.length % 2 = 0 then
        match s[s.length / 2 - 1]?, s[s.length / 2]? with
        | some x, some y => some ((x + y) / 2)
        | _, _ => none
      else s[s.length / 2]?) := by
  have h2 : (((2 : Nat)) : α) = 2 := Nat.cast_ofNat
  by_cases h : s.length % 2 = 0
  · simp only [h, decide_true, if_true, h2]
    cases s[s.length / 2 - 1]? <;> cases s[s.length / 2]? <;> rfl
  · simp only [h, decide_false, if_false]
    cases s[s.length / 2]? <;> rfl

/-- `median_absolute_error` (the literal `2.0` is the field's 2) -/
theorem median_absolute_error_is_model (a b : List α) :
    Reg.median_absolute_error a b = medianAbsError a b := by
  have hs : vsort (List.map (fun x => absS x) (List.zipWith (· - ·) a b)) = sortAsc ((subL a b).map absS) :=
    vsort_is_model _
  unfold Reg.median_absolute_error medianAbsError
  simp only [hs]
  exact median_aux _

theorem foldl_maxS_of_le (m : α) (l : List α) (x : α) (hx : m ≤ x) :
    List.foldl maxS m (x :: l) = List.foldl maxS x l := by
  simp only [List.foldl]
  congr 1
  unfold maxS
  split
  · rfl
  · exact le_antisymm hx (not_lt.mp ‹_›)

/-- `max_error`: `fold(-inf, max)` over the absolute differences.  With any start value below zero
(`F::neg_infinity()` is one) the source returns the model's maximum, and the start value itself on
empty input (where the model says `none`). -/
theorem max_error_is_model (ninf : α) (h : ninf < 0) (a b : List α) :
    Reg.max_error ninf a b = some ((maxError a b).getD ninf) := by
  have hnn : ∀ x ∈ (subL a b).map absS, ninf ≤ x := by
    intro x hx
    obtain ⟨y, -, rfl⟩ := List.mem_map.mp hx
    unfold absS
    split
    · rename_i hy; exact le_of_lt (lt_trans h (neg_pos.mpr hy))
    · rename_i hy; exact le_trans (le_of_lt h) (not_lt.mp hy)
  unfold Reg.max_error maxError
  show some (List.foldl maxS ninf ((subL a b).map absS)) = _
  generalize (subL a b).map absS = l at hnn
  cases l with
  | nil => rfl
  | cons x xs => rw [foldl_maxS_of_le ninf xs x (hnn x List.mem_cons_self)]; rfl

end field

/-- the hypotheses are satisfiable and the statements non-trivial on a concrete input -/
example : Reg.max_error (-1 : Rat) [3, 1] [1, 4] = some 3 ∧ Reg.r2 ([1, 2] : List Rat) [1, 3] ≠ none := by
  refine ⟨by decide +kernel, by decide +kernel⟩

end LinfaSpec.Props.GenC05
