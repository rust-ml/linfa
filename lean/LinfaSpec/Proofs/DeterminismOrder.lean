import LinfaSpec.Proofs.Determinism
import Mathlib.Data.Prod.Lex
import Mathlib.Order.MinMax
import Mathlib.Data.List.Nodup

/-!
Facts for C20 that need order theory (single Mathlib modules): the decision-tree modal class is the
maximum of a linear order on (frequency, reversed label); sorting by a key that is injective on the
entries does not see the order its input arrives in.
-/
namespace LinfaSpec.Determinism
open List

section Pick
variable {α K : Type} [LinearOrder K] (rank : α → K)

/-- the entry of larger rank; the later one on equal rank -/
def pickMax (b e : α) : α := if rank e < rank b then b else e

theorem rank_pickMax (b e : α) : rank (pickMax rank b e) = max (rank b) (rank e) := by
  unfold pickMax
  split
  next h => rw [max_eq_left h.le]
  next h => rw [max_eq_right (not_lt.mp h)]

/-- folding `pickMax` returns a member of maximal rank -/
theorem foldl_pickMax (b : α) (m : List α) :
    m.foldl (pickMax rank) b ∈ b :: m ∧ ∀ x ∈ b :: m, rank x ≤ rank (m.foldl (pickMax rank) b) := by
  induction m generalizing b with
  | nil => exact ⟨.head _, fun x hx => List.mem_singleton.mp hx ▸ le_rfl⟩
  | cons a as ih =>
    obtain ⟨hmem, hmax⟩ := ih (pickMax rank b a)
    have hp := rank_pickMax rank b a ▸ hmax _ (.head _)
    constructor
    · rcases List.mem_cons.mp hmem with h | h
      · rw [List.foldl_cons, h]; unfold pickMax; split
        · exact .head _
        · exact .tail _ (.head _)
      · exact .tail _ (.tail _ h)
    · intro x hx
      rcases List.mem_cons.mp hx with rfl | hx
      · exact (le_max_left _ _).trans hp
      · rcases List.mem_cons.mp hx with rfl | hx
        · exact (le_max_right _ _).trans hp
        · exact hmax x (.tail _ hx)

variable {rank} (hinj : Function.Injective rank)
include hinj

/-! Under an injective rank `pickMax` is `max` transported back, hence commutative and
associative. -/

theorem pickMax_right_comm (b x y : α) :
    pickMax rank (pickMax rank b x) y = pickMax rank (pickMax rank b y) x :=
  hinj (by simp only [rank_pickMax, max_right_comm])

theorem pickMax_comm (x y : α) : pickMax rank x y = pickMax rank y x :=
  hinj (by simp only [rank_pickMax, max_comm])

end Pick

section Modal
variable {κ ν : Type}

/-- larger frequency first, then smaller label -/
def modalRank (e : κ × ν) : Lex (ν × κᵒᵈ) := toLex (e.2, OrderDual.toDual e.1)

theorem modalRank_injective : Function.Injective (modalRank (κ := κ) (ν := ν)) :=
  fun _ _ h => Prod.ext (congrArg (·.2) h) (congrArg (·.1) h)

variable [LinearOrder κ] [LinearOrder ν]

/-- the fold keeps its accumulator exactly when the new entry ranks lower -/
theorem modal_keep_iff (b e : κ × ν) :
    (e.2 < b.2 ∨ (¬ b.2 < e.2 ∧ b.1 < e.1)) ↔ modalRank e < modalRank b := by
  unfold modalRank
  -- under `¬ e.2 < b.2`, `¬ b.2 < e.2` says `e.2 = b.2`
  rw [Prod.Lex.toLex_lt_toLex, not_lt, le_iff_lt_or_eq, or_and_right, ← or_assoc,
    or_iff_left_of_imp And.left]
  rfl

theorem modalStep_some (b e : κ × ν) : modalStep (some b) e = some (pickMax modalRank b e) := by
  simp only [modalStep, pickMax, modal_keep_iff, apply_ite some]

theorem modalStep_right_comm (z : Option (κ × ν)) (x y : κ × ν) :
    modalStep (modalStep z x) y = modalStep (modalStep z y) x := by
  cases z with
  | none =>
    show modalStep (some x) y = modalStep (some y) x
    simp only [modalStep_some, pickMax_comm modalRank_injective x y]
  | some b => simp only [modalStep_some, pickMax_right_comm modalRank_injective b x y]

theorem foldl_modalStep_some (b : κ × ν) (m : List (κ × ν)) :
    m.foldl modalStep (some b) = some (m.foldl (pickMax modalRank) b) := by
  induction m generalizing b with
  | nil => rfl
  | cons a as ih => simp only [List.foldl_cons, modalStep_some, ih]

end Modal

/-- Sorting with a comparison that is antisymmetric on the entries present gives the same list for
every order of the input: two sorted permutations of each other are equal. -/
theorem mergeSort_perm_invariant {α} (le : α → α → Bool)
    (trans : ∀ a b c, le a b → le b c → le a c) (total : ∀ a b, le a b || le b a)
    {l₁ l₂ : List α} (p : l₁ ~ l₂)
    (antisymm : ∀ a b, a ∈ l₁ → b ∈ l₁ → le a b → le b a → a = b) :
    l₁.mergeSort le = l₂.mergeSort le :=
  ((List.mergeSort_perm l₁ le).trans (p.trans (List.mergeSort_perm l₂ le).symm)).eq_of_pairwise
    (fun a b ha hb => antisymm a b ((List.mergeSort_perm l₁ le).subset ha)
      (p.symm.subset ((List.mergeSort_perm l₂ le).subset hb)))
    (List.pairwise_mergeSort trans total l₁) (List.pairwise_mergeSort trans total l₂)

section Key
variable {α K : Type} [LinearOrder K] {key : α → K} {le : α → α → Bool}
  (hle : ∀ a b, le a b = true ↔ key a ≤ key b)
include hle

/-! A comparison that decides `key a ≤ key b` for a key into a linear order is transitive and
total, and antisymmetric wherever `key` is injective. -/

theorem le_trans_of_key (a b c : α)
    (hab : le a b = true) (hbc : le b c = true) : le a c = true :=
  (hle a c).mpr (((hle a b).mp hab).trans ((hle b c).mp hbc))

theorem le_total_of_key (a b : α) : (le a b || le b a) = true := by
  rw [Bool.or_eq_true, hle, hle]
  exact le_total _ _

/-- such a comparison sorts by `key` -/
theorem pairwise_mergeSort_of_key (l : List α) :
    (l.mergeSort le).Pairwise fun a b => key a ≤ key b :=
  (List.pairwise_mergeSort (le_trans_of_key hle) (le_total_of_key hle) l).imp (hle _ _).mp

theorem mergeSort_perm_of_key {l₁ l₂ : List α} (p : l₁ ~ l₂) (hinj : ∀ a ∈ l₁, ∀ b ∈ l₁, key a = key b → a = b) :
    l₁.mergeSort le = l₂.mergeSort le :=
  mergeSort_perm_invariant le (le_trans_of_key hle) (le_total_of_key hle) p
    fun a b ha hb hab hba => hinj a ha b hb (le_antisymm ((hle a b).mp hab) ((hle b a).mp hba))

end Key

section Sorting
variable {κ : Type} [LinearOrder κ]

theorem sortByKey_perm {ν} {m₁ m₂ : List (κ × ν)} (p : m₁ ~ m₂) (hnd : (m₁.map Prod.fst).Nodup) :
    sortByKey m₁ = sortByKey m₂ :=
  mergeSort_perm_of_key (key := Prod.fst) (fun _ _ => decide_eq_true_iff.trans not_lt) p
    (List.inj_on_of_nodup_map hnd)

theorem sortLabels_perm {l₁ l₂ : List κ} (p : l₁ ~ l₂) : sortLabels l₁ = sortLabels l₂ :=
  mergeSort_perm_of_key (key := id) (fun _ _ => decide_eq_true_iff.trans not_lt) p
    (fun _ _ _ _ h => h)

/-- Evaluating the sorts on concrete lists (`List.mergeSort` is defined by well-founded recursion and
does not reduce in the kernel): any sorted permutation is the result. -/
theorem sortByKey_eq {ν} {m s : List (κ × ν)} (p : m ~ s) (hnd : (m.map Prod.fst).Nodup)
    (hs : s.Pairwise fun a b => decide (¬ b.1 < a.1) = true) : sortByKey m = s :=
  (sortByKey_perm p hnd).trans (List.mergeSort_of_pairwise hs)

theorem sortLabels_eq {l s : List κ} (p : l ~ s)
    (hs : s.Pairwise fun a b => decide (¬ b < a) = true) : sortLabels l = s :=
  (sortLabels_perm p).trans (List.mergeSort_of_pairwise hs)

end Sorting

theorem sortClusters_perm {c₁ c₂ : List (Nat × List Nat)} (p : c₁ ~ c₂)
    (hnd : (c₁.map fun c => minKey c.2).Nodup) : sortClusters c₁ = sortClusters c₂ :=
  mergeSort_perm_of_key (key := fun c : Nat × List Nat => minKey c.2)
    (fun _ _ => decide_eq_true_iff) p (List.inj_on_of_nodup_map hnd)

/-- the same for the cluster sort -/
theorem sortClusters_eq {c s : List (Nat × List Nat)} (p : c ~ s)
    (hnd : (c.map fun c => minKey c.2).Nodup)
    (hs : s.Pairwise fun a b => decide (minKey a.2 ≤ minKey b.2) = true) : sortClusters c = s :=
  (sortClusters_perm p hnd).trans (List.mergeSort_of_pairwise hs)

end LinfaSpec.Determinism
