import LinfaSpec.Proofs.LeastSquares
import LinfaSpec.Proofs.LeastSquaresMtl
import Mathlib.Algebra.Order.Field.Rat

/-!
# C11 — least-squares estimators return a minimiser of their documented objective

Certificate-style theorems about `LinfaSpec.LeastSquares` (the model of linfa-elasticnet's
`coordinate_descent`, `duality_gap`, `fit`, and of the documented objective), over any ordered
field; from "multi-task" on, the same for `block_coordinate_descent`, `duality_gap_mtl` and the multi-task `fit`,
over ℝ because the group norm needs `sqrt`.  A design matrix is a list of columns `C`, each as long as the target `y`.
`objective C y w b l1r pen n` is `n` times the documented objective
`1/(2n)‖y − Xw − b‖² + pen·(l1r‖w‖₁ + (1−l1r)/2‖w‖²)`; the solver's duality gap is on that scale.
Hypotheses are the code's guards: `0 ≤ l1_ratio ≤ 1`, `penalty ≥ 0` (`ParamGuard`), `n = nrows ≥ 0`.
An `example` stating `True` or `0 ≤ 0` applies the theorem above it to a concrete run: it shows that the hypotheses can be met.
-/
namespace LinfaSpec.Props.C11
open LinfaSpec LinfaSpec.LeastSquares

variable {α : Type} [Field α] [LinearOrder α] [IsStrictOrderedRing α]

/-- **The duality gap computed by `duality_gap` bounds the suboptimality**: for the running
residual `r = y − Xw`, *no* coefficient vector `w'` lowers the objective by more than the gap —
both branches of the code (`‖Xᵀr − l2·w‖_∞ > l1` with the rescaled dual point, and the plain one). -/
theorem gap_bounds_suboptimality (contig : Bool) (C : List (List α)) (y w w' : List α) (l1r pen n : α)
    (hC : ∀ c ∈ C, c.length = y.length) (hw : w.length = C.length) (hw' : w'.length = C.length)
    (h0 : 0 ≤ l1r) (h1 : l1r ≤ 1) (hpen : 0 ≤ pen) (hn : 0 ≤ n) :
    objective C y w 0 l1r pen n - objective C y w' 0 l1r pen n
      ≤ dualityGap contig C y w (residual C y w 0) l1r pen n := by
  have hl1 : 0 ≤ l1r * pen * n := mul_nonneg (mul_nonneg h0 hpen) hn
  have hl2 : 0 ≤ (1 - l1r) * pen * n := mul_nonneg (mul_nonneg (sub_nonneg.mpr h1) hpen) hn
  rw [objective_eq, objective_eq, dualityGap_eq]
  exact le_gapValue _ _ _ _ _ _ hl1 (normMax_nonneg _) fun c hc hcd =>
    weak_duality C y w w' _ _ _ c _ hC hw hw' (residual_length C y w 0 hC) hl2 hc hcd (normMax_nonneg _)
      (le_normMax _)

example : objective (α := ℚ) [[1, 2, 3]] [-1, 0, 1] [1 / 7] 0 (1 / 2) 1 3
      - objective [[1, 2, 3]] [-1, 0, 1] [1 / 9] 0 (1 / 2) 1 3
    ≤ dualityGap false [[1, 2, 3]] [-1, 0, 1] [1 / 7] (residual [[1, 2, 3]] [-1, 0, 1] [1 / 7] 0) (1 / 2) 1 3 :=
  gap_bounds_suboptimality false _ _ _ _ _ _ _ (by decide) (by decide) (by decide) (by norm_num) (by norm_num)
    (by norm_num) (by norm_num)

/-- the reported gap is **non-negative** (take `w' = w`) -/
theorem gap_nonneg (contig : Bool) (C : List (List α)) (y w : List α) (l1r pen n : α)
    (hC : ∀ c ∈ C, c.length = y.length) (hw : w.length = C.length)
    (h0 : 0 ≤ l1r) (h1 : l1r ≤ 1) (hpen : 0 ≤ pen) (hn : 0 ≤ n) :
    0 ≤ dualityGap contig C y w (residual C y w 0) l1r pen n := by
  have := gap_bounds_suboptimality contig C y w w l1r pen n hC hw hw h0 h1 hpen hn
  rwa [sub_self] at this

example : 0 ≤ dualityGap (α := ℚ) true [[1, -1]] [2, 0] [1] (residual [[1, -1]] [2, 0] [1] 0) 1 (1 / 4) 2 :=
  gap_nonneg true _ _ _ _ _ _ (by decide) (by decide) (by norm_num) (by norm_num) (by norm_num) (by norm_num)

/-- **Intercept**: for fixed coefficients the squared error is minimal in the intercept *iff* the
intercept is the mean residual `mean(y − Xw)` (so a returned pair whose residual does not have
zero mean is not a joint minimiser — what the oracle clause `intercept_jointly_optimal` tests). -/
theorem intercept_optimal_iff_mean (C : List (List α)) (y w : List α) (b : α)
    (hC : ∀ c ∈ C, c.length = y.length) (hn : 0 < y.length) :
    (∀ b', sse C y w b ≤ sse C y w b') ↔ b = sumS (residual C y w 0) / (y.length : α) := by
  simp only [sse, dotS_eq, sumS_eq_sum]
  rw [← parabola_min_iff (dot (residual C y w 0) (residual C y w 0)) _ _ b (Nat.cast_pos.mpr hn)]
  exact forall_congr' fun b' => by rw [sq_residual_intercept C y w b hC, sq_residual_intercept C y w b' hC]

example : (∀ b', sse (α := ℚ) [[1, 2, 3]] [1, 2, 4] [1] (1 / 3) ≤ sse [[1, 2, 3]] [1, 2, 4] [1] b') :=
  (intercept_optimal_iff_mean _ _ _ _ (by decide) (by decide)).mpr (by decide +kernel)

/-- **OLS certificate**: if the residual of `(w, b)` is orthogonal to every feature column and to the
constant column, no `(w', b')` has a smaller sum of squared errors. -/
theorem normal_eq_optimal (C : List (List α)) (y w w' : List α) (b b' : α)
    (hC : ∀ c ∈ C, c.length = y.length) (hw : w.length = C.length) (hw' : w'.length = C.length)
    (horth : ∀ c ∈ C, dotS c (residual C y w b) = 0) (hone : sumS (residual C y w b) = 0) :
    sse C y w b ≤ sse C y w' b' := by
  simp only [sse, dotS_eq, sumS_eq_sum] at *
  have := sq_residual_le_of_orth C y w w' b b' hC horth
  rwa [hone, mul_zero, add_zero] at this

example : sse (α := ℚ) [[0, 1, 2]] [0, 0, 2] [1] (-1 / 3) ≤ sse [[0, 1, 2]] [0, 0, 2] [2] 5 :=
  normal_eq_optimal _ _ _ _ _ _ (by decide) (by decide) (by decide) (by decide +kernel) (by decide +kernel)

/-- OLS without intercept: orthogonality to the feature columns suffices against every `w'` -/
theorem normal_eq_optimal_no_intercept (C : List (List α)) (y w w' : List α)
    (hC : ∀ c ∈ C, c.length = y.length) (hw : w.length = C.length) (hw' : w'.length = C.length)
    (horth : ∀ c ∈ C, dotS c (residual C y w 0) = 0) :
    sse C y w 0 ≤ sse C y w' 0 := by
  simp only [sse, dotS_eq] at *
  have := sq_residual_le_of_orth C y w w' 0 0 hC horth
  rwa [sub_self, mul_zero, zero_mul, add_zero] at this

example : sse (α := ℚ) [[-1, 1]] [1, 1] [0] 0 ≤ sse [[-1, 1]] [1, 1] [3] 0 :=
  normal_eq_optimal_no_intercept _ _ _ _ (by decide) (by decide) (by decide) (by decide +kernel)

/-- **The coordinate update is the exact one-dimensional minimiser** of
`z ↦ ½·den·z² − tmp·z + thr·|z|` (`den = ‖x_j‖² + n(1−ρ)pen > 0`, `thr = nρ·pen ≥ 0`, `tmp = x_jᵀr_j`),
which is the objective restricted to coordinate `j` up to a constant. -/
theorem soft_is_argmin (tmp thr den z : α) (hthr : 0 ≤ thr) (hden : 0 < den) :
    1 / 2 * den * (softThreshold tmp thr den) ^ 2 - tmp * softThreshold tmp thr den
        + thr * |softThreshold tmp thr den|
      ≤ 1 / 2 * den * z ^ 2 - tmp * z + thr * |z| :=
  soft_threshold_argmin tmp thr den z hthr hden

example : (1 : ℚ) / 2 * 2 * (softThreshold 3 1 2) ^ 2 - 3 * softThreshold 3 1 2 + 1 * |softThreshold (3 : ℚ) 1 2|
    ≤ 1 / 2 * 2 * 5 ^ 2 - 3 * 5 + 1 * |5| := soft_is_argmin 3 1 2 5 (by norm_num) (by norm_num)

/-- **Coefficients under the l1 threshold are exactly zero**: `|x_jᵀ r_j| ≤ n·ρ·pen` makes the
update `0` (no division residue, whatever the denominator). -/
theorem zero_below_threshold (tmp thr den : α) (h : |tmp| ≤ thr) : softThreshold tmp thr den = 0 :=
  soft_threshold_zero tmp thr den h

example : softThreshold (-(1 : ℚ) / 2) 1 3 = 0 := zero_below_threshold _ _ _ (by norm_num [abs_le])

/-- the same inside the loop body: after `cdCoord` on a column that is not skipped, coordinate `j`
is exactly `0` whenever the correlation with the partial residual is under the threshold -/
theorem cdCoord_zero_below_threshold (contig : Bool) (thr denAdd : α) (st : CdState α) (j : Nat)
    (cj : List α) (nrm : α) (hj : j < st.w.length) (hn : ¬ absS nrm ≤ 0)
    (h : |dotC contig cj (if absS (st.w.getD j 0) ≤ 0 then st.r else axpy (st.w.getD j 0) cj st.r)| ≤ thr) :
    (cdCoord contig thr denAdd st j cj nrm).w.getD j 0 = 0 := by
  unfold cdCoord
  rw [if_neg hn]
  dsimp only
  rw [soft_threshold_zero _ _ _ h]
  simp [hj]

example : (cdCoord (α := ℚ) false 5 0 { w := [1], r := [0, 0], wMax := 0, dwMax := 0 } 0 [1, 1] 2).w.getD 0 0 = 0 :=
  cdCoord_zero_below_threshold false 5 0 _ 0 [1, 1] 2 (by decide) (by decide +kernel) (by decide +kernel)

/-- inside the loop body of `coordinate_descent`: the coefficient written by `cdCoord` for a column that is not skipped
is the exact minimiser of the objective restricted to coordinate `j` (`½·den·z² − tmp·z + thr·|z|`, `tmp` the
correlation of the column with the partial residual, `den = ‖x_j‖² + n(1−ρ)pen > 0`) -/
theorem cdCoord_is_coordinate_argmin (contig : Bool) (thr denAdd : α) (st : CdState α) (j : Nat) (cj : List α)
    (nrm z : α) (hj : j < st.w.length) (hn : ¬ absS nrm ≤ 0) (hthr : 0 ≤ thr) (hden : 0 < nrm + denAdd) :
    let tmp := dotC contig cj (if absS (st.w.getD j 0) ≤ 0 then st.r else axpy (st.w.getD j 0) cj st.r)
    let new := (cdCoord contig thr denAdd st j cj nrm).w.getD j 0
    1 / 2 * (nrm + denAdd) * new ^ 2 - tmp * new + thr * |new|
      ≤ 1 / 2 * (nrm + denAdd) * z ^ 2 - tmp * z + thr * |z| := by
  intro tmp new
  have hnew : new = softThreshold tmp thr (nrm + denAdd) := by
    simp only [new, tmp]
    unfold cdCoord
    rw [if_neg hn]
    simp [hj]
  rw [hnew]
  exact soft_is_argmin tmp thr (nrm + denAdd) z hthr hden

example : True := by
  have := cdCoord_is_coordinate_argmin (α := ℚ) false 1 0 { w := [1], r := [0, 0], wMax := 0, dwMax := 0 } 0 [1, 1] 2 5
    (by decide) (by decide +kernel) (by norm_num) (by norm_num)
  trivial

/-! ### the optimality (KKT) conditions of the documented objective

For `P(w) = ½‖y − Xw‖² + l1‖w‖₁ + ½·l2‖w‖²` (`l1 = n·ρ·pen`, `l2 = n(1−ρ)pen`) the conditions are, per feature `j`
with `g_j = x_jᵀr − l2·w_j` and `r = y − Xw`:  `|g_j| ≤ l1`  and  `w_j·g_j = l1·|w_j|` (i.e. `g_j = l1·sign w_j`
wherever `w_j ≠ 0`).  For ridge / the unpenalised problem (`l1 = 0`) they read `Xᵀr = l2·w`: the normal equations.
This is the one case in which the gap formula of `duality_gap` is informative for `l1 = 0` (otherwise its scaling
constant is `0` and the reported gap is `P(w)`), and it ties the statement's "satisfies the optimality (KKT)
conditions" to the gap certificate for every `l1`. -/

/-- **at a KKT point the gap computed by `duality_gap` is exactly zero** -/
theorem kkt_gap_zero (contig : Bool) (C : List (List α)) (y w : List α) (l1r pen n : α)
    (hC : ∀ c ∈ C, c.length = y.length) (hw : w.length = C.length)
    (h0 : 0 ≤ l1r) (hpen : 0 ≤ pen) (hn : 0 ≤ n)
    (hkkt : ∀ p ∈ List.zip C w,
      |dotS p.1 (residual C y w 0) - p.2 * ((1 - l1r) * pen * n)| ≤ l1r * pen * n ∧
      p.2 * (dotS p.1 (residual C y w 0) - p.2 * ((1 - l1r) * pen * n)) = l1r * pen * n * |p.2|) :
    dualityGap contig C y w (residual C y w 0) l1r pen n = 0 := by
  have hl1 : 0 ≤ l1r * pen * n := mul_nonneg (mul_nonneg h0 hpen) hn
  simp only [dotS_eq] at hkkt
  rw [dualityGap_eq]
  generalize l1r * pen * n = l1 at hl1 hkkt ⊢
  generalize (1 - l1r) * pen * n = l2 at hkkt ⊢
  -- complementary slackness turns `‖r‖²` into `r·y − l1‖w‖₁ − l2‖w‖²`
  have hry := dot_residual C y w (residual C y w 0) 0 hC (residual_length C y w 0 hC)
  rw [kkt_sum C _ w l1 l2 hw fun p hp => (hkkt p hp).2] at hry
  rw [gapValue_of_le _ _ _ _ _
    (normMax_le _ l1 hl1 (forall_mem_zipWith _ (fun x => |x| ≤ l1) C w fun p hp => (hkkt p hp).1))]
  linear_combination hry

/-- **a KKT point is a minimiser of the documented objective** (over all coefficient vectors) -/
theorem kkt_implies_optimal (C : List (List α)) (y w w' : List α) (l1r pen n : α)
    (hC : ∀ c ∈ C, c.length = y.length) (hw : w.length = C.length) (hw' : w'.length = C.length)
    (h0 : 0 ≤ l1r) (h1 : l1r ≤ 1) (hpen : 0 ≤ pen) (hn : 0 ≤ n)
    (hkkt : ∀ p ∈ List.zip C w,
      |dotS p.1 (residual C y w 0) - p.2 * ((1 - l1r) * pen * n)| ≤ l1r * pen * n ∧
      p.2 * (dotS p.1 (residual C y w 0) - p.2 * ((1 - l1r) * pen * n)) = l1r * pen * n * |p.2|) :
    objective C y w 0 l1r pen n ≤ objective C y w' 0 l1r pen n := by
  have hb := gap_bounds_suboptimality false C y w w' l1r pen n hC hw hw' h0 h1 hpen hn
  rw [kkt_gap_zero false C y w l1r pen n hC hw h0 hpen hn hkkt] at hb
  linarith

/-- lasso on an orthonormal design: `w = soft(y, 1) = (2, 0)` satisfies the conditions (active and inactive feature) -/
example : objective (α := ℚ) [[1, 0], [0, 1]] [3, 1 / 2] [2, 0] 0 1 (1 / 2) 2
    ≤ objective [[1, 0], [0, 1]] [3, 1 / 2] [5, -1] 0 1 (1 / 2) 2 :=
  kkt_implies_optimal _ _ _ _ _ _ _ (by decide) (by decide) (by decide) (by norm_num) (by norm_num) (by norm_num)
    (by norm_num) (by decide +kernel)

/-- **ridge / unpenalised (`l1_ratio = 0`): the normal equations `Xᵀ(y − Xw) = l2·w` certify the minimiser**
(there the reported gap is `P(w)` unless this holds exactly) -/
theorem ridge_normal_equations_optimal (C : List (List α)) (y w w' : List α) (pen n : α)
    (hC : ∀ c ∈ C, c.length = y.length) (hw : w.length = C.length) (hw' : w'.length = C.length)
    (hpen : 0 ≤ pen) (hn : 0 ≤ n)
    (hne : ∀ p ∈ List.zip C w, dotS p.1 (residual C y w 0) = p.2 * (pen * n)) :
    objective C y w 0 0 pen n ≤ objective C y w' 0 0 pen n := by
  apply kkt_implies_optimal C y w w' 0 pen n hC hw hw' (le_refl _) zero_le_one hpen hn
  intro p hp
  have := hne p hp
  simp only [sub_zero, one_mul, zero_mul, this, sub_self, abs_zero, le_refl, mul_zero, and_self]

example : objective (α := ℚ) [[1, 0], [0, 1]] [3, 1] [1, 1 / 3] 0 0 1 2
    ≤ objective [[1, 0], [0, 1]] [3, 1] [2, 2] 0 0 1 2 :=
  ridge_normal_equations_optimal _ _ _ _ _ _ (by decide) (by decide) (by decide) (by norm_num) (by norm_num)
    (by decide +kernel)

/-! ### jointly in the intercept

Full statement of the property (kept for reference, **false** of model and code, see the witness):
  `∀ C y w' b', let (b, w, gap, _) := fitEnet … C y … true;`
  `objective C y w b … − objective C y w' b' … ≤ gap`   (whenever the loop stopped on `gap < tol‖y‖²`).
`fit` takes `b = mean y` and never centres the columns.  Proved: the statement under the extra
hypothesis that every column has zero sum (`_partial`); the negation on a concrete un-centred input. -/

/-- on **centred** columns the pair `(w, mean y)` computed by `fit` is within the duality gap of *every*
`(w', b')` — jointly in coefficients and intercept -/
theorem fit_joint_optimal_centred_partial (contig : Bool) (C : List (List α)) (y w w' : List α)
    (b' l1r pen n : α) (hC : ∀ c ∈ C, c.length = y.length) (hw : w.length = C.length)
    (hw' : w'.length = C.length) (h0 : 0 ≤ l1r) (h1 : l1r ≤ 1) (hpen : 0 ≤ pen) (hn : 0 ≤ n)
    (hy : 0 < y.length) (hcen : ∀ c ∈ C, sumS c = 0) :
    objective C y w (computeIntercept true y (y.length : α)).1 l1r pen n - objective C y w' b' l1r pen n
      ≤ dualityGap contig C (computeIntercept true y (y.length : α)).2 w
          (residual C (computeIntercept true y (y.length : α)).2 w 0) l1r pen n := by
  simp only [computeIntercept, if_true, sumU_eq]
  have hcen' : ∀ c ∈ C, c.sum = 0 := by simpa only [sumS_eq_sum] using hcen
  have key := gap_bounds_suboptimality contig C (y.map (· - y.sum / (y.length : α))) w w' l1r pen n
    (by simpa only [List.length_map] using hC) hw hw' h0 h1 hpen hn
  rw [objective_eq, objective_eq] at key ⊢
  -- at `b = mean y` the squared error is the centred one; any other intercept only adds to it
  linear_combination key + 1 / 2 * sq_centre_eq C y w (y.sum / (y.length : α))
    + 1 / 2 * sq_centre_le C y w' b' hC hy hcen'

example : objective (α := ℚ) [[-1, 0, 1]] [1, 2, 6] [5 / 2] (computeIntercept true [1, 2, 6] ((3 : ℕ) : ℚ)).1 (1 / 2) 0 3
      - objective [[-1, 0, 1]] [1, 2, 6] [1] 7 (1 / 2) 0 3
    ≤ dualityGap false [[-1, 0, 1]] (computeIntercept true [1, 2, 6] ((3 : ℕ) : ℚ)).2 [5 / 2]
        (residual [[-1, 0, 1]] (computeIntercept true [1, 2, 6] ((3 : ℕ) : ℚ)).2 [5 / 2] 0) (1 / 2) 0 3 :=
  fit_joint_optimal_centred_partial false [[-1, 0, 1]] [1, 2, 6] [5 / 2] [1] 7 (1 / 2) 0 3 (by decide) (by decide)
    (by decide) (by norm_num) (by norm_num) (by norm_num) (by norm_num) (by decide) (by decide +kernel)

/-- **the full statement fails on un-centred features** (open finding `C11-enet-intercept-not-joint`):
on `x = (1,2,3)`, `y = (1,2,3)`, penalty 0, the model of `fit` (run in exact rational arithmetic)
stops after 2 sweeps with `b = 2`, `w = 1/7` and reports gap `0`, while `(w', b') = (1, 0)` has an
objective lower by `6/7`.  The same input is replayed on the real code by the harness. -/
theorem fit_intercept_not_joint_witness :
    fitEnet (α := ℚ) true 0 [[1, 2, 3]] [1, 2, 3] 3 (1 / 10000) 10 (1 / 2) 0 true = (2, [1 / 7], 0, 2) ∧
      (0 : ℚ) < objective [[1, 2, 3]] [1, 2, 3] [1 / 7] 2 (1 / 2) 0 3
        - objective [[1, 2, 3]] [1, 2, 3] [1] 0 (1 / 2) 0 3 := by
  decide +kernel

/-! ### the solver loop as modelled: a `break` certifies the returned point

Stated for `coordinateDescent contig eps …` with **any** `eps` — in particular the `F::EPSILON` the driver runs:
the coordinate guards compare with zero exactly (repo fix 1817925, finding `C11-enet-epsilon-guards`), so `eps`
occurs only in the `abs_diff_eq!(w_max, 0)` disjunct of the stopping test, on which the invariant `r = y − Xw` does
not depend. -/

/-- **`coordinate_descent` left by its `break` returns a certified point**: the loop as modelled (all
sweeps, both stopping tests, any budget) keeps `r = y − Xw`; so if it stops before the budget is used up
(`n_steps < max_steps`), the reported gap is `< tol·‖y‖²`, is non-negative and bounds `P(w) − P(w')` for every `w'`. -/
theorem cd_break_certificate (contig : Bool) (eps : α) (C : List (List α)) (y : List α) (n tol : α) (maxSteps : Nat)
    (l1r pen : α) (w : List α) (g : α) (s : Nat) (hC : ∀ c ∈ C, c.length = y.length)
    (h0 : 0 ≤ l1r) (h1 : l1r ≤ 1) (hpen : 0 ≤ pen) (hn : 0 ≤ n)
    (h : coordinateDescent contig eps C y n tol maxSteps l1r pen = (w, g, s)) (hs : s < maxSteps) :
    w.length = C.length ∧ g < tol * dotU y y ∧ 0 ≤ g ∧
      ∀ w', w'.length = C.length → objective C y w 0 l1r pen n - objective C y w' 0 l1r pen n ≤ g := by
  obtain ⟨hw, rfl, hlt⟩ := coordinateDescent_break contig eps C y n tol maxSteps l1r pen w g s hC h hs
  exact ⟨hw, hlt, gap_nonneg contig C y w l1r pen n hC hw h0 h1 hpen hn,
    fun w' hw' => gap_bounds_suboptimality contig C y w w' l1r pen n hC hw hw' h0 h1 hpen hn⟩

example : objective (α := ℚ) [[1, 2, 3]] [-1, 0, 1] [1 / 7] 0 (1 / 2) 0 3
      - objective [[1, 2, 3]] [-1, 0, 1] [5] 0 (1 / 2) 0 3 ≤ 0 :=
  (cd_break_certificate true (1 / 1000000) [[1, 2, 3]] [-1, 0, 1] 3 (1 / 10000) 10 (1 / 2) 0 [1 / 7] 0 2 (by decide)
    (by norm_num) (by norm_num) (by norm_num) (by norm_num) (by decide +kernel) (by norm_num)).2.2.2 [5] (by decide)

/-- **`fit` without intercept** is `coordinate_descent` on the raw target: same certificate -/
theorem fit_no_intercept_break_certificate (contig : Bool) (eps : α) (C : List (List α)) (y : List α) (n tol : α)
    (maxSteps : Nat) (l1r pen b : α) (w : List α) (g : α) (s : Nat) (hC : ∀ c ∈ C, c.length = y.length)
    (h0 : 0 ≤ l1r) (h1 : l1r ≤ 1) (hpen : 0 ≤ pen) (hn : 0 ≤ n)
    (h : fitEnet contig eps C y n tol maxSteps l1r pen false = (b, w, g, s)) (hs : s < maxSteps) :
    b = 0 ∧ 0 ≤ g ∧ ∀ w', w'.length = C.length →
      objective C y w b l1r pen n - objective C y w' 0 l1r pen n ≤ g := by
  rw [fitEnet_eq, Prod.mk.injEq] at h
  obtain ⟨rfl, hcd⟩ := h
  have := cd_break_certificate contig eps C y n tol maxSteps l1r pen w g s hC h0 h1 hpen hn hcd hs
  exact ⟨rfl, this.2.2.1, this.2.2.2⟩

example : (0 : ℚ) ≤ 0 :=
  (fit_no_intercept_break_certificate (α := ℚ) true (1 / 1000000) [[1, 2, 3]] [-1, 0, 1] 3 (1 / 10000) 10 (1 / 2) 0 0
    [1 / 7] 0 2 (by decide) (by norm_num) (by norm_num) (by norm_num) (by norm_num) (by decide +kernel) (by norm_num)).2.1

/-- **`fit` with intercept on centred columns**: left by the `break`, the returned `(w, b)` is within the
reported gap of every `(w', b')` — the property's "jointly in coefficients and intercept" for the modelled
`fit`, under the centring hypothesis that the open finding shows to be necessary. -/
theorem fit_break_joint_centred_partial (contig : Bool) (eps : α) (C : List (List α)) (y : List α) (tol : α)
    (maxSteps : Nat) (l1r pen b : α) (w : List α) (g : α) (s : Nat) (hC : ∀ c ∈ C, c.length = y.length)
    (h0 : 0 ≤ l1r) (h1 : l1r ≤ 1) (hpen : 0 ≤ pen) (hy : 0 < y.length) (hcen : ∀ c ∈ C, sumS c = 0)
    (h : fitEnet contig eps C y (y.length : α) tol maxSteps l1r pen true = (b, w, g, s)) (hs : s < maxSteps) :
    0 ≤ g ∧ ∀ w' b', w'.length = C.length →
      objective C y w b l1r pen (y.length : α) - objective C y w' b' l1r pen (y.length : α) ≤ g := by
  have hnn : (0 : α) ≤ (y.length : α) := Nat.cast_nonneg _
  rw [fitEnet_eq, Prod.mk.injEq] at h
  obtain ⟨rfl, hcd⟩ := h
  have hC' : ∀ c ∈ C, c.length = (computeIntercept true y (y.length : α)).2.length := by
    simpa [computeIntercept] using hC
  obtain ⟨hw, rfl, _⟩ := coordinateDescent_break contig eps C _ _ tol maxSteps l1r pen w g s hC' hcd hs
  exact ⟨gap_nonneg contig C _ w l1r pen _ hC' hw h0 h1 hpen hnn, fun w' b' hw' =>
    fit_joint_optimal_centred_partial contig C y w w' b' l1r pen _ hC hw hw' h0 h1 hpen hnn hy hcen⟩

example : (0 : ℚ) ≤ 0 :=
  (fit_break_joint_centred_partial (α := ℚ) true (1 / 1000000) [[-1, 0, 1]] [1, 2, 6] (1 / 10000) 10 (1 / 2) 0 3 [5 / 2] 0 2
    (by decide) (by norm_num) (by norm_num) (by norm_num) (by decide) (by decide +kernel) (by decide +kernel) (by norm_num)).1

/-! ### the glue: constructors and `ParamGuard` -/

theorem check_ok_iff_guards (p q : EnetParams α) :
    p.check = .ok q ↔ (q = p ∧ 0 ≤ p.penalty ∧ 0 ≤ p.l1Ratio ∧ p.l1Ratio ≤ 1 ∧ 0 ≤ p.tolerance) := by
  unfold EnetParams.check
  constructor
  · intro h
    split_ifs at h with h1 h2 h3
    · have := Except.ok.inj h
      exact ⟨this.symm, le_of_not_gt h1, h2.1, h2.2, le_of_not_gt h3⟩
  · rintro ⟨rfl, h1, h2, h3, h4⟩
    rw [if_neg (not_lt.mpr h1), if_neg (not_not.mpr ⟨h2, h3⟩), if_neg (not_lt.mpr h4)]

theorem ridge_is_new_with_ratio_zero (tol0 : α) :
    (EnetParams.ridge tol0).l1Ratio = 0 ∧ (EnetParams.lasso tol0).l1Ratio = 1 ∧
    (EnetParams.new tol0).l1Ratio = 1 / 2 ∧
    (EnetParams.ridge tol0).penalty = 1 ∧ (EnetParams.lasso tol0).penalty = 1 ∧
    (EnetParams.ridge tol0).withIntercept = true ∧ (EnetParams.lasso tol0).withIntercept = true := by
  simp [EnetParams.ridge, EnetParams.lasso, EnetParams.new, half_eq]

theorem objective_ridge (C : List (List α)) (y w : List α) (b pen n : α) :
    objective C y w b 0 pen n
      = 1 / 2 * dotS (residual C y w b) (residual C y w b) + 1 / 2 * (pen * n) * dotS w w := by
  simp [objective, penaltyTerm, half_eq]

theorem objective_lasso (C : List (List α)) (y w : List α) (b pen n : α) :
    objective C y w b 1 pen n
      = 1 / 2 * dotS (residual C y w b) (residual C y w b) + pen * n * normL1 w := by
  simp [objective, penaltyTerm, half_eq]

example : (EnetParams.ridge (1 / 10000 : ℚ)).check = .ok (EnetParams.ridge (1 / 10000 : ℚ)) :=
  (check_ok_iff_guards _ _).mpr ⟨rfl, by norm_num [EnetParams.ridge, EnetParams.new],
    by norm_num [EnetParams.ridge, EnetParams.new], by norm_num [EnetParams.ridge, EnetParams.new],
    by norm_num [EnetParams.ridge, EnetParams.new]⟩

/-- a fit through the unchecked parameter set runs the solver only inside the guards the certificate
theorems assume (`0 ≤ l1_ratio ≤ 1`, `penalty ≥ 0`) -/
theorem fitParams_ok_guards (contig : Bool) (eps : α) (C : List (List α)) (y : List α) (n : α) (p : EnetParams α)
    (res : α × List α × α × Nat) (h : fitParams contig eps C y n p = .ok res) :
    0 ≤ p.penalty ∧ 0 ≤ p.l1Ratio ∧ p.l1Ratio ≤ 1 ∧
      res = fitEnet contig eps C y n p.tolerance p.maxIterations p.l1Ratio p.penalty p.withIntercept := by
  unfold fitParams at h
  split at h
  · simp at h
  · rename_i q hq
    obtain ⟨rfl, hp, hl0, hl1, _⟩ := (check_ok_iff_guards p q).mp hq
    exact ⟨hp, hl0, hl1, (Except.ok.inj h).symm⟩

example : fitParams (α := ℚ) true 0 [[1, 2, 3]] [1, 2, 3] 3 (EnetParams.lasso (1 / 10000))
    = .ok (fitEnet true 0 [[1, 2, 3]] [1, 2, 3] 3 (1 / 10000) 1000 1 1 true) := by
  unfold fitParams
  rw [(check_ok_iff_guards (EnetParams.lasso (1 / 10000 : ℚ)) (EnetParams.lasso (1 / 10000))).mpr
    ⟨rfl, by norm_num [EnetParams.lasso, EnetParams.new],
    by norm_num [EnetParams.lasso, EnetParams.new], by norm_num [EnetParams.lasso, EnetParams.new],
    by norm_num [EnetParams.lasso, EnetParams.new]⟩]
  rfl

/-! ### multi-task: the group threshold -/

section mtl
variable [Transc α]

/-- **a feature row under the group threshold is exactly zero**: `‖x‖₂ ≤ thr` makes
`block_soft_thresholding` return the zero vector (whatever `sqrt` is) -/
theorem blockSoft_zero_below_threshold (x : List α) (thr : α) (h : norm2U x ≤ thr) :
    blockSoft x thr = List.replicate x.length 0 := by
  unfold blockSoft
  simp [h]

/-- the same inside the loop body of `block_coordinate_descent`: after `bcdCoord` on a feature that is not
skipped, row `j` of `W` is exactly zero whenever the correlation of the feature with the partial residual
has norm at most `n·ρ·pen` -/
theorem bcdCoord_zero_below_threshold (contig : Bool) (t : Nat) (thr denAdd : α) (st : BcdState α) (j : Nat)
    (cj : List α) (nrm : α) (hj : j < st.w.length) (hn : ¬ absS nrm ≤ 0)
    (h : norm2U ((colsOf t (if absS (norm2U (st.w.getD j [])) ≤ 0 then st.r
        else rankOne false cj (st.w.getD j []) st.r)).map fun rc => dotC (contig && t == 1) rc cj) ≤ thr) :
    (bcdCoord contig t thr denAdd st j cj nrm).w.getD j [] = List.replicate t 0 := by
  unfold bcdCoord
  rw [if_neg hn]
  dsimp only
  rw [blockSoft_zero_below_threshold _ _ h]
  simp [hj, colsOf]

end mtl

/-- `sqrt := id`: on ℚ the two examples below exercise the branch structure only, `norm2U` is not a norm there -/
local instance ratTransc : Transc ℚ := ⟨id, id, id⟩

example : blockSoft (α := ℚ) [0, 0] 1 = [0, 0] :=
  blockSoft_zero_below_threshold _ _ (by decide +kernel)

example : (bcdCoord (α := ℚ) false 2 10 0 { w := [[1, 1]], r := [[0, 0], [0, 0]], wMax := 0, dwMax := 0 } 0 [1, 1] 2).w.getD 0 []
    = [0, 0] :=
  bcdCoord_zero_below_threshold false 2 10 0 _ 0 [1, 1] 2 (by decide) (by decide +kernel) (by decide +kernel)

/-! ### multi-task weak duality (over ℝ: the group norm needs `sqrt`) -/

/-- **The multi-task duality gap computed by `duality_gap_mtl` bounds the suboptimality**: for the residual
matrix `R = Y − XW` (hypothesis `hres`: column `k` of `R` is the single-task residual of task `k`), *no*
coefficient matrix `W'` of the same shape lowers the documented multi-task objective
`½‖Y − XW‖²_F + l1·Σ_j‖W_j‖₂ + ½·l2·‖W‖²_F` (`objectiveMtl`, `n` × the documented one) by more than the
reported gap — both branches of the code (`max_j‖(XᵀR − l2·W)_j‖₂ > l1` with the rescaled dual point, and the
plain one), through the model's own kernels (`sumS`, `sumU`, `dotS`, `norm2U`).  Matrices are lists of rows:
`Y`, `R` : `n` rows of `t`; `W`, `W'` : `p` rows of `t`; `C` : the `p` columns of `X`.  Over ℝ because of `sqrt`. -/
theorem gap_bounds_suboptimality_mtl (t : Nat) (C : List (List ℝ)) (Y W W' R : List (List ℝ)) (l1r pen n : ℝ)
    (hC : ∀ c ∈ C, c.length = Y.length) (hY : ∀ y ∈ Y, y.length = t)
    (hRn : R.length = Y.length) (hRt : ∀ r ∈ R, r.length = t)
    (hWp : W.length = C.length) (hW : ∀ wj ∈ W, wj.length = t)
    (hWp' : W'.length = C.length) (hW' : ∀ wj ∈ W', wj.length = t)
    (hres : colsOf t R = List.zipWith (fun yk wk => residual C yk wk 0) (colsOf t Y) (colsOf t W))
    (h0 : 0 ≤ l1r) (h1 : l1r ≤ 1) (hpen : 0 ≤ pen) (hn : 0 ≤ n) :
    objectiveMtl C (colsOf t Y) (colsOf t W) W (List.replicate t 0) l1r pen n
        - objectiveMtl C (colsOf t Y) (colsOf t W') W' (List.replicate t 0) l1r pen n
      ≤ dualityGapMtl t C Y W R l1r pen n := by
  have hl1 : 0 ≤ l1r * pen * n := mul_nonneg (mul_nonneg h0 hpen) hn
  have hl2 : 0 ≤ (1 - l1r) * pen * n := mul_nonneg (mul_nonneg (sub_nonneg.mpr h1) hpen) hn
  -- `R = Y − XW` task by task, so the squared error of `W` is `‖R‖²_F`
  have hresk : ∀ k ∈ List.range t, colK k R = residual C (colK k Y) (colK k W) 0 := by
    rw [colsOf_eq, colsOf_eq, colsOf_eq, zipWith_map_map_self] at hres
    exact List.map_inj_left.mp hres
  have hsq : ((List.range t).map fun k =>
      dot (residual C (colK k Y) (colK k W) 0) (residual C (colK k Y) (colK k W) 0)).sum = frob R R := by
    rw [← frob_colsOf t R R hRt hRt]
    exact congrArg List.sum (List.map_congr_left fun k hk => by rw [hresk k hk])
  rw [objectiveMtl_eq t C Y W l1r pen n hW, objectiveMtl_eq t C Y W' l1r pen n hW', hsq,
    dualityGapMtl_eq t C Y W R l1r pen n hRt hY]
  simp only [residual_zero_eq, colK_length]
  exact le_gapValue _ _ _ _ _ _ hl1 (normMax_nonneg _) fun c hc hcd =>
    weak_duality_mtl t C Y W W' R _ _ c _ hC hRn hRt hY hWp hW hWp' hW' hl2 hc hcd (normMax_nonneg _)
      fun row hrow => le_trans (le_abs_self _) (le_normMax _ _ (List.mem_map.mpr ⟨row, hrow, rfl⟩))

example : objectiveMtl (α := ℝ) [[1, 0], [0, 1]] (colsOf 2 [[3, 4], [0, 0]]) (colsOf 2 [[1, 1], [0, 0]]) [[1, 1], [0, 0]]
      (List.replicate 2 0) (1 / 2) 1 2
    - objectiveMtl [[1, 0], [0, 1]] (colsOf 2 [[3, 4], [0, 0]]) (colsOf 2 [[0, 0], [1, 2]]) [[0, 0], [1, 2]]
      (List.replicate 2 0) (1 / 2) 1 2
    ≤ dualityGapMtl 2 [[1, 0], [0, 1]] [[3, 4], [0, 0]] [[1, 1], [0, 0]] [[2, 3], [0, 0]] (1 / 2) 1 2 :=
  gap_bounds_suboptimality_mtl 2 _ _ _ _ _ _ _ _ (by decide) (by decide) (by decide) (by decide) (by decide)
    (by decide) (by decide) (by decide) (by
      simp only [colsOf, LeastSquares.residual, matVec, List.range, List.range.loop, List.map_cons, List.map_nil,
        List.getD_cons_zero, List.getD_cons_succ, List.zipWith_cons_cons, List.zipWith_nil_right, List.length_cons,
        List.length_nil, List.replicate]
      norm_num)
    (by norm_num) (by norm_num) (by norm_num) (by norm_num)

/-- the reported multi-task gap is **non-negative** (take `W' = W`) -/
theorem gap_nonneg_mtl (t : Nat) (C : List (List ℝ)) (Y W R : List (List ℝ)) (l1r pen n : ℝ)
    (hC : ∀ c ∈ C, c.length = Y.length) (hY : ∀ y ∈ Y, y.length = t)
    (hRn : R.length = Y.length) (hRt : ∀ r ∈ R, r.length = t)
    (hWp : W.length = C.length) (hW : ∀ wj ∈ W, wj.length = t)
    (hres : colsOf t R = List.zipWith (fun yk wk => residual C yk wk 0) (colsOf t Y) (colsOf t W))
    (h0 : 0 ≤ l1r) (h1 : l1r ≤ 1) (hpen : 0 ≤ pen) (hn : 0 ≤ n) :
    0 ≤ dualityGapMtl t C Y W R l1r pen n := by
  have := gap_bounds_suboptimality_mtl t C Y W W R l1r pen n hC hY hRn hRt hWp hW hWp hW hres h0 h1 hpen hn
  rwa [sub_self] at this

example : 0 ≤ dualityGapMtl (α := ℝ) 2 [[1, 0], [0, 1]] [[3, 4], [0, 0]] [[1, 1], [0, 0]] [[2, 3], [0, 0]] (1 / 2) 1 2 :=
  gap_nonneg_mtl 2 _ _ _ _ _ _ _ (by decide) (by decide) (by decide) (by decide) (by decide) (by decide)
    (by
      simp only [colsOf, LeastSquares.residual, matVec, List.range, List.range.loop, List.map_cons, List.map_nil,
        List.getD_cons_zero, List.getD_cons_succ, List.zipWith_cons_cons, List.zipWith_nil_right, List.length_cons,
        List.length_nil, List.replicate]
      norm_num)
    (by norm_num) (by norm_num) (by norm_num) (by norm_num)

/-- the same with `R` *computed* as `Y − XW` by the model's `residualMtl` -/
theorem gap_bounds_suboptimality_mtl_residual (t : Nat) (C : List (List ℝ)) (Y W W' : List (List ℝ)) (l1r pen n : ℝ)
    (hC : ∀ c ∈ C, c.length = Y.length) (hY : ∀ y ∈ Y, y.length = t)
    (hWp : W.length = C.length) (hW : ∀ wj ∈ W, wj.length = t)
    (hWp' : W'.length = C.length) (hW' : ∀ wj ∈ W', wj.length = t)
    (h0 : 0 ≤ l1r) (h1 : l1r ≤ 1) (hpen : 0 ≤ pen) (hn : 0 ≤ n) :
    objectiveMtl C (colsOf t Y) (colsOf t W) W (List.replicate t 0) l1r pen n
        - objectiveMtl C (colsOf t Y) (colsOf t W') W' (List.replicate t 0) l1r pen n
      ≤ dualityGapMtl t C Y W (residualMtl t C Y W) l1r pen n := by
  obtain ⟨h1', h2', h3'⟩ := residualMtl_spec t C Y W hC
  exact gap_bounds_suboptimality_mtl t C Y W W' _ l1r pen n hC hY h1' h2' hWp hW hWp' hW' h3' h0 h1 hpen hn

example : objectiveMtl (α := ℝ) [[1, 0], [0, 1]] (colsOf 2 [[3, 4], [0, 0]]) (colsOf 2 [[1, 1], [0, 0]]) [[1, 1], [0, 0]]
      (List.replicate 2 0) (1 / 2) 1 2
    - objectiveMtl [[1, 0], [0, 1]] (colsOf 2 [[3, 4], [0, 0]]) (colsOf 2 [[0, 0], [1, 2]]) [[0, 0], [1, 2]]
      (List.replicate 2 0) (1 / 2) 1 2
    ≤ dualityGapMtl 2 [[1, 0], [0, 1]] [[3, 4], [0, 0]] [[1, 1], [0, 0]]
        (residualMtl 2 [[1, 0], [0, 1]] [[3, 4], [0, 0]] [[1, 1], [0, 0]]) (1 / 2) 1 2 :=
  gap_bounds_suboptimality_mtl_residual 2 _ _ _ _ _ _ _ (by decide) (by decide) (by decide) (by decide) (by decide)
    (by decide)
    (by norm_num) (by norm_num) (by norm_num) (by norm_num)

/-! ### the multi-task solver loop as modelled: a `break` certifies the returned point

As for the single-task loop: stated for any `eps` (the driver's `F::EPSILON` included); the row guards compare
`‖w_j‖₂` with zero exactly. -/

/-- **`block_coordinate_descent` left by its `break` returns a certified point**: the loop as modelled keeps
`R = Y − XW` (`BcdInv`: through `bcdCoord`, `bcdSweepGo`, `bcdLoop`); so if it stops before the budget is used
up, the reported gap is `< tol·‖Y‖²_F`, non-negative, and bounds `P(W) − P(W')` for every `W'` of the same shape. -/
theorem bcd_break_certificate (contig : Bool) (t : Nat) (eps : ℝ) (C : List (List ℝ)) (Y : List (List ℝ)) (n tol : ℝ)
    (maxSteps : Nat) (l1r pen : ℝ) (W : List (List ℝ)) (g : ℝ) (s : Nat)
    (hC : ∀ c ∈ C, c.length = Y.length) (hY : ∀ y ∈ Y, y.length = t)
    (h0 : 0 ≤ l1r) (h1 : l1r ≤ 1) (hpen : 0 ≤ pen) (hn : 0 ≤ n)
    (h : blockCoordinateDescent contig t eps C Y n tol maxSteps l1r pen = (W, g, s)) (hs : s < maxSteps) :
    W.length = C.length ∧ (∀ wj ∈ W, wj.length = t) ∧ g < tol * sumS (Y.flatten.map fun x => x * x) ∧ 0 ≤ g ∧
      ∀ W', W'.length = C.length → (∀ wj ∈ W', wj.length = t) →
        objectiveMtl C (colsOf t Y) (colsOf t W) W (List.replicate t 0) l1r pen n
          - objectiveMtl C (colsOf t Y) (colsOf t W') W' (List.replicate t 0) l1r pen n ≤ g := by
  unfold blockCoordinateDescent at h
  have key := bcdLoop_certificate contig t eps (n * l1r * pen) (n * (1 - l1r) * pen) C (C.map fun c => dotC contig c c) Y
    n tol (tol * sumS (Y.flatten.map fun x => x * x)) l1r pen maxSteps hC maxSteps 0 _ Y (1 + tol) W g s
    (bcdInv_start t C Y hC hY) h
  obtain ⟨R, hinv, hg, hlt⟩ := key.2 (by omega)
  have hres := bcdInv_hres t C Y _ hinv
  obtain ⟨hrn, hrt, hwp, hwt, _⟩ := hinv
  refine ⟨hwp, hwt, hlt, ?_, ?_⟩
  · rw [hg]; exact gap_nonneg_mtl t C Y W R l1r pen n hC hY hrn hrt hwp hwt hres h0 h1 hpen hn
  · intro W' hwp' hwt'
    rw [hg]
    exact gap_bounds_suboptimality_mtl t C Y W W' R l1r pen n hC hY hrn hrt hwp hwt hwp' hwt' hres h0 h1 hpen hn

/-- a concrete run over ℝ (one feature, one task, penalty so large that `W = 0` is optimal): the loop breaks
after one sweep of a budget of two -/
theorem bcd_example_run (eps : ℝ) (heps : 0 ≤ eps) :
    blockCoordinateDescent (α := ℝ) false 1 eps [[1, 0]] [[1], [0]] 2 (1 / 2) 2 1 10 = ([[0]], 0, 1) := by
  -- one sweep leaves the zero start unchanged, and there the gap is `0 < tol·‖Y‖²`: the loop breaks at step 1
  have hst : bcdSweepGo false 1 (2 * 1 * 10) (2 * (1 - 1) * 10) 0 [[1, 0]] [dotC false [1, 0] [1, 0]]
      { w := [[0]], r := [[1], [0]], wMax := (0 : ℝ), dwMax := 0 }
      = { w := [[0]], r := [[1], [0]], wMax := 0, dwMax := 0 } := by
    simp [bcdSweepGo, bcdCoord, blockSoft, norm2U_eq, colsOf, dotC_eq, dot, absS_eq_abs, maxS_eq_max,
      List.range, List.range.loop]
    norm_num
  have hg : dualityGapMtl 1 [[1, 0]] [[1], [0]] [[0]] [[1], [0]] (1 : ℝ) 10 2 = 0 := by
    simp [dualityGapMtl, dualNormMtl, norm2U_eq, colsOf, dotS_eq, sumS_eq_sum, sumU_eq, dot, absS_eq_abs, maxS_eq_max, normMax,
      half_eq, List.range, List.range.loop]
    norm_num
  unfold blockCoordinateDescent
  simp only [List.map_cons, List.map_nil, List.length_cons, List.length_nil, List.replicate]
  rw [bcdLoop, hst]
  simp only [hg]
  norm_num [sumS]

example : (0 : ℝ) ≤ 0 :=
  (bcd_break_certificate false 1 (1 / 1000000) [[1, 0]] [[1], [0]] 2 (1 / 2) 2 1 10 [[0]] 0 1 (by simp) (by simp)
    (by norm_num) (by norm_num) (by norm_num) (by norm_num) (bcd_example_run _ (by norm_num)) (by norm_num)).2.2.2.1

/-- **multi-task `fit` without intercept** is `block_coordinate_descent` on the raw targets: same certificate -/
theorem fit_mtl_no_intercept_break_certificate (contig : Bool) (t : Nat) (eps : ℝ) (C : List (List ℝ))
    (Y : List (List ℝ)) (n tol : ℝ) (maxSteps : Nat) (l1r pen : ℝ) (b : List ℝ) (W : List (List ℝ)) (g : ℝ) (s : Nat)
    (hC : ∀ c ∈ C, c.length = Y.length) (hY : ∀ y ∈ Y, y.length = t)
    (h0 : 0 ≤ l1r) (h1 : l1r ≤ 1) (hpen : 0 ≤ pen) (hn : 0 ≤ n)
    (h : fitMtl contig t eps C Y n tol maxSteps l1r pen false = (b, W, g, s)) (hs : s < maxSteps) :
    b = List.replicate t 0 ∧ 0 ≤ g ∧
      ∀ W', W'.length = C.length → (∀ wj ∈ W', wj.length = t) →
        objectiveMtl C (colsOf t Y) (colsOf t W) W b l1r pen n
          - objectiveMtl C (colsOf t Y) (colsOf t W') W' (List.replicate t 0) l1r pen n ≤ g := by
  rw [fitMtl_eq, Prod.mk.injEq] at h
  obtain ⟨rfl, hcd⟩ := h
  have := bcd_break_certificate contig t eps C Y n tol maxSteps l1r pen W g s hC hY h0 h1 hpen hn hcd hs
  exact ⟨rfl, this.2.2.2.1, this.2.2.2.2⟩

example : (0 : ℝ) ≤ 0 :=
  (fit_mtl_no_intercept_break_certificate false 1 (1 / 1000000) [[1, 0]] [[1], [0]] 2 (1 / 2) 2 1 10 [0] [[0]] 0 1
    (by simp) (by simp) (by norm_num) (by norm_num) (by norm_num) (by norm_num)
    (by simp only [fitMtl, computeInterceptMtl, Bool.false_eq_true, if_false, bcd_example_run _ (by norm_num : (0 : ℝ) ≤ 1 / 1000000)]; rfl)
    (by norm_num)).2.1

/-- **multi-task `fit` with intercept on centred columns**: left by the `break`, the returned `(W, b)` is within
the reported gap of every `(W', b')` — jointly in coefficients and per-task intercepts -/
theorem fit_mtl_break_joint_centred_partial (contig : Bool) (t : Nat) (eps : ℝ) (C : List (List ℝ)) (Y : List (List ℝ))
    (tol : ℝ) (maxSteps : Nat) (l1r pen : ℝ) (b : List ℝ) (W : List (List ℝ)) (g : ℝ) (s : Nat)
    (hC : ∀ c ∈ C, c.length = Y.length) (hY : ∀ y ∈ Y, y.length = t)
    (h0 : 0 ≤ l1r) (h1 : l1r ≤ 1) (hpen : 0 ≤ pen) (hy : 0 < Y.length) (hcen : ∀ c ∈ C, sumS c = 0)
    (h : fitMtl contig t eps C Y (Y.length : ℝ) tol maxSteps l1r pen true = (b, W, g, s)) (hs : s < maxSteps) :
    b.length = t ∧ 0 ≤ g ∧
      ∀ W' b', W'.length = C.length → (∀ wj ∈ W', wj.length = t) → b'.length = t →
        objectiveMtl C (colsOf t Y) (colsOf t W) W b l1r pen (Y.length : ℝ)
          - objectiveMtl C (colsOf t Y) (colsOf t W') W' b' l1r pen (Y.length : ℝ) ≤ g := by
  have hnn : (0 : ℝ) ≤ (Y.length : ℝ) := Nat.cast_nonneg _
  obtain ⟨hml, hycn, hyct, hk⟩ := computeInterceptMtl_spec t Y (Y.length : ℝ) hY
  rw [fitMtl_eq, Prod.mk.injEq] at h
  obtain ⟨rfl, hcd⟩ := h
  generalize computeInterceptMtl true t Y (Y.length : ℝ) = ci at hcd hml hycn hyct hk ⊢
  obtain ⟨m, Yc⟩ := ci
  have hC' : ∀ c ∈ C, c.length = Yc.length := fun c hc => by rw [hycn]; exact hC c hc
  obtain ⟨hwp, hwt, _, hg0, hopt⟩ := bcd_break_certificate contig t eps C Yc (Y.length : ℝ) tol maxSteps l1r pen
    W g s hC' hyct h0 h1 hpen hnn hcd hs
  have hcen' : ∀ c ∈ C, c.sum = 0 := fun c hc => by rw [← sumS_eq_sum]; exact hcen c hc
  refine ⟨hml, hg0, fun W' b' hwp' hwt' hb' => ?_⟩
  have key := hopt W' hwp' hwt'
  -- (i) at the returned intercepts the objective is the centred one
  have e1 : objectiveMtl C (colsOf t Y) (colsOf t W) W m l1r pen (Y.length : ℝ)
      = objectiveMtl C (colsOf t Yc) (colsOf t W) W (List.replicate t 0) l1r pen (Y.length : ℝ) := by
    rw [objectiveMtl_eq_b t C Y W m _ _ _ hwt hml, objectiveMtl_eq t C Yc W _ _ _ hwt]
    congr 4
    apply List.map_congr_left
    intro k hkr
    obtain ⟨hmk, hck⟩ := hk k (List.mem_range.mp hkr)
    rw [hmk, hck]
    exact sq_centre_eq C (colK k Y) (colK k W) _
  -- (ii) any other intercepts only add `n·(b'_k − m_k)²/2` per task
  have e2 : objectiveMtl C (colsOf t Yc) (colsOf t W') W' (List.replicate t 0) l1r pen (Y.length : ℝ)
      ≤ objectiveMtl C (colsOf t Y) (colsOf t W') W' b' l1r pen (Y.length : ℝ) := by
    rw [objectiveMtl_eq_b t C Y W' b' _ _ _ hwt' hb', objectiveMtl_eq t C Yc W' _ _ _ hwt']
    have hle : ((List.range t).map fun k => dot (residual C (colK k Yc) (colK k W') 0)
          (residual C (colK k Yc) (colK k W') 0)).sum
        ≤ ((List.range t).map fun k => dot (residual C (colK k Y) (colK k W') (b'.getD k 0))
          (residual C (colK k Y) (colK k W') (b'.getD k 0))).sum := by
      apply List.sum_le_sum
      intro k hkr
      obtain ⟨_, hck⟩ := hk k (List.mem_range.mp hkr)
      rw [hck]
      have := sq_centre_le C (colK k Y) (colK k W') (b'.getD k 0)
        (by intro c hc; rw [colK_length]; exact hC c hc) (by rw [colK_length]; exact hy) hcen'
      rw [colK_length] at this
      exact this
    linarith
  rw [e1]; linarith

/-- a concrete run with intercept on a centred column -/
theorem fit_mtl_example_run (eps : ℝ) (heps : 0 ≤ eps) :
    fitMtl (α := ℝ) false 1 eps [[1, -1]] [[1], [0]] ((2 : ℕ) : ℝ) (1 / 2) 2 1 10 true = ([1 / 2], [[0]], 0, 1) := by
  have hs0 : Real.sqrt 0 = 0 := Real.sqrt_zero
  have hs1 : Real.sqrt 1 = 1 := Real.sqrt_one
  simp [fitMtl, computeInterceptMtl, blockCoordinateDescent, bcdLoop, bcdSweepGo, bcdCoord, blockSoft, norm2U_eq,
    dualityGapMtl, dualNormMtl, colsOf, rankOne, dotC_eq, dotS_eq, sumS_eq_sum, sumU_eq, dot, absS_eq_abs, maxS_eq_max, normMax,
    half_eq, hs0, hs1, List.range, List.range.loop]
  norm_num

example : (0 : ℝ) ≤ 0 :=
  (fit_mtl_break_joint_centred_partial false 1 (1 / 1000000) [[1, -1]] [[1], [0]] (1 / 2) 2 1 10 [1 / 2] [[0]] 0 1 (by simp) (by simp)
    (by norm_num) (by norm_num) (by norm_num) (by simp) (by simp [sumS]) (fit_mtl_example_run _ (by norm_num)) (by norm_num)).2.1

/-! ### the group prox is the exact minimiser of the per-feature subproblem -/

/-- **`block_soft_thresholding(x, thr) / den` minimises `z ↦ ½·den·‖z‖² − ⟨x, z⟩ + thr·‖z‖₂`** over *all* vectors `z`
(`den = ‖x_j‖² + n(1−ρ)pen > 0`, `thr = nρ·pen ≥ 0`, `x = X_jᵀR_j` the correlation of feature `j` with the
partial residual): Cauchy–Schwarz reduces it to the scalar soft-threshold problem in `‖z‖`. -/
theorem blockSoft_is_argmin (x z : List ℝ) (thr den : ℝ) (hthr : 0 ≤ thr) (hden : 0 < den) :
    1 / 2 * den * dotS ((blockSoft x thr).map (· / den)) ((blockSoft x thr).map (· / den))
        - dotS x ((blockSoft x thr).map (· / den)) + thr * norm2U ((blockSoft x thr).map (· / den))
      ≤ 1 / 2 * den * dotS z z - dotS x z + thr * norm2U z := by
  simp only [dotS_eq, norm2U_eq]
  exact blockSoft_argmin x z thr den hthr hden

example : 1 / 2 * (2 : ℝ) * dotS ((blockSoft [3, 4] 1).map (· / 2)) ((blockSoft [3, 4] 1).map (· / 2))
      - dotS [3, 4] ((blockSoft [3, 4] 1).map (· / 2)) + 1 * norm2U ((blockSoft [3, 4] 1).map (· / 2))
    ≤ 1 / 2 * 2 * dotS [1, 1] [1, 1] - dotS [3, 4] [1, 1] + 1 * norm2U [1, 1] :=
  blockSoft_is_argmin [3, 4] [1, 1] 1 2 (by norm_num) (by norm_num)

/-- the same inside the loop body of `block_coordinate_descent`: the row written by `bcdCoord` for a feature
that is not skipped is that minimiser, for the correlation with the current partial residual -/
theorem bcdCoord_is_block_argmin (contig : Bool) (t : Nat) (thr denAdd : ℝ) (st : BcdState ℝ) (j : Nat)
    (cj : List ℝ) (nrm : ℝ) (z : List ℝ) (hj : j < st.w.length) (hn : ¬ absS nrm ≤ 0) (hthr : 0 ≤ thr)
    (hden : 0 < nrm + denAdd) :
    let tmp := (colsOf t (if absS (norm2U (st.w.getD j [])) ≤ 0 then st.r
      else rankOne false cj (st.w.getD j []) st.r)).map fun rc => dotC (contig && t == 1) rc cj
    let new := (bcdCoord contig t thr denAdd st j cj nrm).w.getD j []
    1 / 2 * (nrm + denAdd) * dotS new new - dotS tmp new + thr * norm2U new
      ≤ 1 / 2 * (nrm + denAdd) * dotS z z - dotS tmp z + thr * norm2U z := by
  intro tmp new
  have hnew : new = (blockSoft tmp thr).map (· / (nrm + denAdd)) := by
    simp only [new, tmp]
    unfold bcdCoord
    rw [if_neg hn]
    simp [hj]
  rw [hnew]
  exact blockSoft_is_argmin tmp z thr (nrm + denAdd) hthr hden

example : True := by
  have := bcdCoord_is_block_argmin false 2 1 0 { w := [[1, 1]], r := [[0, 0], [0, 0]], wMax := 0, dwMax := 0 } 0
    [1, 1] 2 [1, 0] (by simp) (by norm_num [absS]) (by norm_num) (by norm_num)
  trivial

end LinfaSpec.Props.C11
