import LinfaSpec.Proofs.Incremental

/-!
C15, FTRL-proximal: the clamp of the sigmoid, the closed-form weight and the inequality that makes it
a minimiser, one `update_params` call at one coordinate, and histories of `fit_with` calls as folds of
`update_params`.
-/
namespace LinfaSpec.Incremental
open LinfaSpec


section Field
variable {α : Type} [Field α] [LinearOrder α] [IsStrictOrderedRing α]

/-! ### the sigmoid sees its argument only through the clamp -/

section
-- the anonymous sections omit what their lemmas do not use of the enclosing section's scalar
omit [IsStrictOrderedRing α]

theorem sigmoid_congr [Transc α] (m v v' : α) (h : max (min v m) (-m) = max (min v' m) (-m)) :
    sigmoid m v = sigmoid m v' := by
  simp only [sigmoid, maxS_eq_max, minS_eq_min, h]

end

/-! ### the closed-form weight -/

/-- `apply_proximal_to_weights`: `z * sign` is `|z|` -/
theorem ftrlWeight_eq [Transc α] (hp : FtrlHp α) (z n : α) :
    ftrlWeight hp z n = if |z| ≤ hp.l1 then 0 else
      ((if z < 0 then -1 else 1) * hp.l1 - z) / ((Transc.sqrt n + hp.beta) / hp.alpha + hp.l2) := by
  unfold ftrlWeight
  by_cases hz : z < 0
  · simp only [hz, if_true, mul_neg_one, abs_of_neg hz]
  · simp only [hz, if_false, mul_one, abs_of_nonneg (not_lt.mp hz)]

/-- the per-coordinate FTRL-proximal objective `z·w + l1·|w| + ½·d·w²`, `d = (√n + β)/α + l2` -/
def ftrlObjective [Transc α] (hp : FtrlHp α) (z n w : α) : α :=
  z * w + hp.l1 * |w| + ((Transc.sqrt n + hp.beta) / hp.alpha + hp.l2) / 2 * (w * w)

/-- the soft threshold minimises.  For `f w = z·w + l·|w| + d/2·w²` and a point `w*` with
`w*·d = s·l − z` lying on the side where `|w*| = −s·w*`:
`f w − f w* = d/2·(w − w*)² + l·(|w| + s·w)`, two non-negative terms when `s = ±1`. -/
theorem prox_le (z l d s ws w : α) (hl : 0 ≤ l) (hd : 0 < d) (hws : ws * d = s * l - z)
    (habs : |ws| = -(s * ws)) (hw : 0 ≤ |w| + s * w) :
    z * ws + l * |ws| + d / 2 * (ws * ws) ≤ z * w + l * |w| + d / 2 * (w * w) := by
  have hz : z = s * l - ws * d := by rw [hws]; ring
  have gap : (z * w + l * |w| + d / 2 * (w * w)) - (z * ws + l * |ws| + d / 2 * (ws * ws)) =
      d / 2 * ((w - ws) * (w - ws)) + l * (|w| + s * w) := by
    rw [habs, hz]; ring
  rw [← sub_nonneg, gap]
  exact add_nonneg (mul_nonneg (half_pos hd).le (mul_self_nonneg _)) (mul_nonneg hl hw)

end Field

section Order
variable {α : Type} [Field α] [LinearOrder α]

/-! ### one coordinate over a sequence of gradients: what `ftrl_coordinates_independent`,
`ftrl_n_accumulates`, `ftrl_sigma_telescopes`, `ftrl_z_accumulates` (`Props/C15`) are stated with -/

/-- one coordinate through a sequence of gradients -/
def ftrlCoordRun [Transc α] (hp : FtrlHp α) (zn : α × α) (gs : List α) : α × α :=
  gs.foldl (fun s g => ftrlCoord hp s.1 s.2 g) zn

/-- the learning-rate increments `σ_t` of one coordinate along a sequence of gradients -/
def ftrlSigmaSeq [Transc α] (hp : FtrlHp α) (n : α) : List α → List α
  | [] => []
  | g :: gs => ftrlSigma hp n g :: ftrlSigmaSeq hp (n + g * g) gs

/-- the corrections `σ_t · w_t` subtracted from `z` along a sequence of gradients -/
def ftrlCorrSeq [Transc α] (hp : FtrlHp α) (z n : α) : List α → List α
  | [] => []
  | g :: gs => ftrlSigma hp n g * ftrlWeight hp z n ::
      ftrlCorrSeq hp (ftrlCoord hp z n g).1 (n + g * g) gs

theorem ftrlUpdate_getElem? [Transc α] (hp : FtrlHp α) (st : FState α) (g : List α) (j : Nat)
    (z n gj : α) (hz : st.z[j]? = some z) (hn : st.n[j]? = some n) (hg : g[j]? = some gj) :
    (ftrlUpdate hp st g).z[j]? = some (ftrlCoord hp z n gj).1 ∧
    (ftrlUpdate hp st g).n[j]? = some (ftrlCoord hp z n gj).2 := by
  have hr : (List.zipWith (fun (zn : α × α) gj => ftrlCoord hp zn.1 zn.2 gj) (st.z.zip st.n) g)[j]? =
      some (ftrlCoord hp z n gj) := by
    have hzn : (st.z.zip st.n)[j]? = some (z, n) := List.getElem?_zip_eq_some.mpr ⟨hz, hn⟩
    rw [List.getElem?_zipWith, hzn, hg]
  simp only [ftrlUpdate, List.getElem?_map, hr, Option.map_some, and_self]

/-! ### histories of `fit_with` calls -/

section
omit [LinearOrder α]

theorem ftrlGradient_length (p : Nat) (probs : List α) (xs : List (List α)) (ys : List Bool) :
    (ftrlGradient p probs xs ys).length = p := by
  simp [ftrlGradient]

theorem ftrlGradient_getElem? (p : Nat) (probs : List α) (xs : List (List α)) (ys : List Bool) (j : Nat)
    (hj : j < p) :
    (ftrlGradient p probs xs ys)[j]? =
      some (dotS (List.zipWith (fun pr (y : Bool) => pr - (if y then 1 else 0)) probs ys) (column j xs)) := by
  simp [ftrlGradient, hj]

end

/-- a history of `fit_with` calls is the fold of `update_params` over its gradient vectors, one of
length `p` per batch -/
theorem ftrlRun_eq_fold_gradSeq [Transc α] (m : α) (r32 : α → α) (hp : FtrlHp α) (p : Nat)
    (hist : List (List (List α) × List Bool)) (st : FState α) :
    ftrlRun m r32 hp p st hist = (ftrlGradSeq m r32 hp p st hist).foldl (ftrlUpdate hp) st ∧
    (ftrlGradSeq m r32 hp p st hist).length = hist.length ∧
    ∀ g ∈ ftrlGradSeq m r32 hp p st hist, g.length = p := by
  induction hist generalizing st with
  | nil => exact ⟨rfl, rfl, fun _ h => nomatch h⟩
  | cons b rest ih =>
    obtain ⟨h1, h2, h3⟩ := ih (ftrlStep m r32 hp p st b)
    refine ⟨h1, congrArg (· + 1) h2, fun g hg => ?_⟩
    rcases List.mem_cons.mp hg with rfl | hg
    · exact ftrlGradient_length _ _ _ _
    · exact h3 g hg

/-- the hyper-parameters stored in the carried model are the ones every later call uses -/
theorem ftrlFitHistoryM_some [Transc α] (max35 : α) (r32 : α → α) (z0 : List α)
    (hist : List (FtrlHp α × (List (List α) × List Bool))) (m0 : FModel α) :
    ftrlFitHistoryM max35 r32 z0 (some m0) hist =
      (ftrlFitHistory max35 r32 m0.hp z0 (some m0.st) (hist.map (·.2))).map (fun s => ⟨m0.hp, s⟩) := by
  induction hist generalizing m0 with
  | nil => rfl
  | cons hb rest ih =>
    simp only [ftrlFitHistoryM, ftrlFitHistory, List.map_cons, ftrlFitWithM, ftrlFitWith,
      Option.getD_some]
    rw [ih]

end Order
end LinfaSpec.Incremental
