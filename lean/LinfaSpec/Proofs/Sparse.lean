import LinfaSpec.Proofs.Kernel
import Mathlib.Data.List.Perm.Subperm

/-! Sparse kernels: which pairs `sparse_from_fn` stores (and that this depends on the neighbour lists only through
their members), the rows it builds, and the accumulating folds behind the views `sum` and `dot` of a CSR matrix. -/
namespace LinfaSpec.Kernel
open LinfaSpec

/-- the relation whose pairs are stored: the diagonal and the symmetric closure of "is among the
returned neighbours of" -/
def Stored (n : Nat) (nb : List (List Nat)) (i j : Nat) : Prop :=
  i < n ∧ j < n ∧ (j = i ∨ j ∈ nb.getD i [] ∨ i ∈ nb.getD j [])

instance (n : Nat) (nb : List (List Nat)) (i j : Nat) : Decidable (Stored n nb i j) := by
  unfold Stored; infer_instance

/-- `l` is *the* set of the `c` points nearest to the query under the distances `d` (tie-free reading):
`c` distinct points below `n`, each strictly closer than every point left out.  This is the contract of
`k_nearest(row, c)` on records without distance ties (validated by the harness per case, tie-aware). -/
def Nearest {β : Type} [LT β] (d : Nat → β) (n c : Nat) (l : List Nat) : Prop :=
  l.Nodup ∧ l.length = c ∧ (∀ a ∈ l, a < n) ∧ ∀ a ∈ l, ∀ b, b < n → b ∉ l → d a < d b

theorem find?_map_pair {β : Type} (f : Nat → β) (l : List Nat) (j : Nat) :
    (l.map fun c => (c, f c)).find? (fun e => e.1 == j) = if j ∈ l then some (j, f j) else none := by
  induction l with
  | nil => rfl
  | cons x xs ih =>
    simp only [List.map_cons, List.find?_cons, List.mem_cons]
    by_cases hx : x = j
    · subst hx; simp
    · simp [beq_false_of_ne hx, Ne.symm hx, ih]

theorem adjPattern_contains (n : Nat) (nb : List (List Nat)) (i j : Nat) (hi : i < n) :
    ((adjPattern n nb).getD i []).contains j = true ↔ (j = i ∨ j ∈ nb.getD i []) := by
  rw [adjPattern, getD_map_range _ hi]
  by_cases h : j = i <;> simp [h]

theorem support_getD (n : Nat) (pat : List (List Nat)) (i : Nat) (hi : i < n) :
    (support n pat).getD i [] = (List.range n).filter fun j =>
      (pat.getD i []).contains j || (pat.getD j []).contains i :=
  getD_map_range _ hi _

theorem stored_symm (n : Nat) (nb : List (List Nat)) (i j : Nat) : Stored n nb i j ↔ Stored n nb j i := by
  rw [Stored, Stored, and_left_comm, eq_comm, or_comm (a := j ∈ _)]

theorem mem_support (n : Nat) (nb : List (List Nat)) (i j : Nat) (hi : i < n) :
    j ∈ (support n (adjPattern n nb)).getD i [] ↔ Stored n nb i j := by
  rw [support_getD n _ i hi, List.mem_filter, List.mem_range, Stored, and_iff_right hi]
  refine and_congr_right fun hj => ?_
  rw [Bool.or_eq_true, adjPattern_contains n nb i j hi, adjPattern_contains n nb j i hj, eq_comm (a := i),
    ← or_or_distrib_left]

/-- the stored pattern depends on the neighbour lists only through their members (order and repetitions
inside a list, i.e. the order in which an index reports the neighbours, are irrelevant) -/
theorem support_congr (n : Nat) (nb nb' : List (List Nat))
    (h : ∀ i j, i < n → (j ∈ nb.getD i [] ↔ j ∈ nb'.getD i [])) :
    support n (adjPattern n nb) = support n (adjPattern n nb') := by
  unfold support
  refine List.map_congr_left fun i hi => List.filter_congr fun j hj => ?_
  have hi := List.mem_range.mp hi
  have hj := List.mem_range.mp hj
  rw [Bool.eq_iff_iff, Bool.or_eq_true, Bool.or_eq_true, adjPattern_contains n nb i j hi, adjPattern_contains n nb j i hj,
    adjPattern_contains n nb' i j hi, adjPattern_contains n nb' j i hj, h i j hi, h j i hj]

/-- two answers that both satisfy the tie-free contract have the same members -/
theorem nearest_unique {β : Type} [Preorder β] (d : Nat → β) (n c : Nat) (l l' : List Nat)
    (h : Nearest d n c l) (h' : Nearest d n c l') : ∀ a, a ∈ l ↔ a ∈ l' := by
  have key : ∀ (l l' : List Nat), Nearest d n c l → Nearest d n c l' → ∀ a, a ∈ l → a ∈ l' := by
    intro l l' h h' a ha
    by_contra hna
    -- `l'` is as long as `l` and misses `a`, so it has a member `b` outside `l`; then `d a < d b < d a`
    obtain ⟨b, hb, hbl⟩ : ∃ b ∈ l', b ∉ l := by
      by_contra hno
      have hsub : l' ⊆ l := fun b hb => by_contra fun hbl => hno ⟨b, hb, hbl⟩
      exact hna (((h'.1.subperm hsub).perm_of_length_le (h.2.1.trans h'.2.1.symm).le).mem_iff.mpr ha)
    exact lt_irrefl _ ((h.2.2.2 a ha b (h'.2.2.1 b hb) hbl).trans (h'.2.2.2 b hb a (h.2.2.1 a ha) hna))
  exact fun a => ⟨key l l' h h' a, key l' l h' h a⟩

section
variable {α : Type} [Add α] [Sub α] [Mul α] [Div α] [Neg α] [OfNat α 0] [Transc α] [KPow α]

theorem sparse_some (m : Method α) (X : List (List α)) (k : Nat) (nb : List (List Nat)) (S : Csr α)
    (h : sparseFromFn m X k nb = some S) :
    (k < X.length ∧ 0 < k) ∧
    S = (support X.length (adjPattern X.length nb)).mapIdx fun i js =>
      js.map fun j => (j, kernelFn m (X.getD i []) (X.getD j [])) := by
  unfold sparseFromFn at h
  simp only [] at h
  split at h
  · rename_i hk
    exact ⟨hk, (Option.some.inj h).symm⟩
  · cases h

theorem sparse_row (m : Method α) (X : List (List α)) (k : Nat) (nb : List (List Nat)) (S : Csr α)
    (h : sparseFromFn m X k nb = some S) (i : Nat) (hi : i < X.length) :
    S.getD i [] = ((support X.length (adjPattern X.length nb)).getD i []).map fun j =>
      (j, kernelFn m (X.getD i []) (X.getD j [])) := by
  obtain ⟨_, rfl⟩ := sparse_some m X k nb S h
  have hl : i < (support X.length (adjPattern X.length nb)).length := by
    rwa [support, List.length_map, List.length_range]
  rw [List.getD_eq_getElem?_getD (l := List.mapIdx _ _), List.getD_eq_getElem?_getD (l := support _ _),
    List.getElem?_mapIdx, List.getElem?_eq_getElem hl]
  rfl

theorem sparse_row_nodup (m : Method α) (X : List (List α)) (k : Nat) (nb : List (List Nat)) (S : Csr α)
    (h : sparseFromFn m X k nb = some S) (i : Nat) (hi : i < X.length) : ((S.getD i []).map (·.1)).Nodup := by
  rw [sparse_row m X k nb S h i hi, List.map_map, support_getD _ _ i hi]
  exact (List.map_id _).symm ▸ List.nodup_range.filter _

theorem sparse_length (m : Method α) (X : List (List α)) (k : Nat) (nb : List (List Nat)) (S : Csr α)
    (h : sparseFromFn m X k nb = some S) : S.length = X.length := by
  obtain ⟨_, rfl⟩ := sparse_some m X k nb S h
  rw [List.length_mapIdx, support, List.length_map, List.length_range]

end

section
variable {α : Type} [Semiring α]

theorem ext_getD {l₁ l₂ : List α} (n : Nat) (h1 : l₁.length = n) (h2 : l₂.length = n)
    (h : ∀ c < n, l₁.getD c 0 = l₂.getD c 0) : l₁ = l₂ := by
  refine List.ext_getElem (h1.trans h2.symm) fun c hc1 hc2 => ?_
  simpa [List.getD_eq_getElem?_getD, hc1, hc2] using h c (h1 ▸ hc1)

/-- The conclusion has the shape of the hypothesis, so a fold of such folds (`sSum`: rows, then entries) is covered too. -/
theorem foldl_coord {β : Type} (n : Nat) (step : List α → β → List α) (g : β → Nat → α)
    (hstep : ∀ acc e, acc.length = n →
      (step acc e).length = n ∧ ∀ c < n, (step acc e).getD c 0 = acc.getD c 0 + g e c)
    (l : List β) (acc : List α) (hacc : acc.length = n) :
    (l.foldl step acc).length = n ∧ ∀ c < n, (l.foldl step acc).getD c 0 = acc.getD c 0 + (l.map (g · c)).sum := by
  induction l generalizing acc with
  | nil => exact ⟨hacc, fun c _ => by rw [List.map_nil, List.sum_nil, add_zero, List.foldl_nil]⟩
  | cons e rest ih =>
    obtain ⟨hl, hg⟩ := hstep acc e hacc
    obtain ⟨hl', hg'⟩ := ih (step acc e) hl
    exact ⟨hl', fun c hc => by rw [List.foldl_cons, hg' c hc, hg c hc, List.map_cons, List.sum_cons, add_assoc]⟩

theorem foldl_coord_zero {β : Type} (n : Nat) (step : List α → β → List α) (g : β → Nat → α)
    (hstep : ∀ acc e, acc.length = n →
      (step acc e).length = n ∧ ∀ c < n, (step acc e).getD c 0 = acc.getD c 0 + g e c) (l : List β) :
    (l.foldl step (List.replicate n 0)).length = n ∧
      ∀ c < n, (l.foldl step (List.replicate n 0)).getD c 0 = (l.map (g · c)).sum := by
  obtain ⟨hl, hg⟩ := foldl_coord n step g hstep l _ List.length_replicate
  exact ⟨hl, fun c hc => by rw [hg c hc, getD_replicate_self, zero_add]⟩

theorem sSum_spec (n : Nat) (S : Csr α) :
    (sSum n S).length = n ∧ ∀ c < n, (sSum n S).getD c 0 =
      (S.map fun row => (row.map fun e => if e.1 = c then e.2 else 0).sum).sum := by
  refine foldl_coord_zero n _ (fun row c => (row.map fun e => if e.1 = c then e.2 else 0).sum)
    (fun acc row => foldl_coord n _ (fun e c => if e.1 = c then e.2 else 0) (fun acc e hacc => ?_) row acc) S
  refine ⟨by rw [List.length_set, hacc], fun c hc => ?_⟩
  by_cases he : e.1 = c
  · subst he; simp [List.getD_eq_getElem?_getD, hacc, hc]
  · rw [if_neg he, add_zero, getD_set_ne _ _ _ _ _ he]

theorem sum_ite_eq_find (row : List (Nat × α)) (c : Nat) (hn : (row.map (·.1)).Nodup) :
    (row.map fun e => if e.1 = c then e.2 else 0).sum = ((row.find? (fun e => e.1 == c)).map (·.2)).getD 0 := by
  induction row with
  | nil => rfl
  | cons e rest ih =>
    rw [List.map_cons, List.nodup_cons] at hn
    rw [List.map_cons, List.sum_cons, List.find?_cons, ih hn.2]
    by_cases he : e.1 = c
    · have : rest.find? (fun e => e.1 == c) = none :=
        List.find?_eq_none.mpr fun x hx hxc => hn.1 (he ▸ (beq_iff_eq.mp hxc) ▸ List.mem_map_of_mem hx)
      simp [he, this]
    · simp [he, beq_false_of_ne he]

theorem sum_support_row (n : Nat) (pat : List (List Nat)) (i : Nat) (hi : i < n) (g : Nat → α) :
    (((support n pat).getD i []).map g).sum =
      ((List.range n).map fun j => if j ∈ (support n pat).getD i [] then g j else 0).sum := by
  rw [List.sum_map_ite, List.sum_map_zero, add_zero, support_getD n pat i hi]
  refine congrArg (fun l => (l.map g).sum) (List.filter_congr fun j hj => ?_).symm
  simp only [List.mem_filter, hj, true_and, Bool.decide_eq_true]

theorem sDot_row_spec (q : Nat) (R : List (List α)) (hq : ∀ r ∈ R, r.length = q) (row : List (Nat × α)) :
    let out := row.foldl
      (fun acc e => List.zipWith (fun o r => o + e.2 * r) acc (R.getD e.1 (List.replicate q 0))) (List.replicate q 0)
    out.length = q ∧
      ∀ c < q, out.getD c 0 = (row.map fun e => e.2 * (R.getD e.1 (List.replicate q 0)).getD c 0).sum := by
  refine foldl_coord_zero q _ (fun e c => e.2 * (R.getD e.1 (List.replicate q 0)).getD c 0) (fun acc e hacc => ?_) row
  have hr : (R.getD e.1 (List.replicate q 0)).length = q := by
    rw [List.getD_eq_getElem?_getD]
    cases h : R[e.1]? with
    | none => exact List.length_replicate
    | some r => exact hq r (List.mem_of_getElem? h)
  generalize R.getD e.1 (List.replicate q 0) = r at hr ⊢
  exact ⟨by simp [hacc, hr], fun c hc => by simp [List.getD_eq_getElem?_getD, hacc, hr, hc]⟩

end

end LinfaSpec.Kernel
