import LinfaSpec.Model.Dataset
import LinfaSpec.Proofs.Lists

/-!
C02 (`LinfaSpec.Dataset`): the contracts of `selRows`/`selCols`/`reshape`, what each operation returns
when it returns (`*_eq_some`), the alignment relation with its closure under composition, the dataset
invariant `WF`, and per operation (`*_sound`) that what it returns is aligned, `WF` and freshly counted.
The file ends with `Guard`, the specification side of the model's `guardB`.
Label counting is in `Proofs/DatasetLabels.lean`, totality inside the guard in `Proofs/DatasetGuard.lean`.
-/
namespace LinfaSpec.Dataset
variable {R T W : Type}

/-! ### `mapM` in `Option` -/

theorem mapM_eq_some {α β} {f : α → Option β} {l : List α} {out : List β} :
    l.mapM f = some out ↔ l.map f = out.map some := by
  induction l generalizing out with
  | nil => cases out <;> simp
  | cons a l ih => cases out <;> simp [List.mapM_cons, Option.bind_eq_some_iff, ih]

theorem mapM_get {α β} {f : α → Option β} {l : List α} {out : List β} (h : l.mapM f = some out)
    {k : Nat} {d : β} (hk : out[k]? = some d) : ∃ x, l[k]? = some x ∧ f x = some d := by
  have : (l[k]?).map f = some (some d) := by
    rw [← List.getElem?_map, mapM_eq_some.mp h, List.getElem?_map, hk]; rfl
  exact Option.map_eq_some_iff.mp this

theorem mapM_length {α β} {f : α → Option β} {l : List α} {out : List β} (h : l.mapM f = some out) :
    out.length = l.length := by
  simpa using (congrArg List.length (mapM_eq_some.mp h)).symm

theorem mapM_isSome {α β} {f : α → Option β} {l : List α} (h : ∀ x ∈ l, (f x).isSome) : (l.mapM f).isSome := by
  induction l with
  | nil => rfl
  | cons a l ih =>
    obtain ⟨b, hb⟩ := Option.isSome_iff_exists.mp (h a (by simp))
    obtain ⟨bs, hbs⟩ := Option.isSome_iff_exists.mp (ih fun x hx => h x (by simp [hx]))
    simp [hb, hbs]

theorem range_get {n k x : Nat} (h : (List.range n)[k]? = some x) : x = k ∧ k < n := by
  obtain ⟨hlt, e⟩ := List.getElem?_eq_some_iff.mp h
  exact ⟨by simpa using e.symm, by simpa using hlt⟩

theorem map_range_get {β} {F : Nat → β} {n k : Nat} {d : β} (h : ((List.range n).map F)[k]? = some d) : d = F k := by
  rw [List.getElem?_map] at h
  obtain ⟨x, hx, rfl⟩ := Option.map_eq_some_iff.mp h
  rw [(range_get hx).1]

/-- what `d ∈ outs` means for an operation that returns one dataset (resp. two, below) -/
theorem mem_of_map_single {α} {o : Option α} {outs : List α} (h : o.map ([·]) = some outs) {d : α}
    (hd : d ∈ outs) : o = some d := by
  obtain ⟨a, rfl, rfl⟩ := Option.map_eq_some_iff.mp h
  rw [List.mem_singleton.mp hd]

theorem mem_of_map_pair {α} {o : Option (α × α)} {outs : List α} (h : o.map (fun (a, b) => [a, b]) = some outs)
    {d : α} (hd : d ∈ outs) : ∃ a b, o = some (a, b) ∧ (d = a ∨ d = b) := by
  obtain ⟨⟨a, b⟩, rfl, rfl⟩ := Option.map_eq_some_iff.mp h
  exact ⟨a, b, rfl, by simpa using hd⟩

/-! ### reading one list through an index map -/

/-- `ys` reads `xs` through `ρ`: entry `k` of `ys` is entry `ρ k` of `xs`.  The clauses of `AlignedBy` below
about weights, feature names and target names, and the inner clause about the cells of a record row, have this shape. -/
def Via {α} (ρ : Nat → Nat) (xs ys : List α) : Prop := ∀ (k : Nat) (y : α), ys[k]? = some y → xs[ρ k]? = some y

theorem Via.refl {α} (xs : List α) : Via id xs xs := fun _ _ h => h

theorem Via.nil {α} {ρ : Nat → Nat} {xs : List α} : Via ρ xs [] := fun _ _ h => nomatch h

theorem Via.take {α} {ρ : Nat → Nat} {xs ys : List α} (h : Via ρ xs ys) (n : Nat) : Via ρ xs (ys.take n) :=
  fun k y hk => by
    rw [List.getElem?_take] at hk
    split at hk
    · exact h k y hk
    · cases hk

theorem Via.subset {α} {ρ : Nat → Nat} {xs ys : List α} (h : Via ρ xs ys) : ys ⊆ xs := fun y hy => by
  obtain ⟨k, hk⟩ := List.getElem?_of_mem hy
  exact List.mem_of_getElem? (h k y hk)

theorem via_drop {α} (xs : List α) (n : Nat) : Via (n + ·) xs (xs.drop n) :=
  fun _ _ hk => List.getElem?_drop ▸ hk

theorem via_single {α} {j : Nat} {xs ys : List α} (h : (xs[j]?).map ([·]) = some ys) : Via (fun _ => j) xs ys := by
  obtain ⟨x, hx, rfl⟩ := Option.map_eq_some_iff.mp h
  intro k y hk
  cases k with
  | zero => simpa [hx] using hk
  | succ k => simp at hk

/-! ### `select` -/

theorem selRows_get {α} {idx : List Nat} {xs ys : List α} (h : selRows idx xs = some ys)
    {k : Nat} {y : α} (hk : ys[k]? = some y) : ∃ i, idx[k]? = some i ∧ xs[i]? = some y :=
  mapM_get h hk

theorem via_selRows {α} {idx : List Nat} {xs ys : List α} (h : selRows idx xs = some ys) :
    Via (idx.getD · 0) xs ys := fun k y hk => by
  obtain ⟨i, hi, hx⟩ := selRows_get h hk
  simpa [hi] using hx

theorem selRows_getElem? {α} {idx : List Nat} {xs ys : List α} (h : selRows idx xs = some ys) {k : Nat}
    (hk : k < idx.length) : ys[k]? = xs[idx[k]]? := by
  have hk' : k < ys.length := mapM_length h ▸ hk
  obtain ⟨i, hi, hx⟩ := selRows_get h (List.getElem?_eq_getElem hk')
  rw [List.getElem?_eq_getElem hk] at hi
  cases hi
  rw [hx, List.getElem?_eq_getElem hk']

theorem selRows_length {α} {idx : List Nat} {xs ys : List α} (h : selRows idx xs = some ys) :
    ys.length = idx.length := mapM_length h

theorem selRows_filterMap {α} {idx : List Nat} {xs ys : List α} (h : selRows idx xs = some ys) :
    ys = idx.filterMap (xs[·]?) := by
  have := congrArg (List.filterMap id) (mapM_eq_some.mp h)
  simpa [List.filterMap_map, Function.comp_def] using this.symm

theorem range_filterMap_get {α} : ∀ (xs : List α), (List.range xs.length).filterMap (xs[·]?) = xs
  | [] => rfl
  | x :: xs => by
    rw [List.length_cons, List.range_succ_eq_map, List.filterMap_cons, List.filterMap_map]
    exact congrArg (x :: ·) (range_filterMap_get xs)

theorem selRows_isSome {α} {idx : List Nat} {xs : List α} (h : ∀ i ∈ idx, i < xs.length) : (selRows idx xs).isSome :=
  mapM_isSome fun i hi => by simp [h i hi]

theorem selRows_single {α} (j : Nat) (xs : List α) : selRows [j] xs = (xs[j]?).map ([·]) := by
  cases h : xs[j]? <;> simp [selRows, h]

theorem selCols_get {α} {cols : List Nat} {rows out : List (List α)} (h : selCols cols rows = some out)
    {k : Nat} {r : List α} (hk : out[k]? = some r) : ∃ r0, rows[k]? = some r0 ∧ Via (cols.getD · 0) r0 r := by
  obtain ⟨r0, h0, hs⟩ := mapM_get h hk
  exact ⟨r0, h0, via_selRows hs⟩

theorem selCols_rows {α} {cols : List Nat} {rows out : List (List α)} (h : selCols cols rows = some out) :
    out.length = rows.length ∧ ∀ r ∈ out, r.length = cols.length := by
  refine ⟨mapM_length h, fun r hr => ?_⟩
  obtain ⟨k, hk⟩ := List.getElem?_of_mem hr
  obtain ⟨r0, _, hs⟩ := mapM_get h hk
  exact selRows_length hs

theorem selCols_isSome {α} {cols : List Nat} {rows : List (List α)} {p : Nat} (hr : ∀ r ∈ rows, r.length = p)
    (h : ∀ j ∈ cols, j < p) : (selCols cols rows).isSome :=
  mapM_isSome fun r hrr => selRows_isSome fun j hj => hr r hrr ▸ h j hj

theorem colOf_get {α} {j : Nat} {rows out : List (List α)} (h : colOf j rows = some out)
    {k : Nat} {r : List α} (hk : out[k]? = some r) : ∃ r0, rows[k]? = some r0 ∧ Via (fun _ => j) r0 r := by
  obtain ⟨r0, h0, hs⟩ := mapM_get h hk
  exact ⟨r0, h0, via_single (selRows_single j r0 ▸ hs)⟩

theorem colOf_rows {α} {j : Nat} {rows out : List (List α)} (h : colOf j rows = some out) :
    out.length = rows.length ∧ ∀ r ∈ out, r.length = 1 :=
  selCols_rows h

/-! ### row-major buffers of rectangular matrices -/

/-- `from_shape_vec` undoes `into_iter().collect()` -/
theorem reshape_flatten {α} {p : Nat} : ∀ (rows : List (List α)), (∀ r ∈ rows, r.length = p) →
    reshape rows.length p rows.flatten = rows
  | [], _ => rfl
  | r :: rows, h => by
    have hr : r.length = p := h r (by simp)
    have ih := reshape_flatten rows fun r hr => h r (by simp [hr])
    simp only [reshape, List.length_cons, List.range_succ_eq_map, List.map_cons, List.map_map, List.flatten_cons,
      Nat.zero_mul, List.drop_zero, List.take_left' hr, List.cons.injEq, true_and] at ih ⊢
    conv => rhs; rw [← ih]
    refine List.map_congr_left fun i _ => ?_
    simp only [Function.comp, Nat.succ_mul, ← hr, Nat.add_comm (i * r.length), List.drop_length_add_append]

/-- cutting the raw buffer at `n * p` and re-shaping is cutting the rows at `n` -/
theorem reshape_take_flatten {α} {p n : Nat} {rows : List (List α)} (h : ∀ r ∈ rows, r.length = p) (hn : n ≤ rows.length) :
    reshape n p (rows.flatten.take (n * p)) = rows.take n := by
  have := reshape_flatten (rows.take n) fun r hr => h r (List.take_subset _ _ hr)
  rwa [List.length_take, Nat.min_eq_left hn, ← take_flatten_uniform _ _ _ h] at this

theorem reshape_drop_flatten {α} {p n : Nat} {rows : List (List α)} (h : ∀ r ∈ rows, r.length = p) (hn : n ≤ rows.length) :
    reshape (rows.length - n) p (rows.flatten.drop (n * p)) = rows.drop n := by
  have := reshape_flatten (rows.drop n) fun r hr => h r (List.drop_subset _ _ hr)
  rwa [List.length_drop, ← drop_flatten_uniform _ _ _ h] at this

theorem flatten_singletons {α} : ∀ (rows : List (List α)), (∀ g ∈ rows, g.length = 1) →
    rows.flatten.map ([·]) = rows
  | [], _ => rfl
  | g :: rows, h =>
    match g, h g (by simp) with
    | [x], _ => by simp [flatten_singletons rows fun g hg => h g (by simp [hg])]

/-- what an `ndarray` matrix is: every record row has `p` cells, every target row `t`,
and there is one target row per record row -/
def Shaped (ds : DS R T W) : Prop :=
  (∀ r ∈ ds.recs, r.length = ds.p) ∧ (∀ g ∈ ds.tgts, g.length = ds.t) ∧ ds.tgts.length = ds.recs.length

/-- a dataset as the constructors of `DatasetBase` make it: matrix shape, one weight per sample
or none, one name per column or none -/
structure WF (ds : DS R T W) : Prop where
  shaped : Shaped ds
  wts : ds.weights = [] ∨ ds.weights.length = ds.recs.length
  fnm : ds.fnames = [] ∨ ds.fnames.length = ds.p
  tnm : ds.tnames = [] ∨ ds.tnames.length = ds.t

/-! ### what an operation returns, when it returns -/

theorem ite_pair {c : Prop} [Decidable c] {α β} (a₁ a₂ : α) (b₁ b₂ : β) :
    (if c then (a₁, b₁) else (a₂, b₂)) = (if c then a₁ else a₂, if c then b₁ else b₂) := by
  split <;> rfl

theorem splitView_eq_some [DecidableEq T] {n1 : Nat} {ds a b : DS R T W} (h : splitView n1 ds = some (a, b)) :
    n1 ≤ ds.n ∧
      a = { ds with recs := ds.recs.take n1, tgts := ds.tgts.take n1,
                    weights := if ds.weights.length = ds.n then ds.weights.take n1 else [],
                    counts := recount ds.counted ds.t (ds.tgts.take n1) } ∧
      b = { ds with recs := ds.recs.drop n1, tgts := ds.tgts.drop n1,
                    weights := if ds.weights.length = ds.n then ds.weights.drop n1 else [],
                    counts := recount ds.counted ds.t (ds.tgts.drop n1) } := by
  rw [splitView, Option.ite_none_left_eq_some, ite_pair] at h
  cases h.2
  exact ⟨by omega, rfl, rfl⟩

theorem splitOwned_eq_some {std : Bool} {n1 : Nat} {ds a b : DS R T W} (h : splitOwned std n1 ds = some (a, b)) :
    std = true ∧ n1 ≤ ds.n ∧
      a = { ds with recs := reshape n1 ds.p (ds.recs.flatten.take (n1 * ds.p)),
                    tgts := reshape n1 ds.t (ds.tgts.flatten.take (n1 * ds.t)),
                    weights := if ds.weights.length = ds.n then ds.weights.take n1 else ds.weights } ∧
      b = { ds with recs := reshape (ds.n - n1) ds.p (ds.recs.flatten.drop (n1 * ds.p)),
                    tgts := reshape (ds.n - n1) ds.t (ds.tgts.flatten.drop (n1 * ds.t)),
                    weights := if ds.weights.length = ds.n then ds.weights.drop n1 else [] } := by
  rw [splitOwned, Option.ite_none_left_eq_some, Option.ite_none_left_eq_some] at h
  obtain ⟨hs, hn, h⟩ := h
  dsimp only at h
  rw [show n1 + (ds.n - n1) = ds.n by omega, ite_pair] at h
  cases h
  exact ⟨Bool.of_not_eq_false hs, by omega, rfl, rfl⟩

/-- on a rectangular dataset the owned split cuts records and targets where the view split does -/
theorem splitOwned_eq_some_of_shaped {std : Bool} {n1 : Nat} {ds a b : DS R T W} (hs : Shaped ds)
    (h : splitOwned std n1 ds = some (a, b)) :
    n1 ≤ ds.n ∧
      a = { ds with recs := ds.recs.take n1, tgts := ds.tgts.take n1,
                    weights := if ds.weights.length = ds.n then ds.weights.take n1 else ds.weights } ∧
      b = { ds with recs := ds.recs.drop n1, tgts := ds.tgts.drop n1,
                    weights := if ds.weights.length = ds.n then ds.weights.drop n1 else [] } := by
  obtain ⟨-, hn, rfl, rfl⟩ := splitOwned_eq_some h
  have hn' : n1 ≤ ds.tgts.length := hs.2.2 ▸ hn
  refine ⟨hn, ?_, ?_⟩
  · rw [reshape_take_flatten hs.1 hn, reshape_take_flatten hs.2.1 hn']
  · rw [show ds.n = ds.recs.length from rfl, reshape_drop_flatten hs.1 hn, ← hs.2.2, reshape_drop_flatten hs.2.1 hn']

theorem shuffle_eq_some [DecidableEq T] {idx : List Nat} {ds d : DS R T W} (h : shuffle idx ds = some d) :
    ∃ r g, selRows idx ds.recs = some r ∧ selRows idx ds.tgts = some g ∧
      d = { ds with recs := r, tgts := g, weights := [], counts := recount ds.counted ds.t g } := by
  unfold shuffle at h
  split at h
  · exact ⟨_, _, ‹_›, ‹_›, (Option.some.inj h).symm⟩
  · cases h

theorem bootstrapSamples_eq_some [DecidableEq T] {ns : Nat} {idx : List Nat} {ds d : DS R T W}
    (h : bootstrapSamples ns idx ds = some d) :
    ∃ r g, selRows idx ds.recs = some r ∧ selRows idx ds.tgts = some g ∧
      d = { ds with recs := r, tgts := g, weights := [], fnames := [], tnames := [],
                    counts := recount ds.counted ds.t g } := by
  rw [bootstrapSamples, Option.ite_none_left_eq_some] at h
  obtain ⟨-, h⟩ := h
  split at h
  · exact ⟨_, _, ‹_›, ‹_›, (Option.some.inj h).symm⟩
  · cases h

theorem bootstrapFeatures_eq_some [DecidableEq T] {nf : Nat} {fidx : List Nat} {ds d : DS R T W}
    (h : bootstrapFeatures nf fidx ds = some d) :
    ∃ r, selCols fidx ds.recs = some r ∧
      d = { ds with p := fidx.length, recs := r, weights := [], fnames := [], tnames := [],
                    counts := recount ds.counted ds.t ds.tgts } := by
  rw [bootstrapFeatures, Option.ite_none_left_eq_some] at h
  obtain ⟨-, h⟩ := h
  split at h
  · exact ⟨_, ‹_›, (Option.some.inj h).symm⟩
  · cases h

theorem bootstrap_eq_some [DecidableEq T] {ns nf : Nat} {idx fidx : List Nat} {ds d : DS R T W}
    (h : bootstrap ns nf idx fidx ds = some d) :
    ∃ d1, bootstrapSamples ns idx ds = some d1 ∧ bootstrapFeatures nf fidx d1 = some d := by
  unfold bootstrap at h
  split at h
  · cases h
  · exact ⟨_, ‹_›, h⟩

theorem withLabels_eq_some [DecidableEq T] {labs : List T} {ds d : DS R T W} (h : withLabels labs ds = some d) :
    ∃ r g w, selRows (keptIdx labs (ds.tgts.take ds.n)) ds.recs = some r ∧
      selRows (keptIdx labs (ds.tgts.take ds.n)) ds.tgts = some g ∧
      (if ds.weights.isEmpty then some [] else selRows (keptIdx labs (ds.tgts.take ds.n)) ds.weights) = some w ∧
      d = { ds with recs := r, tgts := g, weights := w, counts := some (labelCount ds.t g) } := by
  unfold withLabels at h
  dsimp only at h
  split at h
  · exact ⟨_, _, _, ‹_›, ‹_›, ‹_›, (Option.some.inj h).symm⟩
  · cases h

theorem mem_oneVsAll [DecidableEq T] {ds : DS R T W} {l : T} {d : DS R Bool W} (h : (l, d) ∈ oneVsAll ds) :
    l ∈ labelsOf ds ∧
      d = { p := ds.p, t := ds.t, ix1 := ds.ix1, recs := ds.recs,
            tgts := ds.tgts.map fun row => row.map fun x => decide (x = l),
            weights := ds.weights, fnames := ds.fnames, tnames := ds.tnames,
            counts := some (labelCount ds.t (ds.tgts.map fun row => row.map fun x => decide (x = l))) } := by
  obtain ⟨l', hl, e⟩ := List.mem_map.mp h
  cases e
  exact ⟨hl, rfl⟩

theorem intoSingleTarget_eq_some {ds d : DS R T W} (h : intoSingleTarget ds = some d) :
    ds.tgts.flatten.length = ds.n ∧
      d = { ds with t := 1, ix1 := true, tgts := ds.tgts.flatten.map ([·]), weights := [], fnames := [],
                    tnames := [], counts := none } := by
  unfold intoSingleTarget at h
  dsimp only at h
  split at h
  · exact ⟨‹_›, (Option.some.inj h).symm⟩
  · cases h

theorem featureIter_get {ds : DS R T W} {outs : List (DS R T W)} (h : featureIter ds = some outs)
    {j : Nat} {d : DS R T W} (hd : outs[j]? = some d) : ∃ r fnm, colOf j ds.recs = some r ∧
      (if ds.fnames.length = 1 then (ds.fnames[j]?).map ([·]) else some []) = some fnm ∧
      d = { ds with p := 1, recs := r, fnames := fnm, counts := none } := by
  obtain ⟨x, hx, hf⟩ := mapM_get h hd
  obtain ⟨rfl, -⟩ := range_get hx
  split at hf
  · exact ⟨_, _, ‹_›, ‹_›, (Option.some.inj hf).symm⟩
  · cases hf

theorem targetIter_get {ds : DS R T W} {outs : List (DS R T W)} (h : targetIter ds = some outs)
    {c : Nat} {d : DS R T W} (hd : outs[c]? = some d) : ∃ g tnm, colOf c ds.tgts = some g ∧
      (if ds.tnames.isEmpty then some [] else (ds.tnames[c]?).map ([·])) = some tnm ∧
      d = { ds with t := 1, tgts := g, tnames := tnm, counts := none } := by
  obtain ⟨x, hx, hf⟩ := mapM_get h hd
  obtain ⟨rfl, -⟩ := range_get hx
  split at hf
  · exact ⟨_, _, ‹_›, ‹_›, (Option.some.inj hf).symm⟩
  · cases hf

theorem sampleIter_pairs {ds : DS R T W} {prs : List (List R × List T)} (h : sampleIter ds = some prs) :
    prs.length = ds.n ∧ ∀ (k : Nat) (r : List R) (g : List T), prs[k]? = some (r, g) → ds.recs[k]? = some r ∧ ds.tgts[k]? = some g := by
  refine ⟨by simpa using mapM_length h, fun k r g hk => ?_⟩
  obtain ⟨x, hx, hf⟩ := mapM_get h hk
  obtain ⟨rfl, -⟩ := range_get hx
  split at hf
  · cases hf; exact ⟨‹_›, ‹_›⟩
  · cases hf

theorem sampleChunks_eq_some [DecidableEq T] {size : Nat} {ds : DS R T W} {outs : List (DS R T W)}
    (h : sampleChunks size ds = some outs) :
    0 < size ∧ outs = (List.range (ds.n / size)).map fun i =>
      { ds with recs := (ds.recs.drop (i * size)).take size, tgts := (ds.tgts.drop (i * size)).take size,
                weights := [], fnames := [], tnames := [],
                counts := recount ds.counted ds.t ((ds.tgts.drop (i * size)).take size) } := by
  rw [sampleChunks, Option.ite_none_left_eq_some] at h
  exact ⟨by omega, (Option.some.inj h.2).symm⟩

theorem runSeq_cons [DecidableEq T] {ofBool : Bool → T} {op : Op T} {k : Nat} {rest : List (Op T × Nat)}
    {ds ds' : DS R T W} (h : runSeq ofBool ((op, k) :: rest) ds = some ds') :
    ∃ outs d, apply ofBool op ds = some outs ∧ outs[k]? = some d ∧ runSeq ofBool rest d = some ds' := by
  rw [runSeq] at h
  split at h
  · cases h
  split at h
  · cases h
  · exact ⟨_, _, ‹_›, ‹_›, h⟩

/-! ### alignment -/

/-- `b` is aligned with `a` through the sample map `ρ`, the feature-column map `γ`, the
target-column map `τ` and the relabelling `f`:
row `k` of `b` has the record cells, the target cells (relabelled by `f`) and — if `b`
carries weights — the weight of sample `ρ k` of `a`; record column `j` of `b` is record
column `γ j` of `a` and — if `b` carries feature names — is named like it; target column
`j` of `b` is target column `τ j` of `a` and — if `b` carries target names — is named like it. -/
structure AlignedBy (ρ γ τ : Nat → Nat) (f : T → T) (a b : DS R T W) : Prop where
  recs : ∀ (k : Nat) (r : List R), b.recs[k]? = some r →
    ∃ r0, a.recs[ρ k]? = some r0 ∧ ∀ (j : Nat) (x : R), r[j]? = some x → r0[γ j]? = some x
  tgts : ∀ (k : Nat) (g : List T), b.tgts[k]? = some g →
    ∃ g0, a.tgts[ρ k]? = some g0 ∧ ∀ (j : Nat) (y : T), g[j]? = some y → ∃ y0, g0[τ j]? = some y0 ∧ y = f y0
  wts : ∀ (k : Nat) (w : W), b.weights[k]? = some w → a.weights[ρ k]? = some w
  fnm : ∀ (j : Nat) (nm : String), b.fnames[j]? = some nm → a.fnames[γ j]? = some nm
  tnm : ∀ (j : Nat) (nm : String), b.tnames[j]? = some nm → a.tnames[τ j]? = some nm

def Aligned (a b : DS R T W) : Prop := ∃ ρ γ τ f, AlignedBy ρ γ τ f a b

theorem AlignedBy.refl (a : DS R T W) : AlignedBy id id id id a a :=
  ⟨fun _ r h => ⟨r, h, fun _ _ hx => hx⟩, fun _ g h => ⟨g, h, fun _ y hy => ⟨y, hy, rfl⟩⟩, Via.refl _, Via.refl _, Via.refl _⟩

theorem AlignedBy.trans {ρ₁ γ₁ τ₁ ρ₂ γ₂ τ₂ : Nat → Nat} {f₁ f₂ : T → T} {a b c : DS R T W}
    (h₁ : AlignedBy ρ₁ γ₁ τ₁ f₁ a b) (h₂ : AlignedBy ρ₂ γ₂ τ₂ f₂ b c) :
    AlignedBy (ρ₁ ∘ ρ₂) (γ₁ ∘ γ₂) (τ₁ ∘ τ₂) (f₂ ∘ f₁) a c := by
  refine ⟨fun k r hr => ?_, fun k g hg => ?_, fun k w hw => h₁.wts _ _ (h₂.wts k w hw),
    fun j nm h => h₁.fnm _ _ (h₂.fnm j nm h), fun j nm h => h₁.tnm _ _ (h₂.tnm j nm h)⟩
  · obtain ⟨r1, hr1, hc1⟩ := h₂.recs k r hr
    obtain ⟨r0, hr0, hc0⟩ := h₁.recs (ρ₂ k) r1 hr1
    exact ⟨r0, hr0, fun j x hx => hc0 _ _ (hc1 j x hx)⟩
  · obtain ⟨g1, hg1, hc1⟩ := h₂.tgts k g hg
    obtain ⟨g0, hg0, hc0⟩ := h₁.tgts (ρ₂ k) g1 hg1
    refine ⟨g0, hg0, fun j y hy => ?_⟩
    obtain ⟨y1, hy1, rfl⟩ := hc1 j y hy
    obtain ⟨y0, hy0, rfl⟩ := hc0 _ y1 hy1
    exact ⟨y0, hy0, rfl⟩

theorem Aligned.refl (a : DS R T W) : Aligned a a := ⟨id, id, id, id, AlignedBy.refl a⟩

theorem Aligned.trans {a b c : DS R T W} (h₁ : Aligned a b) (h₂ : Aligned b c) : Aligned a c := by
  obtain ⟨ρ₁, γ₁, τ₁, f₁, h₁⟩ := h₁
  obtain ⟨ρ₂, γ₂, τ₂, f₂, h₂⟩ := h₂
  exact ⟨_, _, _, _, h₁.trans h₂⟩

/-! ### what every operation guarantees of a dataset it returns -/

/-- a cached label count, when there is one, is the count of the targets it sits next to -/
def CountsOk [DecidableEq T] (ds : DS R T W) : Prop :=
  ∀ c, ds.counts = some c → c = labelCount ds.t ds.tgts

theorem recount_ok [DecidableEq T] {b : Bool} {d : DS R T W} (hc : d.counts = recount b d.t d.tgts) : CountsOk d := by
  intro c hco
  rw [hc, recount] at hco
  split at hco
  · exact (Option.some.inj hco).symm
  · cases hco

/-- the property, for one dataset `d` returned for `ds`: aligned with it through the given maps, again a
dataset the constructors could have built, any cached label counts fresh -/
structure Sound [DecidableEq T] (ρ γ τ : Nat → Nat) (f : T → T) (ds d : DS R T W) : Prop where
  aligned : AlignedBy ρ γ τ f ds d
  wf : WF ds → WF d
  counts : CountsOk d

theorem Sound.trans [DecidableEq T] {ρ₁ γ₁ τ₁ ρ₂ γ₂ τ₂ : Nat → Nat} {f₁ f₂ : T → T} {a b c : DS R T W}
    (h₁ : Sound ρ₁ γ₁ τ₁ f₁ a b) (h₂ : Sound ρ₂ γ₂ τ₂ f₂ b c) :
    Sound (ρ₁ ∘ ρ₂) (γ₁ ∘ γ₂) (τ₁ ∘ τ₂) (f₂ ∘ f₁) a c :=
  ⟨h₁.aligned.trans h₂.aligned, fun hw => h₂.wf (h₁.wf hw), h₂.counts⟩

/-- whole samples moved by `ρ`, columns untouched, names kept or dropped: the shape of every dataset returned
by the splits, shuffle, sample bootstrap, label filter, view, `to_owned`, chunks.  The shape of a matrix
depends only on which rows there are; the two length facts are per operation. -/
theorem rows_aligned_wf {ρ : Nat → Nat} {ds d : DS R T W} (hp : d.p = ds.p) (ht : d.t = ds.t)
    (hr : Via ρ ds.recs d.recs) (hg : Via ρ ds.tgts d.tgts) (hw : Via ρ ds.weights d.weights)
    (hf : d.fnames = [] ∨ d.fnames = ds.fnames) (hn : d.tnames = [] ∨ d.tnames = ds.tnames)
    (hl : WF ds → d.tgts.length = d.recs.length ∧ (d.weights = [] ∨ d.weights.length = d.recs.length)) :
    AlignedBy ρ id id id ds d ∧ (WF ds → WF d) :=
  ⟨⟨fun k r h => ⟨r, hr k r h, fun _ _ hx => hx⟩, fun k g h => ⟨g, hg k g h, fun _ y hy => ⟨y, hy, rfl⟩⟩, hw,
      hf.elim (fun e => e ▸ Via.nil) (fun e => e ▸ Via.refl _), hn.elim (fun e => e ▸ Via.nil) (fun e => e ▸ Via.refl _)⟩,
    fun hwf => ⟨⟨fun r h => hp ▸ hwf.shaped.1 r (hr.subset h), fun g h => ht ▸ hwf.shaped.2.1 g (hg.subset h), (hl hwf).1⟩,
      (hl hwf).2, hf.elim .inl fun e => by rw [e, hp]; exact hwf.fnm, hn.elim .inl fun e => by rw [e, ht]; exact hwf.tnm⟩⟩

theorem Sound.of_rows [DecidableEq T] {ρ : Nat → Nat} {b : Bool} {ds d : DS R T W}
    (h : AlignedBy ρ id id id ds d ∧ (WF ds → WF d)) (hc : d.counts = recount b d.t d.tgts) : Sound ρ id id id ds d :=
  ⟨h.1, h.2, recount_ok hc⟩

theorem via_ite {α} {c : Prop} [Decidable c] {ρ : Nat → Nat} {xs ys zs : List α} (h₁ : Via ρ xs ys) (h₂ : Via ρ xs zs) :
    Via ρ xs (if c then ys else zs) := by
  split
  · exact h₁
  · exact h₂

/-- the weights of a split part: one per sample of the part, or none -/
theorem wts_ite {c : Prop} [Decidable c] {ws zs : List W} {m : Nat} (h₁ : c → ws.length = m)
    (h₂ : ¬c → zs = [] ∨ zs.length = m) : (if c then ws else zs) = [] ∨ (if c then ws else zs).length = m := by
  split
  · exact .inr (h₁ ‹_›)
  · exact h₂ ‹_›

/-! ### one lemma per operation -/

theorem splitView_sound [DecidableEq T] {n1 : Nat} {ds a b : DS R T W} (h : splitView n1 ds = some (a, b)) :
    Sound id id id id ds a ∧ Sound (fun k => n1 + k) id id id ds b := by
  obtain ⟨-, rfl, rfl⟩ := splitView_eq_some h
  -- first part: the first `n1` rows (`Via.take`); second part: the rest, shifted by `n1` (`via_drop`);
  -- what is left are the weights (`?wa`, `?wb`) and the two length facts of `WF` (`?la`, `?lb`)
  refine ⟨.of_rows (rows_aligned_wf rfl rfl (.take (.refl _) _) (.take (.refl _) _) ?wa (.inr rfl) (.inr rfl) ?la) rfl,
    .of_rows (rows_aligned_wf rfl rfl (via_drop _ _) (via_drop _ _) ?wb (.inr rfl) (.inr rfl) ?lb) rfl⟩
  case wa => exact via_ite (.take (.refl _) _) .nil
  case wb => exact via_ite (via_drop _ _) .nil
  case la =>
    exact fun hw => ⟨by simp only [List.length_take, hw.shaped.2.2],
      wts_ite (fun c => by simp only [List.length_take, c, DS.n]) fun _ => .inl rfl⟩
  case lb =>
    exact fun hw => ⟨by simp only [List.length_drop, hw.shaped.2.2],
      wts_ite (fun c => by simp only [List.length_drop, c, DS.n]) fun _ => .inl rfl⟩

/-- the owned split needs the matrix shape: then its parts hold the rows of the view split
(its counts are the input's: fresh only because the input has none) -/
theorem splitOwned_rows {std : Bool} {n1 : Nat} {ds a b : DS R T W} (hs : Shaped ds)
    (h : splitOwned std n1 ds = some (a, b)) :
    (AlignedBy id id id id ds a ∧ (WF ds → WF a)) ∧ (AlignedBy (fun k => n1 + k) id id id ds b ∧ (WF ds → WF b)) := by
  obtain ⟨-, rfl, rfl⟩ := splitOwned_eq_some_of_shaped hs h
  refine ⟨rows_aligned_wf rfl rfl (.take (.refl _) _) (.take (.refl _) _) ?wa (.inr rfl) (.inr rfl) ?la,
    rows_aligned_wf rfl rfl (via_drop _ _) (via_drop _ _) ?wb (.inr rfl) (.inr rfl) ?lb⟩
  -- a weight vector that is not one per sample stays whole in the first part: `WF` rules that case out
  case wa => exact via_ite (.take (.refl _) _) (.refl _)
  case wb => exact via_ite (via_drop _ _) .nil
  case la =>
    exact fun hw => ⟨by simp only [List.length_take, hs.2.2],
      wts_ite (fun c => by simp only [List.length_take, c, DS.n]) fun c => hw.wts.imp_right fun e => absurd e c⟩
  case lb =>
    exact fun hw => ⟨by simp only [List.length_drop, hs.2.2],
      wts_ite (fun c => by simp only [List.length_drop, c, DS.n]) fun _ => .inl rfl⟩

theorem Sound.of_selRows [DecidableEq T] {idx : List Nat} {b : Bool} {ds d : DS R T W} (hp : d.p = ds.p) (ht : d.t = ds.t)
    (hr : selRows idx ds.recs = some d.recs) (hg : selRows idx ds.tgts = some d.tgts)
    (hw : d.weights = [] ∨ selRows idx ds.weights = some d.weights)
    (hf : d.fnames = [] ∨ d.fnames = ds.fnames) (hn : d.tnames = [] ∨ d.tnames = ds.tnames)
    (hc : d.counts = recount b d.t d.tgts) : Sound (fun k => idx.getD k 0) id id id ds d :=
  .of_rows (rows_aligned_wf hp ht (via_selRows hr) (via_selRows hg) (hw.elim (fun e => e ▸ .nil) via_selRows) hf hn
    fun _ => ⟨by rw [selRows_length hr, selRows_length hg],
      hw.imp_right fun h => by rw [selRows_length h, selRows_length hr]⟩) hc

theorem shuffle_sound [DecidableEq T] {idx : List Nat} {ds d : DS R T W} (h : shuffle idx ds = some d) :
    Sound (fun k => idx.getD k 0) id id id ds d := by
  obtain ⟨r, g, hr, hg, rfl⟩ := shuffle_eq_some h
  exact .of_selRows rfl rfl hr hg (.inl rfl) (.inr rfl) (.inr rfl) rfl

theorem bootstrapSamples_sound [DecidableEq T] {ns : Nat} {idx : List Nat} {ds d : DS R T W}
    (h : bootstrapSamples ns idx ds = some d) : Sound (fun k => idx.getD k 0) id id id ds d := by
  obtain ⟨r, g, hr, hg, rfl⟩ := bootstrapSamples_eq_some h
  exact .of_selRows rfl rfl hr hg (.inl rfl) (.inl rfl) (.inl rfl) rfl

theorem withLabels_sound [DecidableEq T] {labs : List T} {ds d : DS R T W} (h : withLabels labs ds = some d) :
    Sound (fun k => (keptIdx labs (ds.tgts.take ds.n)).getD k 0) id id id ds d := by
  obtain ⟨r, g, w, hr, hg, hw, rfl⟩ := withLabels_eq_some h
  refine .of_selRows (b := true) rfl rfl hr hg ?_ (.inr rfl) (.inr rfl) rfl
  split at hw
  · exact .inl (Option.some.inj hw).symm
  · exact .inr hw

theorem view_sound [DecidableEq T] (ds : DS R T W) : Sound id id id id ds (view ds) :=
  .of_rows (rows_aligned_wf rfl rfl (.refl _) (.refl _) (.refl _) (.inr rfl) (.inr rfl) fun hw => ⟨hw.shaped.2.2, hw.wts⟩) rfl

theorem toOwned_sound [DecidableEq T] (ds : DS R T W) : Sound id id id id ds (toOwned ds) :=
  .of_rows (rows_aligned_wf rfl rfl (.refl _) (.refl _) .nil (.inl rfl) (.inl rfl) fun hw => ⟨hw.shaped.2.2, .inl rfl⟩) rfl

theorem sampleChunks_sound [DecidableEq T] {size : Nat} {ds : DS R T W} {outs : List (DS R T W)}
    (h : sampleChunks size ds = some outs) (i : Nat) (d : DS R T W) (hd : outs[i]? = some d) :
    Sound (fun k => i * size + k) id id id ds d := by
  rw [(sampleChunks_eq_some h).2] at hd
  rw [map_range_get hd]
  exact .of_rows (rows_aligned_wf rfl rfl (.take (via_drop _ _) _) (.take (via_drop _ _) _) .nil (.inl rfl) (.inl rfl)
    fun hw => ⟨by simp only [List.length_take, List.length_drop, hw.shaped.2.2], .inl rfl⟩) rfl

theorem intoSingleTarget_sound [DecidableEq T] {ds d : DS R T W} (ht : ∀ g ∈ ds.tgts, g.length = 1)
    (h : intoSingleTarget ds = some d) : Sound id id id id ds d := by
  obtain ⟨hl, rfl⟩ := intoSingleTarget_eq_some h
  have e := flatten_singletons ds.tgts ht
  refine ⟨⟨fun _ r h => ⟨r, h, fun _ _ hx => hx⟩, fun _ g hg => ⟨g, ?_, fun _ y hy => ⟨y, hy, rfl⟩⟩, Via.nil, Via.nil, Via.nil⟩,
    fun hw => ⟨⟨hw.shaped.1, ?_, by rw [List.length_map]; exact hl⟩, .inl rfl, .inl rfl, .inl rfl⟩, recount_ok (b := false) rfl⟩
  · rwa [← e]
  · rw [e]; exact ht

/-- labels mapped cell by cell, everything else untouched -/
theorem Sound.of_relabel [DecidableEq T] (f : T → T) {b : Bool} {ds d : DS R T W} (hp : d.p = ds.p) (ht : d.t = ds.t)
    (hr : d.recs = ds.recs) (hg : d.tgts = ds.tgts.map (·.map f)) (hw : d.weights = ds.weights)
    (hf : d.fnames = ds.fnames) (hn : d.tnames = ds.tnames) (hc : d.counts = recount b d.t d.tgts) :
    Sound id id id f ds d where
  aligned := by
    refine ⟨fun k r h => ⟨r, hr ▸ h, fun _ _ hx => hx⟩, fun k g h => ?_, hw ▸ Via.refl _, hf ▸ Via.refl _, hn ▸ Via.refl _⟩
    rw [hg, List.getElem?_map] at h
    obtain ⟨g0, h0, rfl⟩ := Option.map_eq_some_iff.mp h
    refine ⟨g0, h0, fun j y hy => ?_⟩
    rw [List.getElem?_map] at hy
    obtain ⟨y0, hy0, rfl⟩ := Option.map_eq_some_iff.mp hy
    exact ⟨y0, hy0, rfl⟩
  wf hwf := by
    refine ⟨⟨fun r h => hp ▸ hwf.shaped.1 r (hr ▸ h), fun g h => ?_, by rw [hg, hr, List.length_map, hwf.shaped.2.2]⟩,
      by rw [hw, hr]; exact hwf.wts, by rw [hf, hp]; exact hwf.fnm, by rw [hn, ht]; exact hwf.tnm⟩
    rw [hg] at h
    obtain ⟨g0, h0, rfl⟩ := List.mem_map.mp h
    rw [List.length_map, ht, hwf.shaped.2.1 g0 h0]
  counts := recount_ok hc

theorem mapTargets_sound [DecidableEq T] (f : T → T) (ds : DS R T W) : Sound id id id f ds (mapTargets f ds) :=
  .of_relabel (b := false) f rfl rfl rfl rfl rfl rfl rfl rfl

/-- one-vs-all, with the boolean labels embedded back into the label carrier and counted again -/
theorem oneVsAll_sound [DecidableEq T] (ofBool : Bool → T) {ds : DS R T W} {l : T} {d : DS R Bool W}
    (hd : (l, d) ∈ oneVsAll ds) : Sound id id id (fun x => ofBool (decide (x = l))) ds
      { mapTargets ofBool d with counts := some (labelCount d.t (mapTargets ofBool d).tgts) } := by
  obtain ⟨-, rfl⟩ := mem_oneVsAll hd
  exact .of_relabel (b := true) _ rfl rfl rfl (by simp [mapTargets, Function.comp_def]) rfl rfl rfl rfl

theorem bootstrapFeatures_sound [DecidableEq T] {nf : Nat} {fidx : List Nat} {ds d : DS R T W}
    (h : bootstrapFeatures nf fidx ds = some d) : Sound id (fun j => fidx.getD j 0) id id ds d := by
  obtain ⟨r, hr, rfl⟩ := bootstrapFeatures_eq_some h
  obtain ⟨hl, hrow⟩ := selCols_rows hr
  exact ⟨⟨fun _ _ => selCols_get hr, fun _ g h => ⟨g, h, fun _ y hy => ⟨y, hy, rfl⟩⟩, Via.nil, Via.nil, Via.nil⟩,
    fun hw => ⟨⟨hrow, hw.shaped.2.1, hl ▸ hw.shaped.2.2⟩, .inl rfl, .inl rfl, .inl rfl⟩, recount_ok rfl⟩

theorem bootstrap_sound [DecidableEq T] {ns nf : Nat} {idx fidx : List Nat} {ds d : DS R T W}
    (h : bootstrap ns nf idx fidx ds = some d) :
    Sound (fun k => idx.getD k 0) (fun j => fidx.getD j 0) id id ds d := by
  obtain ⟨d1, hs, hf⟩ := bootstrap_eq_some h
  exact (bootstrapSamples_sound hs).trans (bootstrapFeatures_sound hf)

/-! The two column iterators are stated without `Sound`: they exist for label types without decidable equality. -/

theorem featureIter_spec {ds : DS R T W} {outs : List (DS R T W)} (h : featureIter ds = some outs)
    (j : Nat) (d : DS R T W) (hd : outs[j]? = some d) :
    AlignedBy id (fun _ => j) id id ds d ∧ (WF ds → WF d) ∧ d.counts = none := by
  obtain ⟨r, fnm, hr, hn, rfl⟩ := featureIter_get h hd
  obtain ⟨hl, hrow⟩ := colOf_rows hr
  have hfn : Via (fun _ => j) ds.fnames fnm ∧ (fnm = [] ∨ fnm.length = 1) := by
    split at hn
    · obtain ⟨nm, -, e⟩ := Option.map_eq_some_iff.mp hn
      exact ⟨via_single hn, .inr (e ▸ rfl)⟩
    · cases hn; exact ⟨.nil, .inl rfl⟩
  exact ⟨⟨fun _ _ => colOf_get hr, fun _ g h => ⟨g, h, fun _ y hy => ⟨y, hy, rfl⟩⟩, Via.refl _, hfn.1, Via.refl _⟩,
    fun hw => ⟨⟨hrow, hw.shaped.2.1, hl ▸ hw.shaped.2.2⟩, hl ▸ hw.wts, hfn.2, hw.tnm⟩, rfl⟩

theorem targetIter_spec {ds : DS R T W} {outs : List (DS R T W)} (h : targetIter ds = some outs)
    (c : Nat) (d : DS R T W) (hd : outs[c]? = some d) :
    AlignedBy id id (fun _ => c) id ds d ∧ (WF ds → WF d) ∧ d.counts = none := by
  obtain ⟨g, tnm, hg, hn, rfl⟩ := targetIter_get h hd
  obtain ⟨hl, hrow⟩ := colOf_rows hg
  have htn : Via (fun _ => c) ds.tnames tnm ∧ (tnm = [] ∨ tnm.length = 1) := by
    split at hn
    · cases hn; exact ⟨.nil, .inl rfl⟩
    · obtain ⟨nm, -, e⟩ := Option.map_eq_some_iff.mp hn
      exact ⟨via_single hn, .inr (e ▸ rfl)⟩
  refine ⟨⟨fun _ r hr => ⟨r, hr, fun _ _ hx => hx⟩, fun k row hk => ?_, Via.refl _, Via.refl _, htn.1⟩,
    fun hw => ⟨⟨hw.shaped.1, hrow, hl.trans hw.shaped.2.2⟩, hw.wts, hw.fnm, htn.2⟩, rfl⟩
  obtain ⟨g0, h0, hv⟩ := colOf_get hg hk
  exact ⟨g0, h0, fun j y hy => ⟨y, hv j y hy, rfl⟩⟩

/-! ### the bootstrap family by name -/

theorem bootstrapSamples_alignedBy [DecidableEq T] {ns : Nat} {idx : List Nat} {ds d : DS R T W}
    (h : bootstrapSamples ns idx ds = some d) : AlignedBy (fun k => idx.getD k 0) id id id ds d :=
  (bootstrapSamples_sound h).aligned

theorem bootstrapFeatures_alignedBy [DecidableEq T] {nf : Nat} {fidx : List Nat} {ds d : DS R T W}
    (h : bootstrapFeatures nf fidx ds = some d) : AlignedBy id (fun j => fidx.getD j 0) id id ds d :=
  (bootstrapFeatures_sound h).aligned

theorem bootstrap_aligned [DecidableEq T] {ns nf : Nat} {idx fidx : List Nat} {ds d : DS R T W}
    (h : bootstrap ns nf idx fidx ds = some d) : Aligned ds d :=
  ⟨_, _, _, _, (bootstrap_sound h).aligned⟩

theorem bootstrapSamples_wf [DecidableEq T] {ns : Nat} {idx : List Nat} {ds d : DS R T W} (hw : WF ds)
    (h : bootstrapSamples ns idx ds = some d) : WF d :=
  (bootstrapSamples_sound h).wf hw

theorem bootstrapFeatures_wf [DecidableEq T] {nf : Nat} {fidx : List Nat} {ds d : DS R T W} (hw : WF ds)
    (h : bootstrapFeatures nf fidx ds = some d) : WF d :=
  (bootstrapFeatures_sound h).wf hw

theorem bootstrap_wf [DecidableEq T] {ns nf : Nat} {idx fidx : List Nat} {ds d : DS R T W} (hw : WF ds)
    (h : bootstrap ns nf idx fidx ds = some d) : WF d :=
  (bootstrap_sound h).wf hw

/-! ### all operations at once -/

/-- `into_single_target` gets the `[n, 1]` shape it needs from the matrix shape -/
theorem singletons_of_wf {ds d : DS R T W} (hw : WF ds) (h : intoSingleTarget ds = some d) :
    ∀ g ∈ ds.tgts, g.length = 1 := by
  obtain ⟨h1, h2, h3⟩ := hw.shaped
  obtain ⟨hl, -⟩ := intoSingleTarget_eq_some h
  rw [flatten_length_uniform ds.tgts _ h2, DS.n, ← h3] at hl
  intro g hg
  rw [h2 g hg]
  exact Nat.eq_of_mul_eq_mul_left (List.length_pos_of_mem hg) (hl.trans (Nat.mul_one _).symm)

/-- one case analysis over `Op` for the three things the property says of a returned dataset; only the two
raw-buffer operations need something (the matrix shape, `[n, 1]` targets) for the alignment, and none for the counts -/
theorem apply_sound [DecidableEq T] {ofBool : Bool → T} {op : Op T} {ds : DS R T W} {outs : List (DS R T W)}
    (h : apply ofBool op ds = some outs) {d : DS R T W} (hd : d ∈ outs) :
    ((∀ std n1, op = .splitOwned std n1 → Shaped ds) → (op = .intoSingleTarget → ∀ g ∈ ds.tgts, g.length = 1) →
      Aligned ds d) ∧ (WF ds → WF d) ∧ CountsOk d := by
  have pack {ρ γ τ f} {P Q : Prop} (s : Sound ρ γ τ f ds d) : (P → Q → Aligned ds d) ∧ (WF ds → WF d) ∧ CountsOk d :=
    ⟨fun _ _ => ⟨_, _, _, _, s.aligned⟩, s.wf, s.counts⟩
  cases op with
  | splitView n1 =>
    obtain ⟨a, b, hs, hab⟩ := mem_of_map_pair h hd
    rcases hab with rfl | rfl
    · exact pack (splitView_sound hs).1
    · exact pack (splitView_sound hs).2
  | splitOwned std n1 =>
    -- only plain array targets have the owned split
    obtain ⟨hc, h⟩ := Option.ite_none_left_eq_some.mp h
    replace hc : ds.counts = none := Option.not_isSome_iff_eq_none.mp hc
    obtain ⟨a, b, hs, hab⟩ := mem_of_map_pair h hd
    have hcnt : CountsOk d := by
      obtain ⟨-, -, rfl, rfl⟩ := splitOwned_eq_some hs
      rcases hab with rfl | rfl <;> exact recount_ok (b := false) hc
    rcases hab with rfl | rfl
    · exact ⟨fun hr _ => ⟨_, _, _, _, (splitOwned_rows (hr _ _ rfl) hs).1.1⟩, fun hw => (splitOwned_rows hw.shaped hs).1.2 hw, hcnt⟩
    · exact ⟨fun hr _ => ⟨_, _, _, _, (splitOwned_rows (hr _ _ rfl) hs).2.1⟩, fun hw => (splitOwned_rows hw.shaped hs).2.2 hw, hcnt⟩
  | shuffle idx => exact pack (shuffle_sound (mem_of_map_single h hd))
  | bootstrap ns nf idx fidx => exact pack (bootstrap_sound (mem_of_map_single h hd))
  | bootstrapSamples ns idx => exact pack (bootstrapSamples_sound (mem_of_map_single h hd))
  | bootstrapFeatures nf fidx => exact pack (bootstrapFeatures_sound (mem_of_map_single h hd))
  | withLabels labs => exact pack (withLabels_sound (mem_of_map_single h hd))
  | oneVsAll =>
    cases h
    obtain ⟨⟨l, d0⟩, hl, rfl⟩ := List.mem_map.mp hd
    exact pack (oneVsAll_sound ofBool hl)
  | mapTargets f => cases mem_of_map_single (o := some _) h hd; exact pack (mapTargets_sound f ds)
  | view => cases mem_of_map_single (o := some _) h hd; exact pack (view_sound ds)
  | toOwned => cases mem_of_map_single (o := some _) h hd; exact pack (toOwned_sound ds)
  | intoSingleTarget =>
    have hs := mem_of_map_single h hd
    refine ⟨fun _ hr => ⟨_, _, _, _, (intoSingleTarget_sound (hr rfl) hs).aligned⟩,
      fun hw => (intoSingleTarget_sound (singletons_of_wf hw hs) hs).wf hw, ?_⟩
    obtain ⟨-, rfl⟩ := intoSingleTarget_eq_some hs
    exact recount_ok (b := false) rfl
  | featureIter =>
    obtain ⟨j, hj⟩ := List.getElem?_of_mem hd
    obtain ⟨ha, hw, hc⟩ := featureIter_spec h j d hj
    exact pack ⟨ha, hw, recount_ok (b := false) hc⟩
  | targetIter =>
    obtain ⟨c, hc⟩ := List.getElem?_of_mem hd
    obtain ⟨ha, hw, hc⟩ := targetIter_spec h c d hc
    exact pack ⟨ha, hw, recount_ok (b := false) hc⟩
  | sampleChunks size => obtain ⟨i, hi⟩ := List.getElem?_of_mem hd; exact pack (sampleChunks_sound h i d hi)

/-! ### the guard -/

/-- the index vectors the RNG hands out lie in range (`gen_range(0..n)`, a shuffled `0..n`) -/
def InRange (idx : List Nat) (n : Nat) : Prop := ∀ i ∈ idx, i < n

/-- **the guard of an operation**: the inputs for which the property promises a result.  Everything
else is a documented panic (layout of the owned split, `[n, 1]` shape for `into_single_target`),
an empty range handed to the RNG, a split point past the last sample, or a zero chunk size. -/
def Guard (op : Op T) (ds : DS R T W) : Prop :=
  match op with
  | .splitView n1 => n1 ≤ ds.n
  | .splitOwned std n1 => std = true ∧ ds.counts = none ∧ n1 ≤ ds.n
  | .shuffle idx => InRange idx ds.n
  | .bootstrap ns nf idx fidx => (ns = 0 ∨ 0 < ds.n) ∧ (nf = 0 ∨ 0 < ds.p) ∧ InRange idx ds.n ∧ InRange fidx ds.p
  | .bootstrapSamples ns idx => (ns = 0 ∨ 0 < ds.n) ∧ InRange idx ds.n
  | .bootstrapFeatures nf fidx => (nf = 0 ∨ 0 < ds.p) ∧ InRange fidx ds.p
  | .intoSingleTarget => ds.t = 1
  | .sampleChunks size => 0 < size
  -- `weight[i]` of the kept rows: no weights, or at least one per sample (always so under `WF`;
  -- `with_weights` accepts shorter vectors, for which nothing is promised)
  | .withLabels _ => ds.weights.length = 0 ∨ ds.n ≤ ds.weights.length
  | _ => True

end LinfaSpec.Dataset
