import LinfaSpec.Proofs.IncrementalNb

/-!
C15, multinomial naive Bayes: feature counts are additive over row blocks and the log-frequencies a
function of the counts; one `fit_with` call seen from one class (absent from the batch / new / already
stored); hence what every class holds after every history; keys, counts and priors.
-/
namespace LinfaSpec.Incremental
open LinfaSpec


section Field
variable {α : Type} [Field α]

/-- multinomial feature counts are additive over row blocks -/
theorem colsum_append (p : Nat) (r1 r2 : List (List α)) :
    List.zipWith (· + ·) ((columns p r1).map sumS) ((columns p r2).map sumS) =
      (columns p (r1 ++ r2)).map sumS := by
  simp only [columns, List.map_map, List.zipWith_map_left, List.zipWith_map_right, List.zipWith_self]
  exact List.map_congr_left fun j _ => by simp only [Function.comp, column_append, sumS_append]

/-- what the property is about: count, feature counts, log-frequencies -/
def mProj (i : MInfo α) : Nat × List α × List α := (i.count, i.fcount, i.flogp)

/-- textbook statistics of class `c` in the data `d` (`none` if the class does not occur) -/
def mnbStats [Transc α] (a : α) (p : Nat) (d : Batch α) (c : Nat) : Option (Nat × List α × List α) :=
  if rowsOf c d = [] then none
  else some ((rowsOf c d).length, (columns p (rowsOf c d)).map sumS,
    mnbLogProb a ((columns p (rowsOf c d)).map sumS))

/-- the update of one class inside the class loop -/
def mnbF [Transc α] (a : α) (p : Nat) (b : Batch α) (k : Nat) (o : Option (MInfo α)) : MInfo α :=
  let info := o.getD MInfo.default
  let r := mnbUpdateClass a info (columns p (rowsOf k b)) (rowsOf k b).length
  { info with flogp := r.1, fcount := r.2, count := info.count + (rowsOf k b).length }

theorem mnbClassLoop_eq [Transc α] (a : α) (p : Nat) (b : Batch α) (st : MState α) :
    mnbClassLoop a p b st =
      (labelsOf b).foldl (fun s k => upsert k (mnbF a p b k (lookup k s)) s) st := rfl

/-- first appearance of a class: with `count = 0` the stored (empty) feature counts are not zipped in -/
theorem mnbUpdateClass_fresh [Transc α] (a : α) (info : MInfo α) (h : info.count = 0)
    (cols : List (List α)) (nrows : Nat) (hn : nrows ≠ 0) :
    mnbUpdateClass a info cols nrows = (mnbLogProb a (cols.map sumS), cols.map sumS) := by
  simp only [mnbUpdateClass, hn, h, Nat.lt_irrefl, if_false]

/-- a class holding the feature counts of the rows `r1` that receives the non-empty block `r2` ends
with the counts of `r1 ++ r2` and the log-frequencies of those (`r1 = []`: first appearance) -/
theorem mnbUpdateClass_replay [Transc α] (a pr : α) (lp : List α) (p : Nat) (r1 r2 : List (List α))
    (h2 : r2 ≠ []) :
    mnbUpdateClass a ⟨r1.length, pr, (columns p r1).map sumS, lp⟩ (columns p r2) r2.length =
      (mnbLogProb a ((columns p (r1 ++ r2)).map sumS), (columns p (r1 ++ r2)).map sumS) := by
  have h2' : r2.length ≠ 0 := mt List.eq_nil_of_length_eq_zero h2
  unfold mnbUpdateClass
  simp only [h2', if_false]
  by_cases h1 : 0 < r1.length
  · simp only [h1, if_true, colsum_append]
  · obtain rfl := List.eq_nil_of_length_eq_zero (Nat.eq_zero_of_not_pos h1)
    rfl

/-! ### one `fit_with` call, seen from one class -/

theorem lookup_mnbStep [Transc α] (a : α) (p : Nat) (st : MState α) (b : Batch α) (c : Nat) :
    (lookup c (mnbStep a p st b)).map mProj =
      (if rowsOf c b = [] then lookup c st else some (mnbF a p b c (lookup c st))).map mProj := by
  simp only [mnbStep, mnbPriors, lookup_mapVals, mnbClassLoop_eq, lookup_classLoop, Option.map_map]
  rfl

theorem mnbStep_absent_class [Transc α] (a : α) (p : Nat) (st : MState α) (b : Batch α) (c : Nat)
    (hb : rowsOf c b = []) :
    (lookup c (mnbStep a p st b)).map mProj = (lookup c st).map mProj := by
  rw [lookup_mnbStep, if_pos hb]

/-- a class that is stored with the feature counts of the rows `r1` (`r1 = []`, `o = none`: a class the
batch introduces) and has rows in the batch -/
theorem mnbStep_present_class [Transc α] (a : α) (p : Nat) (st : MState α) (b : Batch α) (c : Nat)
    (r1 : List (List α)) (lp : List α)
    (ho : (lookup c st).map mProj = if r1 = [] then none
      else some (r1.length, (columns p r1).map sumS, lp)) (hb : rowsOf c b ≠ []) :
    (lookup c (mnbStep a p st b)).map mProj =
      some (r1.length + (rowsOf c b).length, (columns p (r1 ++ rowsOf c b)).map sumS,
        mnbLogProb a ((columns p (r1 ++ rowsOf c b)).map sumS)) := by
  rw [lookup_mnbStep, if_neg hb]
  by_cases h1 : r1 = []
  · subst h1
    rw [if_pos rfl, Option.map_eq_none_iff] at ho
    simp only [ho, Option.map_some, mnbF, Option.getD_none, mProj,
      mnbUpdateClass_fresh a MInfo.default rfl _ _ (mt List.eq_nil_of_length_eq_zero hb)]
    rfl
  · rw [if_neg h1] at ho
    obtain ⟨⟨cnt, pr, fc, fl⟩, hi, hproj⟩ := Option.map_eq_some_iff.mp ho
    obtain ⟨rfl, rfl, rfl⟩ : cnt = _ ∧ fc = _ ∧ fl = _ := by simpa [mProj] using hproj
    simp only [hi, Option.map_some, mnbF, Option.getD_some, mProj,
      mnbUpdateClass_replay a pr _ p r1 (rowsOf c b) hb]

/-! ### every history -/

theorem mnbStep_invariant [Transc α] (a : α) (p : Nat) (st : MState α) (d b : Batch α)
    (H : ∀ c, (lookup c st).map mProj = mnbStats a p d c) (c : Nat) :
    (lookup c (mnbStep a p st b)).map mProj = mnbStats a p (d ++ b) c := by
  rw [mnbStats, rowsOf_append]
  by_cases hb : rowsOf c b = []
  · rw [mnbStep_absent_class a p st b c hb, H c, mnbStats, hb, List.append_nil]
  · rw [if_neg (fun h => hb (List.append_eq_nil_iff.mp h).2), List.length_append]
    exact mnbStep_present_class a p st b c (rowsOf c d) _ (H c) hb

/-! ### keys, counts and priors -/

theorem mnbStep_keys_nodup [Transc α] (a : α) (p : Nat) (st : MState α) (b : Batch α)
    (h : (keys st).Nodup) : (keys (mnbStep a p st b)).Nodup := by
  simp only [mnbStep, mnbPriors, keys_mapVals, mnbClassLoop_eq]
  exact nodup_keys_foldl_upsert (fun s k => mnbF a p b k (lookup k s)) _ _ h

theorem mnbRun_keys_nodup [Transc α] (a : α) (p : Nat) (hist : List (Batch α)) :
    (keys (mnbRun a p hist)).Nodup :=
  foldl_history (mnbStep a p) [] (fun _ st => (keys st).Nodup) List.nodup_nil
    (fun _ st b h => mnbStep_keys_nodup a p st b h) hist

/-- sum of the stored class counts -/
def mnbTotal (st : MState α) : Nat := tot MInfo.count st

section
omit [Field α]

theorem mnbTotal_eq_foldl (st : MState α) :
    mnbTotal st = (st.map fun ci => ci.2.count).foldl (fun (a b : Nat) => a + b) 0 := by
  simp [mnbTotal, tot, List.sum_eq_foldl]

end

theorem mnbF_count [Transc α] (a : α) (p : Nat) (b : Batch α) (k : Nat) (o : Option (MInfo α)) :
    (mnbF a p b k o).count = (o.map MInfo.count).getD 0 + (rowsOf k b).length := by
  cases o <;> rfl

theorem mnbStep_total [Transc α] (a : α) (p : Nat) (st : MState α) (b : Batch α) :
    mnbTotal (mnbStep a p st b) = mnbTotal st + b.length := by
  simp only [mnbStep, mnbPriors, mnbTotal]
  refine (tot_mapVals MInfo.count MInfo.count _ (fun _ => ?_) _).trans ?_
  · rfl
  rw [mnbClassLoop_eq, tot_classLoop MInfo.count (mnbF a p b) b (mnbF_count a p b)]

theorem mnbRun_total [Transc α] (a : α) (p : Nat) (hist : List (Batch α)) :
    mnbTotal (mnbRun a p hist) = hist.flatten.length :=
  foldl_history (mnbStep a p) [] (fun past st => mnbTotal st = past.flatten.length) rfl
    (fun past st b h => by
      rw [mnbStep_total, h, List.flatten_append, List.flatten_singleton, List.length_append]) hist

theorem mnbStep_prior [Transc α] (a : α) (p : Nat) (st : MState α) (b : Batch α) (c : Nat)
    (i : MInfo α) (h : lookup c (mnbStep a p st b) = some i) :
    i.prior = (i.count : α) / ((mnbTotal (mnbStep a p st b) : Nat) : α) := by
  rw [mnbTotal_eq_foldl]
  simp only [mnbStep, mnbPriors, lookup_mapVals] at h ⊢
  obtain ⟨j, _, rfl⟩ := Option.map_eq_some_iff.mp h
  simp only [mapVals, List.map_map, Function.comp_def]

theorem mnbRun_prior [Transc α] (a : α) (p : Nat) (hist : List (Batch α)) (c : Nat) (i : MInfo α)
    (h : lookup c (mnbRun a p hist) = some i) :
    i.prior = (i.count : α) / (hist.flatten.length : α) := by
  rcases List.eq_nil_or_concat hist with rfl | ⟨h', b, rfl⟩
  · exact nomatch h
  · rw [← mnbRun_total a p]
    rw [List.concat_eq_append, mnbRun, List.foldl_append] at h ⊢
    exact mnbStep_prior a p _ b c i h

end Field
end LinfaSpec.Incremental
